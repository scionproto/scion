import Scion.Proofs.AddrDigits
/-! What the service-name and AS parsers of `Scion.Model.Addr` accept; and that `parseAS` reads back
the text `fmtAS` prints, for every separator string with a non-digit character. -/
namespace Scion.Addr

theorem parseUint_lt {b bits : Nat} (hb : 1 ≤ b) {s : Str} {v : Nat}
    (h : parseUint b bits s = .ok v) : v < 2 ^ bits :=
  ((parseUint_ok_iff b bits hb s v).1 h).2.2.2

theorem parseUint_error_of_not_ok (b bits : Nat) (s : Str) (h : ∀ v, parseUint b bits s ≠ .ok v) :
    ∃ e, parseUint b bits s = .error e := by
  cases hr : parseUint b bits s with
  | ok v => exact absurd hr (h v)
  | error e => exact ⟨e, rfl⟩

/-! ### service names -/

theorem trimSuffix?_some (suf s t : Str) (h : trimSuffix? suf s = some t) : s = t ++ suf := by
  unfold trimSuffix? at h
  split at h
  · rename_i hs
    cases h
    rw [List.isSuffixOf_iff_suffix] at hs
    obtain ⟨t', rfl⟩ := hs
    simp
  · cases h

theorem parseSVCBase_ok (m : Nat) (s : Str) (v : Nat) (h : parseSVCBase m s = .ok v) :
    ∃ base, (s = nameDS ∧ base = svcDS ∨ s = nameCS ∧ base = svcCS ∨
      s = nameWildcard ∧ base = svcWildcard) ∧ v = base + m := by
  unfold parseSVCBase at h
  split at h
  · cases h; exact ⟨_, .inl ⟨‹_›, rfl⟩, rfl⟩
  · split at h
    · cases h; exact ⟨_, .inr (.inl ⟨‹_›, rfl⟩), rfl⟩
    · split at h
      · cases h; exact ⟨_, .inr (.inr ⟨‹_›, rfl⟩), rfl⟩
      · cases h

/-- `ParseSVC` has a single error -/
theorem parseSVC_error (s : Str) (e : PErr) (h : parseSVC s = .error e) : e = .form := by
  have base : ∀ m t, parseSVCBase m t = .error e → e = .form := by
    intro m t h
    unfold parseSVCBase at h
    repeat' split at h
    all_goals cases h
    rfl
  unfold parseSVC at h
  repeat' split at h
  all_goals exact base _ _ h

theorem svcBase_eq (h b : Nat) (hb : 0 < b) (e : svcBase h = b) : h = b ∨ h = b + svcMcast := by
  unfold svcBase at e
  split at e
  · exact .inr (by omega)
  · exact .inl e

/-! ### the AS text -/

theorem parseAS_ok (sep s : Str) (v : Nat) : parseAS sep s = .ok v ↔
    (∃ p, split sep s = [p] ∧ parseUint 10 32 s = .ok v) ∨
    ∃ a b d x y z, split sep s = [a, b, d] ∧ parseUint 16 16 a = .ok x ∧
      parseUint 16 16 b = .ok y ∧ parseUint 16 16 d = .ok z ∧
      v = (x * 2 ^ 16 + y) * 2 ^ 16 + z := by
  constructor
  · intro h
    unfold parseAS at h
    split at h
    · exact .inl ⟨_, ‹_›, h⟩
    · iterate 3
        split at h
        · cases h
      dsimp only at h
      split at h <;> cases h
      exact .inr ⟨_, _, _, _, _, _, ‹_›, ‹_›, ‹_›, ‹_›, rfl⟩
    · cases h
  · rintro (⟨p, hp, hv⟩ | ⟨a, b, d, x, y, z, hp, hx, hy, hz, rfl⟩) <;> unfold parseAS <;> rw [hp]
    · exact hv
    · have := parseUint_lt (by omega) hx
      have := parseUint_lt (by omega) hy
      have := parseUint_lt (by omega) hz
      have h1 : ¬ maxAS < (x * 2 ^ 16 + y) * 2 ^ 16 + z := by simp only [maxAS]; omega
      simp only [asPartBase, asPartBits, hx, hy, hz, h1, if_false]

theorem parseAS_lt (sep s : Str) (v : Nat) (h : parseAS sep s = .ok v) : v < 2 ^ 48 := by
  rcases (parseAS_ok sep s v).1 h with ⟨_, _, hv⟩ | ⟨a, b, d, x, y, z, _, hx, hy, hz, rfl⟩
  · have := parseUint_lt (by omega) hv
    omega
  · have := parseUint_lt (by omega) hx
    have := parseUint_lt (by omega) hy
    have := parseUint_lt (by omega) hz
    omega

theorem fmtAS_cases (sep : Str) (as : Nat) (h : as < 2 ^ 48) :
    as < 2 ^ 32 ∧ fmtAS sep as = toDigits 10 as ∨
    2 ^ 32 ≤ as ∧ fmtAS sep as = toDigits 16 (as / 2 ^ 32 % 2 ^ 16) ++ sep ++
      toDigits 16 (as / 2 ^ 16 % 2 ^ 16) ++ sep ++ toDigits 16 (as % 2 ^ 16) := by
  have h1 : ¬ maxAS < as := Nat.not_lt.2 (Nat.le_pred_of_lt h)
  unfold fmtAS
  rw [if_neg h1]
  by_cases h2 : as < 2 ^ 32
  · exact .inl ⟨h2, if_pos (Nat.le_pred_of_lt h2)⟩
  · exact .inr ⟨Nat.not_lt.1 h2, if_neg fun h3 => h2 (Nat.lt_of_le_pred (Nat.two_pow_pos 32) h3)⟩

theorem mem_fmtAS (sep : Str) (as : Nat) (h : as < 2 ^ 48) (c : Char) (hc : c ∈ fmtAS sep as) :
    IsDigitChar c ∨ c ∈ sep := by
  have dec := toDigits_isDigitChar 10 (by omega) (by omega)
  have hex := toDigits_isDigitChar 16 (by omega) (by omega)
  rcases fmtAS_cases sep as h with ⟨_, e⟩ | ⟨_, e⟩ <;> rw [e] at hc
  · exact .inl (dec _ c hc)
  · simp only [List.mem_append] at hc
    rcases hc with (((hc | hc) | hc) | hc) | hc
    · exact .inl (hex _ c hc)
    · exact .inr hc
    · exact .inl (hex _ c hc)
    · exact .inr hc
    · exact .inl (hex _ c hc)

/-- `IA.String()` prints digits, '-' and ':' only -/
theorem notin_fmtIA (ia : Nat) (c : Char) (h : c.isAlphanum = false) (h1 : c ≠ '-') (h2 : c ≠ ':') :
    c ∉ fmtIA ia := by
  have hd := not_isDigitChar c h
  unfold fmtIA fmtISD
  simp only [List.mem_append, List.mem_singleton, not_or]
  exact ⟨⟨notin_toDigits c hd 10 (by omega) (by omega) _, h1⟩, fun hm =>
    (mem_fmtAS _ _ (Nat.mod_lt _ (by omega)) c hm).elim hd fun hm => h2 (List.mem_singleton.1 hm)⟩

/-- **AS round trip** for a separator string of any length containing a character that is not
    one of the sixteen digit characters: `strings.Split` cuts where the formatter joined -/
theorem parseAS_fmtAS (sep : Str) (hX : ∃ c ∈ sep, ¬ IsDigitChar c) (as : Nat)
    (h : as < 2 ^ 48) : parseAS sep (fmtAS sep as) = .ok as := by
  have hex := toDigits_isDigitChar 16 (by omega) (by omega)
  have grp := fun n => parseUint_toDigits 16 16 (n % 2 ^ 16) (by omega) (by omega)
    (Nat.mod_lt _ (by omega))
  rw [parseAS_ok]
  rcases fmtAS_cases sep as h with ⟨hlt, e⟩ | ⟨hge, e⟩ <;> rw [e]
  · exact .inl ⟨_, split_notin IsDigitChar sep hX _ (toDigits_isDigitChar 10 (by omega) (by omega) as),
      parseUint_toDigits 10 32 as (by omega) (by omega) hlt⟩
  · refine .inr ⟨_, _, _, _, _, _, ?_, grp (as / 2 ^ 32), grp (as / 2 ^ 16), grp as, by omega⟩
    simp only [List.append_assoc]
    rw [split_append _ sep hX _ _ (hex _), split_append _ sep hX _ _ (hex _),
      split_notin _ sep hX _ (hex _)]

theorem colon_sep : ∃ c ∈ [':'], ¬ IsDigitChar c :=
  ⟨':', List.mem_singleton_self _, not_isDigitChar ':' rfl⟩

theorem fmtAS_inj (sep : Str) (hX : ∃ c ∈ sep, ¬ IsDigitChar c) (m n : Nat) (hm : m < 2 ^ 48)
    (hn : n < 2 ^ 48) (h : fmtAS sep m = fmtAS sep n) : m = n := by
  have h1 := parseAS_fmtAS sep hX m hm
  rw [h, parseAS_fmtAS sep hX n hn] at h1
  cases h1; rfl

/-! ### ISD-AS and options -/

/-- `FormatIA` joins the formatted ISD and the formatted AS by '-' -/
theorem formatIA_eq (o : Opts) (ia : Nat) :
    formatIA o ia = formatISD o (iaISD ia) ++ '-' :: formatAS o (iaAS ia) := by
  unfold formatIA formatISD formatAS
  cases o.pfx <;> simp

theorem iaFrom_parts (ia : Nat) : iaFrom (iaISD ia) (iaAS ia) = ia := by
  unfold iaFrom iaISD iaAS
  rw [Nat.mod_mod, Nat.mul_comm]
  exact Nat.div_add_mod ia _

theorem mkOpts_cons (p : Bool) (x : Char) (xs : Str) :
    mkOpts p (some (x :: xs)) = ⟨p, x :: xs⟩ := by
  cases p <;> rfl

end Scion.Addr
