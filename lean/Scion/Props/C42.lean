import Scion.Proofs.GwRouting
import Scion.Proofs.GwPolicyText
import Scion.Gen.Gateway
/-!
# C42 — Gateway routing picks the most specific prefix and applies policies in order

Property theorems only; helper lemmas are in `Scion.Proofs.GwRouting`.  The model
(`Scion.Model.GwRouting`) is tied to `gateway/dataplane` (`RoutingTable`, `IPForwarder`) and
`gateway/routing` (`Policy`, `AdvertiseList`, text form) by `harness/cmd/gwrouting`.
-/
namespace Scion.C42
open Scion.GwRouting

variable {C P : Type}

/-! ## Routing table -/

/-- the table has distinct prefixes: entries that denote the same network are the same entry -/
def Distinct (tbl : List (Entry C)) : Prop :=
  ∀ e₁ ∈ tbl, ∀ e₂ ∈ tbl, e₁.pfx.same e₂.pfx = true → e₁ = e₂

def MostSpecific (tbl : List (Entry C)) (dst : Addr) (e : Entry C) : Prop :=
  e ∈ tbl ∧ e.pfx.contains dst = true ∧
    ∀ e' ∈ tbl, e'.pfx.contains dst = true → e'.pfx.len ≤ e.pfx.len

/-- `entry.route` hands out the session of the FIRST traffic class that matches (none if no class
matches or that class has no session) -/
theorem entryRoute_first_match (ev : C → Bool) (t : List (SubEntry C)) :
    entryRoute ev t =
      match t.find? (fun s => ev s.cls) with
      | some s => s.sess
      | none => none := by
  induction t with
  | nil => rfl
  | cons s ss ih =>
    simp only [entryRoute, List.find?_cons]
    cases h : ev s.cls
    · simpa using ih
    · simp

theorem entryRoute_some_iff (ev : C → Bool) (t : List (SubEntry C)) (s : Nat) :
    entryRoute ev t = some s ↔
      ∃ pre se post, t = pre ++ se :: post ∧ (∀ x ∈ pre, ev x.cls = false) ∧
        ev se.cls = true ∧ se.sess = some s := by
  rw [entryRoute_first_match]
  refine Iff.trans ?_ (Proofs.GwRouting.find?_bind_some_iff (fun x => ev x.cls) (·.sess) t s)
  cases t.find? fun x => ev x.cls <;> rfl

/-- no configured prefix contains the destination ⇒ no session -/
theorem route_no_prefix (ev : C → Bool) (tbl : List (Entry C)) (dst : Addr)
    (h : ∀ e ∈ tbl, e.pfx.contains dst = false) : route ev tbl dst = none :=
  Proofs.GwRouting.route_no_prefix ev tbl dst h

/-- with distinct prefixes the decision is the one of the most specific prefix containing the
destination (and of nothing else: a less specific prefix is never consulted as a fall-back) -/
theorem route_most_specific (ev : C → Bool) (tbl : List (Entry C)) (dst : Addr) (e : Entry C)
    (hd : Distinct tbl) (hm : MostSpecific tbl dst e) :
    route ev tbl dst = entryRoute ev e.table :=
  Proofs.GwRouting.route_most_specific ev tbl dst e hd hm.1 hm.2.1 hm.2.2

theorem mostSpecific_exists (tbl : List (Entry C)) (dst : Addr)
    (h : ∃ e ∈ tbl, e.pfx.contains dst = true) : ∃ e, MostSpecific tbl dst e := by
  -- the routing loop itself finds an entry of greatest mask length among those containing `dst`;
  -- which session it picks up on the way does not matter here, hence the constant evaluation
  obtain ⟨r, _, hb⟩ := Proofs.GwRouting.route_best (fun _ : C => true) dst tbl
  cases r with
  | none => obtain ⟨e, he, hc⟩ := h; exact absurd hc (hb e he)
  | some e0 => exact ⟨e0, hb⟩

/-- **Routing clause of C42.**  For a table with distinct prefixes `route` returns session `s`
iff the most specific prefix containing the destination exists and the first of its traffic
classes that matches the packet carries session `s`. -/
theorem route_spec (ev : C → Bool) (tbl : List (Entry C)) (dst : Addr) (s : Nat)
    (hd : Distinct tbl) :
    route ev tbl dst = some s ↔
      ∃ e, MostSpecific tbl dst e ∧
        ∃ pre se post, e.table = pre ++ se :: post ∧ (∀ x ∈ pre, ev x.cls = false) ∧
          ev se.cls = true ∧ se.sess = some s := by
  constructor
  · intro h
    by_cases hc : ∃ e ∈ tbl, e.pfx.contains dst = true
    · obtain ⟨e, he⟩ := mostSpecific_exists tbl dst hc
      refine ⟨e, he, ?_⟩
      rw [route_most_specific ev tbl dst e hd he] at h
      exact (entryRoute_some_iff ev e.table s).1 h
    · rw [route_no_prefix ev tbl dst fun e he => Bool.eq_false_iff.2 fun hh => hc ⟨e, he, hh⟩] at h
      cases h
  · rintro ⟨e, he, hx⟩
    rw [route_most_specific ev tbl dst e hd he]
    exact (entryRoute_some_iff ev e.table s).2 hx

/-- **Forwarder clause of C42.**  A packet from the local network is handed to session `s` iff
it decoded, is not an IPv4 fragment, and the routing table returns `s` for its destination;
otherwise it is dropped (as invalid, fragment or no-route). -/
theorem forward_spec (ev : C → P → Bool) (tbl : List (Entry C)) (i : Input P) (s : Nat) :
    forward ev tbl i = .session s ↔
      (∃ dst pkt, i = .v4 dst false pkt ∧ route (fun c => ev c pkt) tbl ⟨.v4, dst⟩ = some s) ∨
      (∃ dst pkt, i = .v6 dst pkt ∧ route (fun c => ev c pkt) tbl ⟨.v6, dst⟩ = some s) :=
  Proofs.GwRouting.forward_spec ev tbl i s

/-- IPv4 fragments are never forwarded -/
theorem forward_fragment (ev : C → P → Bool) (tbl : List (Entry C)) (dst : Nat) (pkt : P) :
    forward ev tbl (.v4 dst true pkt) = .fragment := rfl

/-! ## Routing policy -/

def Decisive (src dst : IA) (a : Addr) (r : Rule) : Bool :=
  (r.action == .accept || r.action == .reject) &&
    r.src.matches src && r.dst.matches dst && r.network.mem a

def firstDecision (src dst : IA) (a : Addr) : List Rule → Option Bool
  | [] => none
  | r :: rs =>
    if Decisive src dst a r then some (r.action == .accept) else firstDecision src dst a rs

/-- One step of the add/remove construction: a decisive rule overwrites the membership computed
from the rules after it, any other rule leaves it alone — which is why walking the rules from the
last to the first ends with the verdict of the first decisive one. -/
theorem applyRule_eq (src dst : IA) (a : Addr) (r : Rule) (acc : Bool) :
    applyRule src dst a r acc = if Decisive src dst a r then r.action == .accept else acc := by
  unfold applyRule Decisive
  cases r.action <;> cases r.src.matches src <;> cases r.dst.matches dst <;>
    cases r.network.mem a <;> cases acc <;> rfl

/-- **Policy clause of C42.**  The right-to-left add/remove construction of `Policy.Match`
accepts exactly the addresses of the query prefix for which the first decisive rule accepts —
or, if no rule is decisive, the default action is accept. -/
theorem policy_match_first_rule (p : Policy) (src dst : IA) (q : Prefix) (a : Addr) :
    p.matchMem src dst q a =
      (q.contains a &&
        match firstDecision src dst a p.rules with
        | some b => b
        | none => p.dflt == .accept) := by
  unfold Policy.matchMem
  rw [Bool.and_comm]
  congr 1
  generalize p.rules = rs
  induction rs with
  | nil => rfl
  | cons r rs ih =>
    simp only [List.foldr_cons, firstDecision, applyRule_eq, ih]
    split <;> rfl

theorem firstDecision_some_iff (src dst : IA) (a : Addr) (rs : List Rule) (b : Bool) :
    firstDecision src dst a rs = some b ↔
      ∃ pre r post, rs = pre ++ r :: post ∧ (∀ x ∈ pre, Decisive src dst a x = false) ∧
        Decisive src dst a r = true ∧ b = (r.action == .accept) := by
  have h : firstDecision src dst a rs =
      (rs.find? (Decisive src dst a)).bind fun r => some (r.action == .accept) := by
    induction rs with
    | nil => rfl
    | cons r rs ih =>
      simp only [firstDecision, List.find?_cons, ih]
      cases Decisive src dst a r <;> rfl
  simp only [h, Proofs.GwRouting.find?_bind_some_iff, Option.some.injEq, eq_comm (b := b)]

theorem firstDecision_none_iff (src dst : IA) (a : Addr) (rs : List Rule) :
    firstDecision src dst a rs = none ↔ ∀ x ∈ rs, Decisive src dst a x = false := by
  induction rs with
  | nil => simp [firstDecision]
  | cons r rs ih =>
    simp only [firstDecision, List.mem_cons, forall_eq_or_imp]
    cases h : Decisive src dst a r <;> simp [ih]

/-- `AdvertiseList` returns, in rule order, the networks of the non-negated advertise rules whose
matchers match the ISD-AS pair — and nothing else -/
theorem advertise_spec (p : Policy) (src dst : IA) (x : Prefix) :
    x ∈ advertiseList p src dst ↔
      ∃ r ∈ p.rules, r.action = .advertise ∧ r.src.matches src = true ∧
        r.dst.matches dst = true ∧ r.network.negated = false ∧ x ∈ r.network.allowed := by
  unfold advertiseList
  simp only [List.mem_flatMap]
  refine exists_congr fun r => and_congr_right fun _ => ?_
  simp [and_assoc]

/-- the zero ISD-AS is a wildcard -/
theorem wildcard_matches_all (ia : IA) : (IAMatcher.single ⟨0, 0⟩).matches ia = true := by
  simp [IAMatcher.matches]

/-! ## Text form -/

section Text
open Scion.GwPolicyText Scion.Proofs.GwPolicyText

/-- **Text clause of C42.**  For every policy the text form can express (`ruleOK`: atoms are
words, a flag for the negation, non-empty network lists, a next hop only on advertise rules,
single-line comments without leading/trailing blank — the generator-guarded class of DESIGN §7a)
`UnmarshalText (MarshalText p)` yields exactly the rules of `p`: action, both ISD-AS matchers,
the network list with its negation, next hop and comment — hence the same decisions and the same
advertised prefixes (which depend on action, matchers and networks only).  The line format
(tabwriter column alignment with padding 4, `# comment`, trailing blanks stripped; `bytes.Fields`,
first `#`, `!`, `,`) is modelled; the atoms' own codecs (`addr.IA`, `netip.Prefix`, `net.IP`) are
opaque words and tied by T1, where the real `MarshalText` output is compared with `marshal`
byte for byte. -/
theorem policy_text_roundtrip (rs : List TRule) (h : ∀ r ∈ rs, ruleOK r = true) :
    unmarshal (marshal rs) = some rs := by
  unfold unmarshal marshal
  have hl : (rs.map fun r => trimRight (printLine (colWidth rs) r) ++ ['\n']) =
      (rs.map fun r => trimRight (printLine (colWidth rs) r)).map fun l => l ++ ['\n'] := by
    simp [List.map_map]
  rw [hl, splitLines_lines]
  · apply parseAll_map
    intro r hr
    exact (parseRule_printLine _ r (ruleFacts r (h r hr)) (widthsOK_col rs r hr)).1
  · intro l hl' x hx
    obtain ⟨r, hr, rfl⟩ := List.mem_map.1 hl'
    have := (parseRule_printLine _ r (ruleFacts r (h r hr)) (widthsOK_col rs r hr)).2 x hx
    exact printable_facts x this

/-- every printed line has the five columns in order, whatever the column widths -/
theorem policy_line_roundtrip (w : Nat → Nat) (r : TRule) (h : ruleOK r = true)
    (hw : WidthsOK w r) : parseRule (trimRight (printLine w r)) = some r :=
  (parseRule_printLine w r (ruleFacts r h) hw).1

private def tr1 : TRule :=
  ⟨.accept, false, "1-ff00:0:110".toList, true, "0-0".toList, true,
    ["10.0.0.0/8".toList, "::/0".toList], [], "hello # x".toList⟩
private def tr2 : TRule :=
  ⟨.advertise, false, "0-0".toList, false, "2-0".toList, false, ["1.2.3.4/32".toList],
    "10.0.0.1".toList, []⟩

private theorem tr_ok : ruleOK tr1 = true ∧ ruleOK tr2 = true := by decide +kernel

example : ruleOK tr1 = true ∧ ruleOK tr2 = true := tr_ok
example : unmarshal (marshal [tr1, tr2]) = some [tr1, tr2] :=
  policy_text_roundtrip _ (List.forall_mem_cons.2 ⟨tr_ok.1, List.forall_mem_cons.2 ⟨tr_ok.2, nofun⟩⟩)

end Text

/-- facts regenerated from the source: the numbering of `routing.Action` used by the harness
and the gateway constants -/
theorem gen_consts :
    Scion.Gen.Gateway.UnknownAction = 0 ∧ Scion.Gen.Gateway.Accept = 1 ∧
    Scion.Gen.Gateway.Reject = 2 ∧ Scion.Gen.Gateway.Advertise = 3 ∧
    Scion.Gen.Gateway.RedistributeBGP = 4 := by decide

/-- the source facts the model relies on: `Policy.Match` walks the rules from the last to the
first and `RoutingTable.route` skips an entry only when its mask is strictly shorter -/
theorem gen_syntax :
    Scion.Gen.Gateway.policyMatchLoop = "for i := len(p.Rules) - 1; i >= 0; i--" ∧
    Scion.Gen.Gateway.routeSkipCond = "m < highestMask" := ⟨rfl, rfl⟩

/-! ## Non-vacuity -/

private def p8 : Prefix := ⟨.v4, 0x0a000000, 8⟩
private def p16 : Prefix := ⟨.v4, 0x0a010000, 16⟩
private def tbl : List (Entry Bool) :=
  [⟨p16, [⟨false, some 1⟩, ⟨true, some 2⟩]⟩, ⟨p8, [⟨true, some 3⟩]⟩]

example : route id tbl ⟨.v4, 0x0a010203⟩ = some 2 := by decide
example : route id tbl ⟨.v4, 0x0a020203⟩ = some 3 := by decide
example : route id tbl ⟨.v4, 0x0b020203⟩ = none := by decide
example : MostSpecific tbl ⟨.v4, 0x0a010203⟩ ⟨p16, [⟨false, some 1⟩, ⟨true, some 2⟩]⟩ := by
  refine ⟨by simp [tbl], by decide, ?_⟩
  intro e he _
  simp [tbl] at he
  rcases he with rfl | rfl <;> decide

private def pol : Policy :=
  { rules := [⟨.reject, .single ⟨1, 0⟩, .neg (.single ⟨2, 5⟩), ⟨[p16], false⟩⟩,
              ⟨.accept, .single ⟨0, 0⟩, .single ⟨0, 0⟩, ⟨[p8], false⟩⟩],
    dflt := .reject }

example : pol.matchMem ⟨1, 7⟩ ⟨2, 6⟩ ⟨.v4, 0, 0⟩ ⟨.v4, 0x0a010203⟩ = false := by decide
example : pol.matchMem ⟨1, 7⟩ ⟨2, 5⟩ ⟨.v4, 0, 0⟩ ⟨.v4, 0x0a010203⟩ = true := by decide
example : firstDecision ⟨1, 7⟩ ⟨2, 6⟩ ⟨.v4, 0x0a010203⟩ pol.rules = some false := by decide

end Scion.C42
