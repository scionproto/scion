import Scion.Model.TrustStore
import Scion.Proofs.Best
namespace Scion.TrustStore

/-! ### the TRC table -/

theorem sameID_fp_iff (r x : Rec) : (sameID r x && x.fp == r.fp) = true ↔ x = r := by
  cases x; cases r; simp [sameID, and_assoc]

theorem insert_cases (db : DB) (r : Rec) :
    (r ∈ db ∧ insert db r = (db, .exists)) ∨
    ((∃ x ∈ db, x.isd = r.isd ∧ x.base = r.base ∧ x.serial = r.serial ∧ x.fp ≠ r.fp) ∧
      insert db r = (db, .conflict)) ∨
    (insert db r = (db ++ [r], .inserted)) := by
  unfold insert
  simp only [List.any_eq_true, sameID_fp_iff, exists_eq_right]
  by_cases h1 : r ∈ db
  · exact .inl ⟨h1, if_pos h1⟩
  · rw [if_neg h1]
    by_cases h2 : ∃ x, x ∈ db ∧ sameID r x = true
    · refine .inr (.inl ⟨?_, if_pos h2⟩)
      obtain ⟨x, hx, hp⟩ := h2
      simp only [sameID, Bool.and_eq_true, beq_iff_eq] at hp
      -- with the same fingerprint as well it would be `r` itself
      exact ⟨x, hx, hp.1.1, hp.1.2, hp.2,
        fun hfp => h1 ((sameID_fp_iff r x).1 (by simp [sameID, hp, hfp]) ▸ hx)⟩
    · exact .inr (.inr (if_neg h2))

theorem mem_insert_iff {db : DB} {r x : Rec} :
    x ∈ (insert db r).1 ↔ x ∈ db ∨ (x = r ∧ (insert db r).2 ≠ .conflict) := by
  rcases insert_cases db r with ⟨hr, h⟩ | ⟨_, h⟩ | h <;> rw [h]
  · simpa using fun e => e ▸ hr
  · simp
  · simp

theorem insert_exists {db : DB} {r : Rec} (h : (insert db r).2 = .exists) :
    (insert db r).1 = db ∧ r ∈ db := by
  rcases insert_cases db r with ⟨hr, h'⟩ | ⟨_, h'⟩ | h' <;> rw [h'] at h ⊢
  · exact ⟨rfl, hr⟩
  · cases h
  · cases h

theorem insert_conflict_witness {db : DB} {r : Rec} (h : (insert db r).2 = .conflict) :
    ∃ x ∈ db, x.isd = r.isd ∧ x.base = r.base ∧ x.serial = r.serial ∧ x.fp ≠ r.fp := by
  rcases insert_cases db r with ⟨hr, h'⟩ | ⟨hw, h'⟩ | h' <;> rw [h'] at h
  · cases h
  · exact hw
  · cases h

/-! ### latest -/

theorem newer_iff (a b : Rec) :
    newer a b = true ↔ b.base < a.base ∨ (a.base = b.base ∧ b.serial < a.serial) := by
  simp [newer]

theorem newer_false_iff (a b : Rec) :
    newer a b = false ↔ a.base < b.base ∨ (a.base = b.base ∧ a.serial ≤ b.serial) := by
  rw [← Bool.not_eq_true, newer_iff]
  omega

theorem newer_irrefl (a : Rec) : newer a a = false := by simp [newer]

theorem pickLatest_scans : Scans (fun _ => True) (fun c x => newer x c = true) id pickLatest :=
  fun acc r => match acc with
    | none => scans_newer newer none r
    | some a => scans_newer newer (some a) r

theorem latest_best (db : DB) (isd : Nat) :
    Best (fun _ => True) (fun x m => newer x m = false) (db.filter fun r => r.isd = isd) (latest db isd) :=
  (Picked.foldl_none pickLatest_scans (by simp only [newer_iff]; omega)
    (by simp only [newer_iff]; omega) _).best newer_irrefl
    (by simp only [newer_iff, newer_false_iff]; omega) (by simp)

theorem latest_some {db : DB} {isd : Nat} {m : Rec} (h : latest db isd = some m) :
    m ∈ db ∧ m.isd = isd ∧ ∀ x ∈ db, x.isd = isd → newer x m = false := by
  have := latest_best db isd
  rw [h] at this
  obtain ⟨hm, -, hall⟩ := this
  have hm' := List.mem_filter.1 hm
  exact ⟨hm'.1, by simpa using hm'.2, fun x hx hxi => hall x (List.mem_filter.2 ⟨hx, by simpa using hxi⟩) trivial⟩

theorem latest_none {db : DB} {isd : Nat} (h : latest db isd = none) : ∀ x ∈ db, x.isd ≠ isd :=
  fun x hx hxi => (latest_best db isd).eq_none_iff.1 h x (List.mem_filter.2 ⟨hx, by simpa using hxi⟩) trivial

theorem latest_mono {db db' : DB} (hsub : ∀ x ∈ db, x ∈ db') {isd : Nat} {a : Rec}
    (ha : latest db isd = some a) : ∃ b, latest db' isd = some b ∧ newer a b = false := by
  have ⟨ham, hai, _⟩ := latest_some ha
  cases hb : latest db' isd with
  | none => exact absurd hai (latest_none hb a (hsub a ham))
  | some b => exact ⟨b, rfl, (latest_some hb).2.2 a (hsub a ham) hai⟩

/-! ### the fetch loop -/

def Chain (Ver : Rec → Rec → Bool) : Rec → List Rec → Prop
  | _, [] => True
  | c, f :: fs => Ver c f = true ∧ Chain Ver f fs

/-- the TRC the next fetched one is compared with -/
def lastOf : Rec → List Rec → Rec
  | c, [] => c
  | _, f :: fs => lastOf f fs

structure LoopSpec (Ver : Rec → Rec → Bool) (n : Nat) (db : DB) (cur : Rec) (script : List Fetch)
    (res : LoopRes) : Prop where
  chain : Chain Ver cur res.chain
  sub : ∀ x ∈ db, x ∈ res.db
  added : ∀ x ∈ res.db, x ∈ db ∨ x ∈ res.chain
  stored : ∀ x ∈ res.chain, x ∈ res.db
  prefix_ : script.take res.chain.length = res.chain.map Fetch.trc
  len : res.chain.length ≤ n
  done : res.stop = .done → res.chain.length = n ∧ res.fetches = n
  failFetches : res.stop ≠ .done → res.stop ≠ .scriptEnd → res.fetches = res.chain.length + 1
  fetchErr : res.stop = .fetchErr → script[res.chain.length]? = some .err
  verifyErr : res.stop = .verifyErr →
    ∃ r, script[res.chain.length]? = some (.trc r) ∧ Ver (lastOf cur res.chain) r = false
  insertErr : res.stop = .insertErr →
    ∃ r, script[res.chain.length]? = some (.trc r) ∧ Ver (lastOf cur res.chain) r = true ∧
      ∃ x ∈ res.db, x.isd = r.isd ∧ x.base = r.base ∧ x.serial = r.serial ∧ x.fp ≠ r.fp
  scriptEnd : res.stop = .scriptEnd → script.length = res.chain.length ∧ res.fetches = res.chain.length

/-- one iteration on a fetched TRC, with the outcome of `insert` tested instead of matched -/
theorem loop_succ_trc (Ver : Rec → Rec → Bool) (n : Nat) (db : DB) (cur r : Rec) (script : List Fetch) :
    loop Ver (n + 1) db cur (.trc r :: script) =
      if Ver cur r = false then ⟨db, [], 1, .verifyErr⟩
      else if (insert db r).2 = .conflict then ⟨db, [], 1, .insertErr⟩
      else
        let res := loop Ver n (insert db r).1 r script
        ⟨res.db, r :: res.chain, res.fetches + 1, res.stop⟩ := by
  simp only [loop]
  split
  · rfl
  · rcases insert db r with ⟨db', st⟩
    cases st <;> rfl

theorem loop_spec (Ver : Rec → Rec → Bool) (n : Nat) (db : DB) (cur : Rec) (script : List Fetch) :
    LoopSpec Ver n db cur script (loop Ver n db cur script) := by
  induction n generalizing db cur script with
  | zero => unfold loop; constructor <;> simp [Chain]
  | succ n ih =>
    match script with
    | [] => unfold loop; constructor <;> simp [Chain]
    | .err :: script => simp only [loop]; constructor <;> simp [Chain]
    | .trc r :: script =>
      rw [loop_succ_trc]
      split
      · rename_i hv; constructor <;> simp [Chain, lastOf, hv]
      · rename_i hv
        have hv' : Ver cur r = true := by simpa using hv
        split
        · rename_i hc
          constructor <;> simp [Chain, lastOf, hv']
          exact insert_conflict_witness hc
        · -- the TRC is in the table now, whether inserted or already there: the rest of the run extends it
          rename_i hc
          have s := ih (insert db r).1 r script
          exact
            { chain := ⟨hv', s.chain⟩
              sub := fun x h => s.sub x (mem_insert_iff.2 (.inl h))
              added := fun x hx => (s.added x hx).elim
                (fun h => (mem_insert_iff.1 h).elim .inl fun h => .inr (h.1 ▸ List.mem_cons_self))
                (fun h => .inr (List.mem_cons_of_mem _ h))
              stored := fun x hx =>
                (List.mem_cons.mp hx).elim (fun e => e ▸ s.sub r (mem_insert_iff.2 (.inr ⟨rfl, hc⟩))) (s.stored x)
              prefix_ := by simp [s.prefix_]
              len := Nat.succ_le_succ s.len
              done := by intro h; have := s.done h; simp; omega
              failFetches := by intro h1 h2; have := s.failFetches h1 h2; simp; omega
              fetchErr := by intro h; simpa using s.fetchErr h
              verifyErr := by intro h; simpa [lastOf] using s.verifyErr h
              insertErr := by intro h; simpa [lastOf] using s.insertErr h
              scriptEnd := by intro h; have := s.scriptEnd h; simp; omega }

/-- what a successful `Verify` guarantees about the IDs (theorems `update_accept_imp_link`,
`base_accept_iff` of C32) -/
def VerLinks (Ver : Rec → Rec → Bool) : Prop :=
  ∀ p f, Ver p f = true → f.isd = p.isd ∧ f.base = p.base ∧ f.serial = p.serial + 1

theorem chain_ids {Ver : Rec → Rec → Bool} (hV : VerLinks Ver) {cur : Rec} {chain : List Rec}
    (h : Chain Ver cur chain) :
    ∀ i (hi : i < chain.length), chain[i].isd = cur.isd ∧ chain[i].base = cur.base ∧
      chain[i].serial = cur.serial + i + 1 := by
  induction chain generalizing cur with
  | nil => intro i hi; cases hi
  | cons f fs ih =>
    intro i hi
    obtain ⟨h1, h2⟩ := h
    have l := hV cur f h1
    cases i with
    | zero => simpa using l
    | succ i =>
      have := ih h2 i (by simpa using hi)
      simp only [List.getElem_cons_succ]
      exact ⟨this.1.trans l.1, this.2.1.trans l.2.1, by rw [this.2.2, l.2.2]; omega⟩

/-! ### loading -/

theorem load_spec (db : DB) (fs : List File) :
    (∀ x ∈ db, x ∈ (load db fs).db) ∧
    (∀ x ∈ (load db fs).db, x ∈ db ∨ x ∈ (load db fs).loaded) ∧
    (∀ x ∈ (load db fs).loaded, File.trc x false ∈ fs) := by
  induction fs generalizing db with
  | nil => simp [load]
  | cons f fs ih =>
    cases f with
    | bad => simp [load]
    | trc r future =>
      cases future with
      | true =>
        simp only [load, if_true]
        obtain ⟨h1, h2, h3⟩ := ih db
        exact ⟨h1, h2, fun x hx => List.mem_cons_of_mem _ (h3 x hx)⟩
      | false =>
        simp only [load, Bool.false_eq_true, if_false]
        rcases hi : insert db r with ⟨db', st⟩
        have hdb : db' = (insert db r).1 := by rw [hi]
        obtain ⟨h1, h2, h3⟩ := ih db'
        have hsub : ∀ x ∈ db, x ∈ (load db' fs).db := fun x hx => h1 x (hdb ▸ mem_insert_iff.2 (.inl hx))
        cases st with
        | conflict => simp
        | inserted =>
          refine ⟨hsub, fun x hx => ?_, fun x hx => ?_⟩
          · rcases h2 x hx with h | h
            · rcases mem_insert_iff.1 (hdb ▸ h) with h | ⟨rfl, _⟩
              · exact .inl h
              · exact .inr List.mem_cons_self
            · exact .inr (List.mem_cons_of_mem _ h)
          · rcases List.mem_cons.mp hx with rfl | hx
            · exact List.mem_cons_self
            · exact List.mem_cons_of_mem _ (h3 x hx)
        | «exists» =>
          refine ⟨hsub, fun x hx => ?_, fun x hx => List.mem_cons_of_mem _ (h3 x hx)⟩
          rcases h2 x hx with h | h
          · rcases mem_insert_iff.1 (hdb ▸ h) with h | ⟨rfl, _⟩
            · exact .inl h
            · exact .inl (insert_exists (by rw [hi])).2
          · exact .inr h

end Scion.TrustStore
