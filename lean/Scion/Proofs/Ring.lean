import Scion.Model.Ring
import Scion.Proofs.Progress
/-! Lemmas for C48: the slice operations of `Ring.write`/`Ring.read`, the representation
invariant and the refinement of the abstract bounded FIFO. Core Lean only. -/
namespace Scion.Ring

theorem length_copyAt (dst : List Cell) (off : Nat) (src : List Cell) :
    (copyAt dst off src).length = dst.length := by simp [copyAt]

theorem length_clearAt (buf : List Cell) (a k : Nat) : (clearAt buf a k).length = buf.length := by
  simp [clearAt]

theorem getElem?_copyAt (dst : List Cell) (off : Nat) (src : List Cell) (p : Nat) :
    (copyAt dst off src)[p]? = (dst[p]?).map (copyCell off src p) := by
  simp [copyAt, List.getElem?_mapIdx]

theorem getElem?_clearAt (buf : List Cell) (a k p : Nat) :
    (clearAt buf a k)[p]? = (buf[p]?).map (clearCell a k p) := by
  simp [clearAt, List.getElem?_mapIdx]

theorem copyAt_hit (dst : List Cell) (off : Nat) (src : List Cell) (p : Nat) (v : Cell)
    (hp : p < dst.length) (ho : off ≤ p) (hs : src[p - off]? = some v) :
    (copyAt dst off src)[p]? = some v := by
  rw [getElem?_copyAt, List.getElem?_eq_getElem hp]
  simp [copyCell, ho, hs]

theorem copyAt_miss (dst : List Cell) (off : Nat) (src : List Cell) (p : Nat)
    (h : p < off ∨ src.length ≤ p - off) : (copyAt dst off src)[p]? = dst[p]? := by
  rw [getElem?_copyAt]
  unfold copyCell
  rcases h with h | h
  · simp [Nat.not_le.2 h]
  · simp [List.getElem?_eq_none h]

theorem clearAt_hit (buf : List Cell) (a k p : Nat) (hp : p < buf.length) (h : a ≤ p ∧ p < a + k) :
    (clearAt buf a k)[p]? = some none := by
  rw [getElem?_clearAt, List.getElem?_eq_getElem hp]
  simp [clearCell, h]

theorem clearAt_miss (buf : List Cell) (a k p : Nat) (h : p < a ∨ a + k ≤ p) :
    (clearAt buf a k)[p]? = buf[p]? := by
  rw [getElem?_clearAt]
  unfold clearCell
  simp [show ¬ (a ≤ p ∧ p < a + k) by omega]

/-! ### Index arithmetic

Both indices may rest at `cap` until the next wrap-around, so windows are described with truncated
subtraction in the code and in `touched`. `touched_iff` removes it; everything after that is
linear arithmetic over four or five naturals, done here once. -/

/-- `p` lies in the window of `n` cells that starts at index `w`, round the ring (the cells a
`Ring.write` of `n` entries at `writeIndex = w`, or a `Ring.read` of `n` at `readIndex = w`,
touches) -/
def touched (cap w n p : Nat) : Prop :=
  (w ≤ p ∧ p < w + n ∧ p < cap) ∨ (cap - w < n ∧ p < n - (cap - w))

theorem touched_iff {cap b : Nat} (n p : Nat) (hb : b ≤ cap) :
    touched cap b n p ↔ (b ≤ p ∧ p < b + n ∧ p < cap) ∨ p + cap < b + n := by
  unfold touched; omega

/-- index `i` advanced by `n` (both may rest at `cap`) -/
def adv (cap i n : Nat) : Nat := if cap - i < n then n - (cap - i) else i + n

theorem adv_spec {cap i n : Nat} (hi : i ≤ cap) (hn : n ≤ cap) :
    adv cap i n ≤ cap ∧ (i + n = adv cap i n ∧ i + n ≤ cap ∨ i + n = adv cap i n + cap ∧ 0 < adv cap i n) := by
  unfold adv; split <;> omega

def IsAdv (cap b n b' : Nat) : Prop := b ≤ cap ∧ b' ≤ cap ∧ (b + n = b' ∨ b + n = b' + cap)

theorem isAdv_adv {cap i n : Nat} (hi : i ≤ cap) (hn : n ≤ cap) : IsAdv cap i n (adv cap i n) := by
  have := adv_spec hi hn; exact ⟨hi, this.1, by omega⟩

theorem touched_split {cap b n b' : Nat} (h : IsAdv cap b n b') (k : Nat) {p : Nat} (hnk : n + k ≤ cap)
    (hp : p < cap) : touched cap b (n + k) p ↔ touched cap b n p ∨ touched cap b' k p := by
  obtain ⟨h1, h2, h3⟩ := h
  rw [touched_iff _ _ h1, touched_iff _ _ h1, touched_iff _ _ h2]; omega

theorem phys_shift {cap b n b' : Nat} (h : IsAdv cap b n b') {j : Nat} (hj : n + j < cap) :
    phys cap b' j = phys cap b (n + j) := by
  obtain ⟨h1, h2, h3⟩ := h
  unfold phys; split <;> split <;> omega

theorem touched_phys {cap b : Nat} (n : Nat) {j : Nat} (hb : b ≤ cap) (hj : j < cap) :
    touched cap b n (phys cap b j) ↔ j < n := by
  rw [touched_iff _ _ hb]; unfold phys; split <;> omega

theorem phys_lt {cap b j : Nat} (hb : b ≤ cap) (hj : j < cap) : phys cap b j < cap := by
  unfold phys; split <;> omega

/-! ### `bufWrite`, `bufRead` with the `copy` counts resolved -/

theorem bufWrite_eq (buf : List Cell) (w : Nat) (es : List Nat) (hl : es.length ≤ buf.length) :
    bufWrite buf w es =
      if buf.length - w < es.length then
        (copyAt (copyAt buf w (es.map some)) 0 ((es.drop (buf.length - w)).map some),
          es.length - (buf.length - w))
      else (copyAt buf w (es.map some), w + es.length) := by
  unfold bufWrite copyN
  by_cases h : buf.length - w < es.length
  · rw [if_pos h, Nat.min_eq_left (Nat.le_of_lt h), if_pos h, Nat.sub_zero, Nat.min_eq_right (by omega)]
  · rw [if_neg h, Nat.min_eq_right (Nat.le_of_not_lt h), if_neg (Nat.lt_irrefl _)]

theorem bufRead_eq (buf : List Cell) (r len : Nat) (hl : len ≤ buf.length) :
    bufRead buf r len =
      if buf.length - r < len then
        (clearAt (clearAt buf r (buf.length - r)) 0 (len - (buf.length - r)),
         (buf.drop r).take len ++ (clearAt buf r (buf.length - r)).take (len - (buf.length - r)),
         len - (buf.length - r))
      else (clearAt buf r len, (buf.drop r).take len, r + len) := by
  unfold bufRead copyN
  by_cases h : buf.length - r < len
  · rw [if_pos h, Nat.min_eq_left (Nat.le_of_lt h), if_pos h, Nat.sub_zero, Nat.min_eq_right (by omega)]
  · rw [if_neg h, Nat.min_eq_right (Nat.le_of_not_lt h), if_neg (Nat.lt_irrefl _)]

theorem length_bufWrite (buf : List Cell) (w : Nat) (es : List Nat) :
    (bufWrite buf w es).1.length = buf.length := by
  unfold bufWrite
  dsimp only
  split <;> simp only [length_copyAt]

theorem length_bufRead (buf : List Cell) (r len : Nat) :
    (bufRead buf r len).1.length = buf.length := by
  unfold bufRead
  dsimp only
  split <;> simp only [length_clearAt]

theorem bufWrite_idx (buf : List Cell) (w : Nat) (es : List Nat) (hl : es.length ≤ buf.length) :
    (bufWrite buf w es).2 = adv buf.length w es.length := by
  rw [bufWrite_eq _ _ _ hl]; unfold adv; split <;> rfl

theorem bufRead_idx (buf : List Cell) (r len : Nat) (hl : len ≤ buf.length) :
    (bufRead buf r len).2.2 = adv buf.length r len := by
  rw [bufRead_eq _ _ _ hl]; unfold adv; split <;> rfl

theorem bufWrite_miss (buf : List Cell) (w : Nat) (es : List Nat) (p : Nat) (hw : w ≤ buf.length)
    (hl : es.length ≤ buf.length) (hp : p < buf.length)
    (h : ¬ touched buf.length w es.length p) : (bufWrite buf w es).1[p]? = buf[p]? := by
  rw [touched_iff _ _ hw] at h
  rw [bufWrite_eq _ _ _ hl]
  split
  · rw [copyAt_miss _ _ _ _ (by simp only [List.length_map, List.length_drop]; omega),
      copyAt_miss _ _ _ _ (by simp only [List.length_map]; omega)]
  · rw [copyAt_miss _ _ _ _ (by simp only [List.length_map]; omega)]

theorem bufWrite_hit (buf : List Cell) (w : Nat) (es : List Nat) (j : Nat)
    (hw : w ≤ buf.length) (hl : es.length ≤ buf.length) (hj : j < es.length) :
    (bufWrite buf w es).1[phys buf.length w j]? = some (some es[j]) := by
  rw [bufWrite_eq _ _ _ hl]
  unfold phys
  split
  · split
    · rw [copyAt_miss _ _ _ _ (by simp only [List.length_map, List.length_drop]; omega)]
      apply copyAt_hit _ _ _ _ _ (by omega) (by omega)
      rw [Nat.add_sub_cancel_left, List.getElem?_map, List.getElem?_eq_getElem hj]; rfl
    · apply copyAt_hit _ _ _ _ _ (by simp only [length_copyAt]; omega) (by omega)
      rw [List.getElem?_map, List.getElem?_drop,
        (by omega : buf.length - w + (w + j - buf.length - 0) = j), List.getElem?_eq_getElem hj]; rfl
  · split
    · apply copyAt_hit _ _ _ _ _ (by omega) (by omega)
      rw [Nat.add_sub_cancel_left, List.getElem?_map, List.getElem?_eq_getElem hj]; rfl
    · omega

theorem bufRead_miss (buf : List Cell) (r len p : Nat) (hr : r ≤ buf.length) (hl : len ≤ buf.length)
    (h : ¬ touched buf.length r len p) : (bufRead buf r len).1[p]? = buf[p]? := by
  rw [touched_iff _ _ hr] at h
  rw [bufRead_eq _ _ _ hl]
  split
  · rw [clearAt_miss _ _ _ _ (by omega), clearAt_miss _ _ _ _ (by omega)]
  · rw [clearAt_miss _ _ _ _ (by omega)]

theorem bufRead_hit (buf : List Cell) (r len p : Nat) (hr : r ≤ buf.length) (hl : len ≤ buf.length)
    (hp : p < buf.length)
    (h : touched buf.length r len p) : (bufRead buf r len).1[p]? = some none := by
  rw [touched_iff _ _ hr] at h
  rw [bufRead_eq _ _ _ hl]
  split
  · by_cases h2 : p < len - (buf.length - r)
    · exact clearAt_hit _ _ _ _ (by rw [length_clearAt]; exact hp) ⟨by omega, by omega⟩
    · rw [clearAt_miss _ _ _ _ (by omega)]
      exact clearAt_hit _ _ _ _ hp (by omega)
  · exact clearAt_hit _ _ _ _ hp (by omega)

theorem bufRead_out_length (buf : List Cell) (r len : Nat) (hl : len ≤ buf.length) :
    (bufRead buf r len).2.1.length = len := by
  rw [bufRead_eq _ _ _ hl]
  split
  · simp only [List.length_append, List.length_take, List.length_drop, length_clearAt]; omega
  · simp only [List.length_take, List.length_drop]; omega

theorem bufRead_out_get (buf : List Cell) (r len j : Nat) (hr : r ≤ buf.length)
    (hl : len ≤ buf.length) (hj : j < len) :
    (bufRead buf r len).2.1[j]? = some ((buf[phys buf.length r j]?).join) := by
  rw [bufRead_eq _ _ _ hl]
  unfold phys
  split
  · rw [List.take_of_length_le (by rw [List.length_drop]; omega)]
    split
    · rw [List.getElem?_append_left (by rw [List.length_drop]; omega), List.getElem?_drop,
        List.getElem?_eq_getElem (by omega)]; rfl
    · rw [List.getElem?_append_right (by rw [List.length_drop]; omega), List.length_drop,
        List.getElem?_take_of_lt (by omega), clearAt_miss _ _ _ _ (by omega),
        (by omega : j - (buf.length - r) = r + j - buf.length),
        List.getElem?_eq_getElem (by omega)]; rfl
  · rw [if_pos (by omega), List.getElem?_take_of_lt hj, List.getElem?_drop,
      List.getElem?_eq_getElem (by omega)]; rfl

/-! ### Representation invariant and abstraction -/

structure Inv (s : State) : Prop where
  cap_pos : 0 < s.cap
  w_le : s.w ≤ s.cap
  r_le : s.r ≤ s.cap
  sum : s.writable + s.readable = s.cap
  win : s.r + s.readable = s.w ∨ s.r + s.readable = s.w + s.cap

theorem length_abs (s : State) : (abs s).length = s.readable := by simp [abs]

theorem getElem?_abs (s : State) (j : Nat) (hj : j < s.readable) :
    (abs s)[j]? = some ((s.buf[phys s.cap s.r j]?).join) := by
  simp [abs, List.getElem?_map, List.getElem?_range hj]

theorem Inv.isAdv_rw {s : State} (hI : Inv s) : IsAdv s.buf.length s.r s.readable s.w :=
  ⟨hI.r_le, hI.w_le, hI.win⟩

theorem Inv.isAdv_wr {s : State} (hI : Inv s) : IsAdv s.buf.length s.w s.writable s.r := by
  obtain ⟨hc, hw, hr, hsum, hwin⟩ := hI
  unfold State.cap at hc hw hr hsum hwin
  exact ⟨hw, hr, by omega⟩

theorem abs_write (s : State) (es : List Nat) (w' wr' rd' : Nat) (hI : Inv s)
    (hn : es.length ≤ s.writable) (hrd : rd' = s.readable + es.length) :
    abs { s with buf := (bufWrite s.buf s.w es).1, w := w', writable := wr', readable := rd' } =
      abs s ++ es.map some := by
  subst hrd
  have hsum : s.writable + s.readable = s.buf.length := hI.sum
  have hw : s.w ≤ s.buf.length := hI.w_le
  apply List.ext_getElem?
  intro j
  by_cases h1 : j < s.readable
  · rw [getElem?_abs _ _ (by dsimp only; omega), List.getElem?_append_left (by rw [length_abs]; exact h1),
      getElem?_abs _ _ h1]
    dsimp only [State.cap]
    rw [length_bufWrite, phys_shift hI.isAdv_wr (by omega),
      bufWrite_miss _ _ _ _ hw (by omega) (phys_lt hw (by omega))]
    rw [touched_phys _ hw (by omega)]; omega
  · by_cases h2 : j < s.readable + es.length
    · rw [getElem?_abs _ _ (by dsimp only; omega),
        List.getElem?_append_right (by rw [length_abs]; omega), length_abs]
      dsimp only [State.cap]
      rw [length_bufWrite, (by omega : j = s.readable + (j - s.readable)),
        ← phys_shift hI.isAdv_rw (by omega), Nat.add_sub_cancel_left,
        bufWrite_hit _ _ _ _ hw (by omega) (by omega), List.getElem?_map,
        List.getElem?_eq_getElem (by omega)]; rfl
    · rw [List.getElem?_eq_none (by rw [length_abs]; dsimp only; omega),
        List.getElem?_eq_none (by rw [List.length_append, length_abs, List.length_map]; omega)]

theorem abs_read (s : State) (len wr' : Nat) (hI : Inv s) (hn : len ≤ s.readable) :
    abs { s with buf := (bufRead s.buf s.r len).1, r := (bufRead s.buf s.r len).2.2,
                 writable := wr', readable := s.readable - len } = (abs s).drop len := by
  have hsum : s.writable + s.readable = s.buf.length := hI.sum
  have hr : s.r ≤ s.buf.length := hI.r_le
  apply List.ext_getElem?
  intro j
  rw [List.getElem?_drop]
  by_cases h1 : j < s.readable - len
  · rw [getElem?_abs _ _ h1, getElem?_abs _ _ (by omega)]
    dsimp only [State.cap]
    rw [length_bufRead, bufRead_idx _ _ _ (by omega), phys_shift (isAdv_adv hr (by omega)) (by omega),
      bufRead_miss _ _ _ _ hr (by omega)]
    rw [touched_phys _ hr (by omega)]; omega
  · rw [List.getElem?_eq_none (by rw [length_abs]; dsimp only; omega),
      List.getElem?_eq_none (by rw [length_abs]; omega)]

theorem out_read (s : State) (len : Nat) (hI : Inv s) (hn : len ≤ s.readable) :
    (bufRead s.buf s.r len).2.1 = (abs s).take len := by
  have hsum : s.writable + s.readable = s.buf.length := hI.sum
  have hr : s.r ≤ s.buf.length := hI.r_le
  apply List.ext_getElem?
  intro j
  by_cases h1 : j < len
  · rw [bufRead_out_get _ _ _ _ hr (by omega) h1, List.getElem?_take_of_lt h1,
      getElem?_abs _ _ (by omega)]
    rfl
  · rw [List.getElem?_eq_none (by rw [bufRead_out_length _ _ _ (by omega)]; omega),
      List.getElem?_eq_none (by rw [List.length_take, length_abs]; omega)]

/-! ### What a call that returns does to the state -/

theorem length_take_min (es : List Nat) (k : Nat) :
    (es.take (min k es.length)).length = min k es.length := by
  rw [List.length_take]; omega

/-- a `Write` that returns either changes nothing (early return: full, or closed) or stores a
prefix `es'` of its batch that fits into the free space -/
theorem write_some {s : State} {es : List Nat} {b : Bool} {s' : State} {n : Int}
    (h : write s es b = some (s', n)) :
    (writeMutates s es = false ∧ s' = s) ∨
    (writeMutates s es = true ∧ ∃ es' : List Nat, es'.length ≤ s.writable ∧
      s' = { s with buf := (bufWrite s.buf s.w es').1, w := (bufWrite s.buf s.w es').2,
                    writable := s.writable - es'.length, readable := s.readable + es'.length }) := by
  unfold write at h
  unfold writeMutates
  split at h
  · rename_i c
    exact Or.inl ⟨by simp [c], by cases b <;> cases h; rfl⟩
  · rename_i c1
    split at h <;> rename_i c2 <;> cases h
    · exact Or.inl ⟨by simp [c2], rfl⟩
    · exact Or.inr ⟨by simpa [c2, Decidable.imp_iff_not_or] using c1, es.take (min s.writable es.length),
        by rw [length_take_min]; exact Nat.min_le_left _ _, by rw [length_take_min]⟩

/-- a `Read` that returns either changes nothing (early return: empty) or hands out and clears
the first `m` live cells -/
theorem read_some {s : State} {len : Nat} {b : Bool} {s' : State} {n : Int} {out : List Cell}
    (h : read s len b = some (s', n, out)) :
    (readMutates s len = false ∧ s' = s) ∨
    (readMutates s len = true ∧ ∃ m, m ≤ s.readable ∧
      s' = { s with buf := (bufRead s.buf s.r m).1, r := (bufRead s.buf s.r m).2.2,
                    readable := s.readable - m, writable := s.writable + m }) := by
  unfold read at h
  unfold readMutates
  split at h
  · rename_i c
    exact Or.inl ⟨by simp [c], by cases b <;> cases h; rfl⟩
  · rename_i c1
    split at h <;> rename_i c2 <;> cases h
    · exact Or.inl ⟨by simp [c2], rfl⟩
    · exact Or.inr ⟨by simpa [Decidable.imp_iff_not_or, or_assoc] using And.intro c1 c2, _,
        Nat.min_le_left _ _, rfl⟩

theorem write_inv (s : State) (es : List Nat) (b : Bool) (s' : State) (n : Int)
    (h : write s es b = some (s', n)) (hI : Inv s) : Inv s' := by
  rcases write_some h with ⟨-, rfl⟩ | ⟨-, es', hle, rfl⟩
  · exact hI
  · obtain ⟨hc, hw, hr, hsum, hwin⟩ := hI
    unfold State.cap at hc hw hr hsum hwin
    have ha := adv_spec (n := es'.length) hw (by omega)
    rw [← bufWrite_idx s.buf _ _ (by omega)] at ha
    constructor <;> dsimp only [State.cap] <;> rw [length_bufWrite] <;> omega

theorem read_inv (s : State) (len : Nat) (b : Bool) (s' : State) (n : Int) (out : List Cell)
    (h : read s len b = some (s', n, out)) (hI : Inv s) : Inv s' := by
  rcases read_some h with ⟨-, rfl⟩ | ⟨-, m, hle, rfl⟩
  · exact hI
  · obtain ⟨hc, hw, hr, hsum, hwin⟩ := hI
    unfold State.cap at hc hw hr hsum hwin
    have ha := adv_spec (n := m) hr (by omega)
    rw [← bufRead_idx s.buf _ _ (by omega)] at ha
    constructor <;> dsimp only [State.cap] <;> rw [length_bufRead] <;> omega

theorem write_refines (s : State) (es : List Nat) (b : Bool) (hI : Inv s) :
    (write s es b).map (fun p => (absF p.1, p.2)) = (absF s).write es b := by
  have hsp : s.cap - (abs s).length = s.writable := by
    rw [length_abs]; have := hI.sum; omega
  unfold write Fifo.write absF
  dsimp only
  rw [hsp]
  by_cases c1 : 0 < es.length ∧ s.writable = 0 ∧ s.closed = false
  · rw [if_pos c1, if_pos c1]
    cases b <;> rfl
  · rw [if_neg c1, if_neg c1]
    by_cases c2 : s.closed = true
    · rw [if_pos c2, if_pos c2]; rfl
    · rw [if_neg c2, if_neg c2]
      simp only [Option.map_some]
      rw [abs_write s _ _ _ _ hI (by rw [length_take_min]; exact Nat.min_le_left _ _)
        (by rw [length_take_min])]
      congr 3
      dsimp only [State.cap]
      rw [length_bufWrite]

theorem read_refines (s : State) (len : Nat) (b : Bool) (hI : Inv s) :
    (read s len b).map (fun p => (absF p.1, p.2.1, p.2.2)) = (absF s).read len b := by
  unfold read Fifo.read absF
  dsimp only
  rw [length_abs]
  by_cases c1 : 0 < len ∧ s.readable = 0 ∧ s.closed = false
  · rw [if_pos c1, if_pos c1]
    cases b <;> rfl
  · rw [if_neg c1, if_neg c1]
    by_cases c2 : s.closed = true ∧ s.readable = 0
    · rw [if_pos c2, if_pos c2]; rfl
    · rw [if_neg c2, if_neg c2]
      simp only [Option.map_some]
      have hle : min s.readable len ≤ s.readable := Nat.min_le_left _ _
      rw [abs_read s _ _ hI hle, out_read s _ hI hle]
      congr 3
      dsimp only [State.cap]
      rw [length_bufRead]

theorem close_refines (s : State) : absF (close s) = (absF s).close := rfl

/-! ### Histories -/

theorem step_some {s : State} {o : Op} {s' : State} {out : Out} (h : step s o = some (s', out)) :
    (∃ es b n, write s es b = some (s', n)) ∨ (∃ len b n c, read s len b = some (s', n, c)) ∨
      s' = close s := by
  cases o with
  | write es b =>
    obtain ⟨p, hw, he⟩ := Option.map_eq_some_iff.1 h
    cases he; exact Or.inl ⟨es, b, p.2, hw⟩
  | read len b =>
    obtain ⟨p, hr, he⟩ := Option.map_eq_some_iff.1 h
    cases he; exact Or.inr (Or.inl ⟨len, b, p.2.1, p.2.2, hr⟩)
  | close => cases h; exact Or.inr (Or.inr rfl)

/-- `runOps` also collects the outputs: its states are a run of `step` without them -/
theorem isRun_runOps :
    IsRun (fun s o => (step s o).map (·.1)) (fun s os => (runOps s os).map (·.1)) := by
  refine ⟨fun _ => rfl, fun s o os => ?_⟩
  simp only [runOps]
  cases step s o with
  | none => rfl
  | some p =>
    obtain ⟨s1, out⟩ := p
    simp only [Option.map_some, Option.bind_some]
    cases runOps s1 os <;> rfl

theorem runOps_preserves {P : State → Prop}
    (hstep : ∀ s o s' out, step s o = some (s', out) → P s → P s') {os : List Op}
    {s s' : State} {outs : List Out} (h : runOps s os = some (s', outs)) : P s → P s' :=
  isRun_runOps.preserves
    (fun s o s' hs hP => by
      obtain ⟨p, hp, rfl⟩ := Option.map_eq_some_iff.1 hs
      exact hstep s o p.1 p.2 hp hP)
    (show (runOps s os).map (·.1) = some s' by rw [h]; rfl)

theorem step_refines (s : State) (o : Op) (hI : Inv s) :
    (step s o).map (fun p => (absF p.1, p.2)) = (absF s).step o := by
  cases o with
  | write es b =>
    simp only [step, Fifo.step]
    rw [← write_refines s es b hI]
    cases write s es b <;> rfl
  | read len b =>
    simp only [step, Fifo.step]
    rw [← read_refines s len b hI]
    cases read s len b <;> rfl
  | close => rfl

/-! ### Cells outside the live window are nil -/

/-- every cell that is not one of the `readable` live entries starting at `readIndex` is nil
(`Ring.read` removes the references it hands out) -/
def Clean (s : State) : Prop :=
  ∀ p, p < s.cap → ¬ touched s.cap s.r s.readable p → s.buf[p]? = some none

theorem write_clean (s : State) (es : List Nat) (b : Bool) (s' : State) (n : Int)
    (h : write s es b = some (s', n)) (hI : Inv s) (hC : Clean s) : Clean s' := by
  rcases write_some h with ⟨-, rfl⟩ | ⟨-, es', hle, rfl⟩
  · exact hC
  · have hsum : s.writable + s.readable = s.buf.length := hI.sum
    intro p hp hn
    dsimp only [State.cap] at hp hn ⊢
    rw [length_bufWrite] at hp hn
    rw [touched_split hI.isAdv_rw _ (by omega) hp] at hn
    rw [bufWrite_miss _ _ _ _ hI.w_le (by omega) hp (fun h => hn (Or.inr h))]
    exact hC p hp (fun h => hn (Or.inl h))

theorem read_clean (s : State) (len : Nat) (b : Bool) (s' : State) (n : Int) (out : List Cell)
    (h : read s len b = some (s', n, out)) (hI : Inv s) (hC : Clean s) : Clean s' := by
  rcases read_some h with ⟨-, rfl⟩ | ⟨-, m, hle, rfl⟩
  · exact hC
  · have hsum : s.writable + s.readable = s.buf.length := hI.sum
    have hr : s.r ≤ s.buf.length := hI.r_le
    intro p hp hn
    dsimp only [State.cap] at hp hn ⊢
    rw [length_bufRead] at hp hn
    rw [bufRead_idx _ _ _ (by omega)] at hn
    by_cases ht : touched s.buf.length s.r m p
    · exact bufRead_hit _ _ _ _ hr (by omega) hp ht
    · rw [bufRead_miss _ _ _ _ hr (by omega) ht]
      apply hC p hp
      show ¬ touched s.buf.length s.r s.readable p
      rw [(by omega : s.readable = m + (s.readable - m)),
        touched_split (isAdv_adv hr (by omega)) _ (by omega) hp]
      exact fun h => h.elim ht hn

theorem close_clean (s : State) (hC : Clean s) : Clean (close s) := hC

/-! ### Conservation of entries in the abstract FIFO -/

/-- the cells a write operation that returned `n` put into the queue -/
def accepted (es : List Nat) (n : Int) : List Cell :=
  if 0 ≤ n then (es.take n.toNat).map some else []

def writtenCells : List Op → List Out → List Cell
  | .write es _ :: os, .wrote n :: outs => accepted es n ++ writtenCells os outs
  | _ :: os, _ :: outs => writtenCells os outs
  | _, _ => []

def readCells : List Out → List Cell
  | .got _ c :: outs => c ++ readCells outs
  | _ :: outs => readCells outs
  | [] => []

theorem Fifo.write_q (f : Fifo) (es : List Nat) (b : Bool) (f' : Fifo) (n : Int)
    (h : f.write es b = some (f', n)) : f'.q = f.q ++ accepted es n := by
  unfold Fifo.write at h
  split at h
  · split at h
    · cases h
    · cases h; simp [accepted]
  · split at h
    · cases h; simp [accepted]
    · cases h; simp [accepted]

theorem Fifo.read_q (f : Fifo) (len : Nat) (b : Bool) (f' : Fifo) (n : Int) (c : List Cell)
    (h : f.read len b = some (f', n, c)) : f.q = c ++ f'.q := by
  unfold Fifo.read at h
  split at h
  · split at h
    · cases h
    · cases h; simp
  · split at h
    · cases h; simp
    · cases h; simp

end Scion.Ring
