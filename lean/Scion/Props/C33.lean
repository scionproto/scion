import Scion.Proofs.Trc
import Scion.Gen.Pki1Trc
/-!
# C33 — TRC payloads are validated (and encoded) faithfully

Property theorems only.  The model `Scion.Trc.validate` mirrors `cppki.TRC.Validate` check by
check; it is tied to the real code by `harness/cmd/trc` (real certificates, real `Validate`,
real `Encode`/`DecodeTRC`).  The ASN.1 round trip itself (`DecodeTRC (Encode t) = t`) is not a
Lean statement: ASN.1/X.509 are not modelled (DESIGN §3); it is checked on the real code for
every generated payload by the engine.
-/
namespace Scion.C33
open Scion.Trc

/-- The rules of the statement, written declaratively over the facts of a payload. -/
structure Rules (t : TRC) : Prop where
  version : t.version = 1
  isd : t.isd ≠ 0
  base_pos : 1 ≤ t.base
  base_le_serial : t.base ≤ t.serial
  validity : t.nb < t.na
  base_no_grace : t.serial = t.base → t.grace = 0
  base_no_votes : t.serial = t.base → t.votes = []
  quorum_lo : 1 ≤ t.quorum
  quorum_hi : t.quorum ≤ 255
  quorum_sens : t.quorum ≤ (countCls .sens t.certs : Int)
  quorum_reg : t.quorum ≤ (countCls .reg t.certs : Int)
  core_nonempty : t.core ≠ []
  core_no_wildcard : 0 ∉ t.core
  core_nodup : t.core.Nodup
  auth_nonempty : t.auth ≠ []
  auth_no_wildcard : 0 ∉ t.auth
  auth_nodup : t.auth.Nodup
  classifiable : ∀ c ∈ t.certs, c.cls = .sens ∨ c.cls = .reg ∨ c.cls = .root
  /-- belong to the ISD (when they name an ISD-AS at all) -/
  ia_parsable : ∀ c ∈ t.certs, c.iaKind ≠ 0
  same_isd : ∀ c ∈ t.certs, c.iaKind = 2 → c.isd = t.isd
  covers : ∀ c ∈ t.certs, c.nb ≤ t.nb ∧ t.na ≤ c.na
  issuer_serial_unique :
    t.certs.Pairwise (fun a b => ¬ (a.serial = b.serial ∧ a.issN = b.issN))
  subject_unique : ∀ k : Cls, k = .sens ∨ k = .reg ∨ k = .root →
    ((t.certs.filter (fun c => c.cls = k)).map (fun c => c.subj)).Nodup

/-- **C33, validation clause.** `Validate` accepts a payload exactly when every rule of the
statement holds. -/
theorem validate_iff_rules (t : TRC) : validate t = .ok () ↔ Rules t := by
  unfold validate
  rw [andThen_ok_iff, andThen_ok_iff, andThen_ok_iff, checkHead_ok_iff, asSeq_ok_iff,
    asSeq_ok_iff, checkBody_ok_iff]
  constructor
  · rintro ⟨⟨h1, ⟨h2, h3, h4⟩, h5, h6, h7, h8, h9⟩, ⟨c1, c2, c3⟩, ⟨a1, a2, a3⟩,
      b1, b2, b3, b4, b5, b6, b7, b8⟩
    exact
      { version := h1, isd := h2, base_pos := h4, base_le_serial := h3, validity := h5
        base_no_grace := h6, base_no_votes := h7, quorum_lo := h8, quorum_hi := h9
        quorum_sens := b2, quorum_reg := b3
        core_nonempty := c1, core_no_wildcard := c2, core_nodup := c3
        auth_nonempty := a1, auth_no_wildcard := a2, auth_nodup := a3
        classifiable := b1
        ia_parsable := fun c hc => (b4 c hc).1
        same_isd := fun c hc => (b4 c hc).2.1
        covers := fun c hc => (b4 c hc).2.2
        issuer_serial_unique := b5
        subject_unique := by
          intro k hk
          rcases hk with rfl | rfl | rfl
          · exact b6
          · exact b7
          · exact b8 }
  · intro r
    exact ⟨⟨r.version, ⟨r.isd, r.base_le_serial, r.base_pos⟩, r.validity, r.base_no_grace,
      r.base_no_votes, r.quorum_lo, r.quorum_hi⟩,
      ⟨r.core_nonempty, r.core_no_wildcard, r.core_nodup⟩,
      ⟨r.auth_nonempty, r.auth_no_wildcard, r.auth_nodup⟩,
      r.classifiable, r.quorum_sens, r.quorum_reg,
      fun c hc => ⟨r.ia_parsable c hc, r.same_isd c hc, r.covers c hc⟩,
      r.issuer_serial_unique,
      r.subject_unique .sens (Or.inl rfl), r.subject_unique .reg (Or.inr (Or.inl rfl)),
      r.subject_unique .root (Or.inr (Or.inr rfl))⟩

/-- The quorum clause on its own (the clause the unrepaired tree got wrong for negative
values): an accepted payload has `1 ≤ quorum ≤ 255`, and the quorum does not exceed the
number of sensitive nor of regular voters. -/
theorem accept_imp_quorum (t : TRC) (h : validate t = .ok ()) :
    1 ≤ t.quorum ∧ t.quorum ≤ 255 ∧
    t.quorum ≤ (countCls .sens t.certs : Int) ∧ t.quorum ≤ (countCls .reg t.certs : Int) := by
  have r := (validate_iff_rules t).mp h
  exact ⟨r.quorum_lo, r.quorum_hi, r.quorum_sens, r.quorum_reg⟩

/-- No payload with a quorum outside `1..255` is accepted — whatever the rest looks like. -/
theorem bad_quorum_rejected (t : TRC) (h : t.quorum < 1 ∨ 255 < t.quorum) :
    validate t ≠ .ok () := by
  intro hv
  have := accept_imp_quorum t hv
  omega

/-- An accepted payload has at least one sensitive and one regular voter, hence at least two
certificates. -/
theorem accept_imp_voters (t : TRC) (h : validate t = .ok ()) :
    1 ≤ countCls .sens t.certs ∧ 1 ≤ countCls .reg t.certs := by
  have := accept_imp_quorum t h
  omega

/-- Every certificate of an accepted payload covers the TRC validity — whether or not its
subject carries an ISD-AS attribute (`iaKind = 1`: voting certificates may omit it).  The
ISD check and the coverage check are independent. -/
theorem accept_imp_covers (t : TRC) (h : validate t = .ok ()) :
    ∀ c ∈ t.certs, c.nb ≤ t.nb ∧ t.na ≤ c.na :=
  ((validate_iff_rules t).mp h).covers

/-- A payload with a certificate that does not cover the TRC validity is rejected, in
particular when that certificate has no ISD-AS attribute. -/
theorem uncovered_cert_rejected (t : TRC) (c : Cert) (hc : c ∈ t.certs)
    (hn : ¬ (c.nb ≤ t.nb ∧ t.na ≤ c.na)) : validate t ≠ .ok () :=
  fun h => hn (accept_imp_covers t h c hc)

/-- The checks are applied in the order of the code: the error reported is that of the first
failing stage (head checks, core ASes, authoritative ASes, certificates). -/
theorem validate_error_order (t : TRC) (e : Err) :
    validate t = .error e ↔
      checkHead t = .error e ∨
      (checkHead t = .ok () ∧ asSeq t.core = .error e) ∨
      (checkHead t = .ok () ∧ asSeq t.core = .ok () ∧ asSeq t.auth = .error e) ∨
      (checkHead t = .ok () ∧ asSeq t.core = .ok () ∧ asSeq t.auth = .ok () ∧
        checkBody t = .error e) := by
  unfold validate
  simp only [andThen_error_iff]
  grind

/-- **T3.** The checks of `TRC.Validate`, `TRCID.Validate` and `validateASSequence` appear in the
source in the order the model applies them (regenerated from `/repo` on every run), and the
quorum / voter-count conditions are the modelled ones. -/
theorem gen_validate_order :
    Gen.Pki1Trc.validateSentinels =
      ["ErrInvalidTRCVersion", "ErrInvalidID", "ErrGracePeriodNonZero", "ErrVotesOnBaseTRC",
       "ErrInvalidQuorumSize", "ErrNotEnoughVoters", "ErrNotEnoughVoters", "ErrCertForOtherISD",
       "ErrTRCValidityNotCovered", "ErrDuplicate"] ∧
    Gen.Pki1Trc.idSentinels = ["ErrWildcardISD", "ErrSerialBeforeBase", "ErrReservedNumber"] ∧
    Gen.Pki1Trc.asSeqSentinels = ["ErrNoASes", "ErrWildcardAS", "ErrDuplicateAS"] ∧
    Gen.Pki1Trc.quorumCond = "trc.Quorum < 1 || trc.Quorum > 255" ∧
    Gen.Pki1Trc.votersCond = "len(cl.Sensitive) < trc.Quorum" :=
  ⟨rfl, rfl, rfl, rfl, rfl⟩

/-! ### Non-vacuity: a concrete payload that meets every rule, and single-rule violations -/

def exCert (id : Nat) (k : Cls) : Cert :=
  { id := id, cls := k, subj := id, issN := id, issR := id, serial := 1, ski := some id,
    iaKind := 2, isd := 1, nb := 0, na := 1000 }

def exTRC : TRC :=
  { version := 1, isd := 1, base := 1, serial := 1, nb := 10, na := 900, grace := 0,
    noTrustReset := false, votes := [], quorum := 2, core := [0xff00_0000_0110, 0xff00_0000_0111],
    auth := [0xff00_0000_0110],
    certs := [exCert 1 .sens, exCert 2 .sens, exCert 3 .reg, exCert 4 .reg, exCert 5 .root] }

example : validate exTRC = .ok () := by rfl
example : Rules exTRC := (validate_iff_rules exTRC).mp (by rfl)
example : validate { exTRC with quorum := -1 } = .error .quorum := by rfl
example : validate { exTRC with quorum := 3 } = .error .voters := by rfl
example : validate { exTRC with core := [5, 5] } = .error .dupAS := by rfl
example : validate { exTRC with serial := 2, grace := 5, votes := [0, 1] } = .ok () := by rfl
-- a voter WITHOUT ISD-AS (`iaKind = 1`) that covers the validity is fine; one that does not is refused
example : validate { exTRC with certs := exTRC.certs ++ [{ exCert 6 .reg with iaKind := 1, isd := 0 }] }
    = .ok () := by rfl
example : validate { exTRC with certs := exTRC.certs ++
    [{ exCert 6 .reg with iaKind := 1, isd := 0, nb := 11 }] } = .error .notCovered := by rfl
example : validate { exTRC with certs := exTRC.certs ++ [exCert 1 .root] } = .error .dup := by
  rfl

end Scion.C33
