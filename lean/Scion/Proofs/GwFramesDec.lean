import Scion.Proofs.GwFramesEnc
/-! C41 helper lemmas, the receiver.  `Sync start mids p c s0`: the reassembly list `start :: mids`
holds exactly the first `c` bytes of the valid packet `p` (0 < c < |p|) in consecutive frames
starting with sequence number `s0`.  Then the receiver on a well-formed trace: in order (exact
output) and under arbitrary loss, duplication and reordering (output ⊆ packets completed by the
trace). -/
namespace Scion.Proofs.GwFrames
open Scion.GwFrames Scion.Util

def SeqFrom : Nat → List FB → Prop
  | _, [] => True
  | s, fb :: r => fb.seq = s ∧ SeqFrom (s + 1) r

theorem seqFrom_append (s : Nat) (l : List FB) (fb : FB) (h : SeqFrom s l) (hs : fb.seq = s + l.length) :
    SeqFrom s (l ++ [fb]) := by
  induction l generalizing s with
  | nil => simp [SeqFrom] at *; exact hs
  | cons a l ih =>
    obtain ⟨h1, h2⟩ := h
    refine ⟨h1, ih (s + 1) h2 ?_⟩
    simp only [List.length_cons] at hs; omega

theorem lastSeq_seqFrom (s : Nat) (a : FB) (l : List FB) (h : SeqFrom s (a :: l)) :
    lastSeq (a :: l) = s + l.length := by
  induction l generalizing s a with
  | nil => exact h.1
  | cons b l ih =>
    show lastSeq (b :: l) = _
    rw [ih (s + 1) b h.2, List.length_cons]
    omega

/-- a frame in the middle of the list: carries no packet start, nothing processed yet -/
structure MidOK (m : FB) : Prop where
  index : m.index = noIndex
  frag0 : m.frag0Start = 0
  cpp : m.completePktsProcessed = true

def bytesOf (l : List FB) : Bytes := (l.map (·.payload)).flatten

theorem bytesOf_cons (a : FB) (l : List FB) : bytesOf (a :: l) = a.payload ++ bytesOf l := by
  simp [bytesOf]

theorem bytesOf_append (l : List FB) (a : FB) : bytesOf (l ++ [a]) = bytesOf l ++ a.payload := by
  simp [bytesOf]

/-- the waiting loop of `tryReassemble` over middle frames followed by the new frame -/
theorem reassembleScan_mids (pktLen : Nat) (mids : List FB) (fb : FB) :
    ∀ bytes, (∀ m ∈ mids, MidOK m) → bytes + (bytesOf mids).length < pktLen →
    reassembleScan pktLen bytes (mids ++ [fb]) =
      if bytes + (bytesOf mids).length + fb.payload.length ≥ pktLen then .can
      else if fb.index != noIndex then .framingError else .wait := by
  induction mids with
  | nil =>
    intro bytes _ _
    simp [reassembleScan, bytesOf, FB.frameLen]
  | cons m mids ih =>
    intro bytes hm hlt
    have hmo := hm m (by simp)
    rw [bytesOf_cons, List.length_append] at hlt
    simp only [List.cons_append, reassembleScan, FB.frameLen, Nat.add_sub_cancel_left]
    rw [if_neg (by omega)]
    simp only [hmo.index, bne_self_eq_false, Bool.false_eq_true, if_false]
    rw [ih (bytes + m.payload.length) (fun x hx => hm x (by simp [hx])) (by omega)]
    rw [bytesOf_cons, List.length_append]
    simp only [Nat.add_assoc]

/-- the collecting loop of `collectAndWrite` over middle frames followed by the completing frame -/
theorem collect_mids (pktLen : Nat) (mids : List FB) (fb : FB) :
    ∀ buf : Bytes, buf.length + (bytesOf mids).length < pktLen →
      pktLen ≤ buf.length + (bytesOf mids).length + fb.payload.length →
      collect pktLen buf (mids ++ [fb]) =
        (buf ++ bytesOf mids ++ fb.payload.take (pktLen - (buf.length + (bytesOf mids).length)),
         (mids ++ [fb]).map (fun m => { m with fragNProcessed := true }), []) := by
  induction mids with
  | nil =>
    intro buf hlt hge
    simp only [bytesOf, List.map_nil, List.flatten_nil, List.length_nil, Nat.add_zero] at hlt hge
    simp only [List.nil_append, collect, hlt, if_true, FB.frameLen, bytesOf, List.map_nil,
      List.flatten_nil, List.append_nil, List.length_nil, Nat.add_zero, List.map_cons]
    have : min (pktLen - buf.length + hdrLen) (hdrLen + fb.payload.length) - hdrLen
        = pktLen - buf.length := by omega
    rw [this]
  | cons m mids ih =>
    intro buf hlt hge
    rw [bytesOf_cons, List.length_append] at hlt hge
    simp only [List.cons_append, collect]
    rw [if_pos (by omega)]
    have hmin : min (pktLen - buf.length + hdrLen) m.frameLen - hdrLen = m.payload.length := by
      unfold FB.frameLen hdrLen; omega
    simp only [hmin, List.take_length]
    rw [ih (buf ++ m.payload) (by rw [List.length_append]; omega) (by rw [List.length_append]; omega)]
    simp only [List.map_cons, bytesOf_cons, List.length_append, List.append_assoc, Nat.add_assoc]

/-! ### `ProcessCompletePkts` on a frame whose payload is tail ++ packets ++ head -/

theorem pcp_noIndex (fb : FB) (h : fb.index = noIndex) :
    processCompletePkts fb = ({ fb with completePktsProcessed := true }, []) := by
  unfold processCompletePkts
  simp [h]

structure PcpResult (fb fb' : FB) (tailLen : Nat) (qs : List Bytes) (cur : Option Bytes) : Prop where
  seq : fb'.seq = fb.seq
  index : fb'.index = fb.index
  payload : fb'.payload = fb.payload
  fragN : fb'.fragNProcessed = fb.fragNProcessed
  cpp : fb'.completePktsProcessed = true
  none : cur = none → fb'.frag0Start = 0
  some : ∀ p, cur = some p → fb'.frag0Start = hdrLen + tailLen + qs.flatten.length ∧
    fb'.pktLen = p.length ∧ fb'.frag0Processed = false

theorem pcp_index (fb : FB) (tail : Bytes) (qs : List Bytes) (h : Bytes) (cur : Option Bytes)
    (hq : ∀ x ∈ qs, validPkt x = true) (hh : HeadOK h cur)
    (hpl : fb.payload = tail ++ qs.flatten ++ h) (hidx : fb.index = tail.length)
    (hb : tail.length < noIndex) (hcpp : fb.completePktsProcessed = false)
    (hf0 : fb.frag0Start = 0) :
    ∃ fb', processCompletePkts fb = (fb', qs) ∧ PcpResult fb fb' tail.length qs cur := by
  unfold processCompletePkts
  have hni : (fb.index == noIndex) = false := by
    rw [hidx]; simp only [beq_eq_false_iff_ne, ne_eq]; omega
  simp only [hcpp, hni, Bool.or_self, Bool.false_eq_true, if_false]
  have hdrop : fb.payload.drop fb.index = qs.flatten ++ h := by
    rw [hpl, hidx, List.append_assoc, List.drop_left]
  rw [hdrop, scan_shape qs h cur hq hh]
  cases cur with
  | none =>
    refine ⟨_, rfl, ?_⟩
    constructor <;> simp [curLen, hf0]
  | some p =>
    obtain ⟨hv, k, rfl, hk, hlt⟩ := hh
    have hkl : (p.take k).length = k := by simp [List.length_take]; omega
    have hoff : fb.index + hdrLen + qs.flatten.length < fb.frameLen := by
      simp only [FB.frameLen, hpl, List.length_append, hkl, hidx]; omega
    simp only [curLen, hoff, if_true]
    refine ⟨_, rfl, ⟨rfl, rfl, rfl, rfl, rfl, ?_, ?_⟩⟩
    · intro hc; cases hc
    · intro p' hp'
      cases hp'
      refine ⟨?_, rfl, ?_⟩
      · simp only [hidx]; omega
      · simp only [beq_eq_false_iff_ne, ne_eq, hdrLen]; omega

/-! ### the reassembly list in sync with a packet in progress -/

structure Sync (start : FB) (mids : List FB) (p : Bytes) (c s0 : Nat) : Prop where
  f0lo : hdrLen ≤ start.frag0Start
  f0hi : start.frag0Start ≤ start.frameLen
  pktLen : start.pktLen = p.length
  bytes : start.payload.drop (start.frag0Start - hdrLen) ++ bytesOf mids = p.take c
  clt : c < p.length
  seqs : SeqFrom s0 (start :: mids)
  midsOK : ∀ m ∈ mids, MidOK m

theorem Sync.count {start : FB} {mids : List FB} {p : Bytes} {c s0 : Nat}
    (h : Sync start mids p c s0) :
    start.frameLen - start.frag0Start + (bytesOf mids).length = c := by
  have := congrArg List.length h.bytes
  rw [List.length_append, List.length_drop, List.length_take,
    Nat.min_eq_left (Nat.le_of_lt h.clt)] at this
  have := h.f0lo
  unfold FB.frameLen
  omega

theorem tryReassemble_cons (start : FB) (r : List FB) (hr : r ≠ []) :
    tryReassemble (start :: r) =
      if start.frag0Start == 0 then ([], [])
      else
        match reassembleScan start.pktLen (start.frameLen - start.frag0Start) r with
        | .can => collectAndWrite start r
        | .framingError => (match r.getLast? with | some l => [l] | none => [], [])
        | .wait => (start :: r, []) := by
  cases r with
  | nil => exact absurd rfl hr
  | cons a r => rfl

/-- the four guards of `Insert` on a list of consecutive frames, by the new frame's sequence
number: old or duplicate, gap or full list, next in line -/
theorem insert_seqFrom (start : FB) (mids : List FB) (fb : FB) (s0 : Nat)
    (hs : SeqFrom s0 (start :: mids)) :
    GwFrames.insert (start :: mids) fb =
      if fb.seq ≤ s0 + mids.length then (start :: mids, [])
      else if s0 + mids.length + 1 < fb.seq ∨ (start :: mids).length = listCap then insertFirst fb
      else tryReassemble (start :: (mids ++ [fb])) := by
  unfold GwFrames.insert
  simp only [lastSeq_seqFrom s0 start mids hs, hs.1, gt_iff_lt]
  by_cases h1 : fb.seq ≤ s0 + mids.length
  · simp only [if_pos h1, ite_self]
  · rw [if_neg h1, if_neg h1, if_neg (by omega)]
    by_cases h3 : s0 + mids.length + 1 < fb.seq
    · simp only [h3, true_or, if_true]
    · simp only [h3, false_or, if_false]; rfl

/-- `tryReassemble` when a frame is appended to a list in sync: the packet is complete; or bytes
are missing and the frame starts a packet (framing error: only the new frame stays); or the list
waits on -/
theorem tryReassemble_sync {start : FB} {mids : List FB} {p : Bytes} {c s0 : Nat}
    (hs : Sync start mids p c s0) (fb : FB) :
    tryReassemble (start :: (mids ++ [fb])) =
      if p.length ≤ c + fb.payload.length then collectAndWrite start (mids ++ [fb])
      else if fb.index != noIndex then ([fb], []) else (start :: (mids ++ [fb]), []) := by
  have hcount := hs.count
  have hclt := hs.clt
  have h0 : (start.frag0Start == 0) = false := by
    have := hs.f0lo; simp only [beq_eq_false_iff_ne, ne_eq, hdrLen] at *; omega
  rw [tryReassemble_cons _ _ (by simp), h0, if_neg Bool.false_ne_true,
    reassembleScan_mids _ _ _ _ hs.midsOK (by rw [hs.pktLen]; omega), hs.pktLen, hcount]
  by_cases h1 : p.length ≤ c + fb.payload.length
  · rw [if_pos h1, if_pos h1]
  · rw [if_neg h1, if_neg h1]
    cases fb.index != noIndex <;> simp

theorem filter_mids (mids : List FB) (hm : ∀ m ∈ mids, MidOK m) :
    (mids.map (fun m => { m with fragNProcessed := true })).filter (fun fb => !fb.processed) = [] := by
  simp only [List.filter_eq_nil_iff, List.mem_map]
  rintro _ ⟨m, hx, rfl⟩
  simp [FB.processed, (hm m hx).cpp, (hm m hx).frag0]

/-- `removeProcessed` keeps a frame that went through `ProcessCompletePkts` with its leading
bytes used up exactly if `insertFirst` would keep it: if it holds the head of a further packet -/
theorem filter_pcp (fb : FB) (hf0 : fb.frag0Start = 0) (hn : fb.fragNProcessed = true) :
    ([(processCompletePkts fb).1].filter (fun x => !x.processed), (processCompletePkts fb).2) =
      insertFirst fb := by
  unfold insertFirst processCompletePkts
  split
  · simp [FB.processed, hf0, hn]
  · dsimp only
    generalize scan _ = s
    generalize fb.index + hdrLen + s.consumed = n
    split
    · split
      · by_cases hz : n = 0 <;> simp [FB.processed, hn, hz]
      · simp [FB.processed, hf0, hn]
    · simp [FB.processed, hf0, hn]

/-- `collectAndWrite` when the new frame `fb` completes the packet of a list in sync: the packet
is written, every older frame is dropped, and `fb` goes on as if it were the first frame of an
empty list -/
theorem collectAndWrite_sync {start : FB} {mids : List FB} {p : Bytes} {c s0 : Nat}
    (hs : Sync start mids p c s0) (fb : FB) (hf0 : fb.frag0Start = 0)
    (hge : p.length ≤ c + fb.payload.length) :
    collectAndWrite start (mids ++ [fb]) =
      ((insertFirst { fb with fragNProcessed := true }).1,
        (p.take c ++ fb.payload.take (p.length - c)) ::
          (insertFirst { fb with fragNProcessed := true }).2) := by
  have hcount := hs.count
  have hclt := hs.clt
  have hb0 : (start.payload.drop (start.frag0Start - hdrLen)).length =
      start.frameLen - start.frag0Start := by
    have := hs.f0lo; have := hs.f0hi
    simp only [List.length_drop, FB.frameLen] at *; omega
  unfold collectAndWrite
  dsimp only
  rw [collect_mids _ _ _ _ (by rw [hs.pktLen, hb0]; omega) (by rw [hs.pktLen, hb0]; omega)]
  simp only [hs.bytes, hb0, hs.pktLen, hcount]
  -- the buffer has the length of the packet; the last frame visited is the new frame
  have hlen : (p.take c ++ fb.payload.take (p.length - c)).length = p.length := by
    simp only [List.length_append, List.length_take]; omega
  rw [if_pos hlen, List.map_append, List.reverse_append]
  simp only [List.map_cons, List.map_nil, List.reverse_cons, List.reverse_nil, List.nil_append,
    List.singleton_append, List.reverse_reverse]
  have hst : start.setProcessed.processed = true := by simp [FB.setProcessed, FB.processed]
  rw [List.filter_cons_of_neg (by simp [hst]), List.filter_append, filter_mids mids hs.midsOK,
    List.nil_append, ← filter_pcp { fb with fragNProcessed := true } hf0 rfl]

theorem insert_middle (start : FB) (mids : List FB) (p : Bytes) (c s0 m : Nat) (fb : FB)
    (hs : Sync start mids p c s0) (hcap : (start :: mids).length ≠ listCap)
    (hseq : fb.seq = s0 + 1 + mids.length) (hidx : fb.index = noIndex) (hf0 : fb.frag0Start = 0)
    (hcpp : fb.completePktsProcessed = true) (hpl : fb.payload = (p.drop c).take m)
    (hm : c + m < p.length) :
    GwFrames.insert (start :: mids) fb = (start :: (mids ++ [fb]), []) ∧
      Sync start (mids ++ [fb]) p (c + m) s0 := by
  have hfl : fb.payload.length = m := by
    rw [hpl]; simp only [List.length_take, List.length_drop]; omega
  constructor
  · rw [insert_seqFrom start mids fb s0 hs.seqs, if_neg (by omega),
      if_neg (fun h => h.elim (by omega) hcap), tryReassemble_sync hs, if_neg (by omega), hidx]
    rfl
  · refine ⟨hs.f0lo, hs.f0hi, hs.pktLen, ?_, hm,
      seqFrom_append s0 (start :: mids) fb hs.seqs (by simp only [List.length_cons]; omega), ?_⟩
    · rw [bytesOf_append, ← List.append_assoc, hs.bytes, hpl, List.take_add]
    · intro x hx
      rcases List.mem_append.1 hx with hx | hx
      · exact hs.midsOK x hx
      · simp only [List.mem_singleton] at hx; subst hx; exact ⟨hidx, hf0, hcpp⟩

/-! ### general frames: tail ++ complete packets ++ head -/

structure GenFB (fb : FB) (tail : Bytes) (qs : List Bytes) (h : Bytes) (cur : Option Bytes) : Prop where
  valid : ∀ x ∈ qs, validPkt x = true
  head : HeadOK h cur
  payload : fb.payload = tail ++ qs.flatten ++ h
  index : fb.index = if qs = [] ∧ cur = none then noIndex else tail.length
  bound : (qs ≠ [] ∨ cur ≠ none) → tail.length < noIndex
  f0 : fb.frag0Start = 0
  cpp : fb.completePktsProcessed = (fb.index == noIndex)

/-- the reassembly list holds the packet in progress `pend` (nothing, or the first `c` bytes of
`p`) and expects frame `s`; every middle frame brought at least `m` bytes (`m = 0` says nothing) -/
def Holds (m : Nat) (L : List FB) (pend : Pend) (s : Nat) : Prop :=
  match pend with
  | none => L = []
  | some (p, c) => ∃ start mids s0, L = start :: mids ∧ Sync start mids p c s0 ∧
      s0 + mids.length + 1 = s ∧ mids.length * m ≤ c

structure PcpGen (fb fb' : FB) (tailLen : Nat) (qs : List Bytes) (cur : Option Bytes) : Prop where
  seq : fb'.seq = fb.seq
  payload : fb'.payload = fb.payload
  fragN : fb'.fragNProcessed = fb.fragNProcessed
  cpp : fb'.completePktsProcessed = true
  none : cur = none → fb'.frag0Start = 0
  some : ∀ p, cur = some p → fb'.frag0Start = hdrLen + tailLen + qs.flatten.length ∧
    fb'.pktLen = p.length ∧ fb'.frag0Processed = false

theorem pcp_gen (fb : FB) (tail : Bytes) (qs : List Bytes) (h : Bytes) (cur : Option Bytes)
    (g : GenFB fb tail qs h cur) :
    ∃ fb', processCompletePkts fb = (fb', qs) ∧ PcpGen fb fb' tail.length qs cur := by
  by_cases hc : qs = [] ∧ cur = none
  · have hi : fb.index = noIndex := by rw [g.index, if_pos hc]
    rw [pcp_noIndex fb hi]
    obtain ⟨hq, hcn⟩ := hc
    subst hq; subst hcn
    refine ⟨_, rfl, rfl, rfl, rfl, rfl, ?_, ?_⟩
    · intro _; exact g.f0
    · intro p hp; cases hp
  · have hi : fb.index = tail.length := by rw [g.index, if_neg hc]
    have hb : tail.length < noIndex := g.bound (by
      by_cases hq : qs = []
      · right; intro hcn; exact hc ⟨hq, hcn⟩
      · left; exact hq)
    have hcpp : fb.completePktsProcessed = false := by
      rw [g.cpp, hi]; simp only [beq_eq_false_iff_ne, ne_eq]; omega
    obtain ⟨fb', h1, h2⟩ := pcp_index fb tail qs h cur g.valid g.head g.payload hi hb hcpp g.f0
    exact ⟨fb', h1, h2.seq, h2.payload, h2.fragN, h2.cpp, h2.none, h2.some⟩

theorem insertFirst_gen (m : Nat) (fb : FB) (tail : Bytes) (qs : List Bytes) (h : Bytes)
    (cur : Option Bytes) (g : GenFB fb tail qs h cur) :
    ∃ L', insertFirst fb = (L', qs) ∧ Holds m L' (postOf h cur) (fb.seq + 1) := by
  obtain ⟨fb', h1, r⟩ := pcp_gen fb tail qs h cur g
  unfold insertFirst
  rw [h1]
  cases cur with
  | none =>
    have := r.none rfl
    simp only [this, bne_self_eq_false, Bool.false_eq_true, if_false]
    exact ⟨[], rfl, rfl⟩
  | some p' =>
    obtain ⟨hf0, hpk, _⟩ := r.some p' rfl
    have hne : (fb'.frag0Start != 0) = true := by
      rw [hf0]; simp only [bne_iff_ne, ne_eq, hdrLen]; omega
    simp only [hne, if_true]
    obtain ⟨hv, k, rfl, hk, hlt⟩ := g.head
    have hkl : (p'.take k).length = k := by simp [List.length_take]; omega
    refine ⟨[fb'], rfl, fb', [], fb.seq, rfl, ?_, rfl, by simp⟩
    refine ⟨by rw [hf0]; omega, ?_, hpk, ?_, by omega, ⟨r.seq, trivial⟩, nofun⟩
    · rw [hf0]; simp only [FB.frameLen, r.payload, g.payload, List.length_append]; omega
    · rw [hf0, r.payload, g.payload]
      have : hdrLen + tail.length + qs.flatten.length - hdrLen = (tail ++ qs.flatten).length := by
        rw [List.length_append]; omega
      rw [this, List.drop_left, hkl]
      simp [bytesOf]

theorem insertFirst_noIndex (fb : FB) (hi : fb.index = noIndex) (hf0 : fb.frag0Start = 0) :
    insertFirst fb = ([], []) := by
  unfold insertFirst
  rw [pcp_noIndex fb hi]
  simp [hf0]

theorem insert_general (m : Nat) (start : FB) (mids : List FB) (p : Bytes) (c s0 : Nat) (fb : FB)
    (qs : List Bytes) (h : Bytes) (cur : Option Bytes)
    (hs : Sync start mids p c s0) (hcap : (start :: mids).length ≠ listCap)
    (hseq : fb.seq = s0 + 1 + mids.length) (g : GenFB fb (p.drop c) qs h cur) :
    ∃ L', GwFrames.insert (start :: mids) fb = (L', p :: qs) ∧
      Holds m L' (postOf h cur) (fb.seq + 1) := by
  have hclt := hs.clt
  have hfl : p.length ≤ c + fb.payload.length := by
    rw [g.payload]; simp only [List.length_append, List.length_drop]; omega
  obtain ⟨L', hi, ha⟩ := insertFirst_gen m { fb with fragNProcessed := true } _ qs h cur
    ⟨g.valid, g.head, g.payload, g.index, g.bound, g.f0, g.cpp⟩
  refine ⟨L', ?_, ha⟩
  rw [insert_seqFrom start mids fb s0 hs.seqs, if_neg (by omega),
    if_neg (fun h => h.elim (by omega) hcap), tryReassemble_sync hs, if_pos hfl,
    collectAndWrite_sync hs fb g.f0 hfl, hi, g.payload, List.append_assoc,
    ← List.length_drop, List.take_left, List.take_append_drop]

/-! ## the receiver on a trace -/

/-! ### the worker's per-epoch lists -/

theorem getRlist_setRlist (w : Worker) (e e' : Nat) (l : List FB) :
    getRlist (setRlist w e l) e' = if e' = e then l else getRlist w e' := by
  induction w with
  | nil => simp [setRlist, getRlist, eq_comm]
  | cons a w ih =>
    by_cases h : e' = e
    · subst h
      by_cases h1 : a.1 = e' <;> simp [setRlist, getRlist, h1, ih]
    · by_cases h1 : a.1 = e
      · simp [setRlist, getRlist, h, h1, Ne.symm h]
      · simp [setRlist, getRlist, h, h1, ih]

/-! ### one step of a trace -/

theorem insert_step {mtu m : Nat} (hm : m ≤ mtu - hdrLen) {st : Step} (hok : StepOK mtu st)
    {L : List FB} (hL : Holds m L st.pre st.f.seq) (hcap : L.length ≠ listCap) :
    ∃ L', GwFrames.insert L (newFB st.f) = (L', st.done) ∧ Holds m L' st.post (st.f.seq + 1) := by
  cases hok with
  | middle p c f hv hc hlt hpl hidx =>
    obtain ⟨start, mids, s0, rfl, hs, hs0, hcnt⟩ := hL
    obtain ⟨hi, hsy⟩ := insert_middle start mids p c s0 (mtu - hdrLen) (newFB f) hs hcap
      (by simp only [newFB]; simp only at hs0; omega) hidx rfl
      (by simp only [newFB, hidx, beq_self_eq_true]) hpl hlt
    refine ⟨_, hi, start, mids ++ [newFB f], s0, rfl, hsy, ?_, ?_⟩
    · simp only [List.length_append, List.length_singleton] at hs0 ⊢; omega
    · simp only [List.length_append, List.length_singleton, Nat.succ_mul]; omega
  | general pre qs h cur f hp hq hh hpl hidx hb =>
    have g : GenFB (newFB f) (tailOf pre) qs h cur := ⟨hq, hh, hpl, hidx, hb, rfl, rfl⟩
    cases pre with
    | none => cases hL; exact insertFirst_gen m (newFB f) [] qs h cur g
    | some pc =>
      obtain ⟨p, c⟩ := pc
      obtain ⟨start, mids, s0, rfl, hs, hs0, _⟩ := hL
      exact insert_general m start mids p c s0 (newFB f) qs h cur hs hcap
        (by simp only [newFB]; simp only at hs0; omega) g

/-! ### in-order, loss-free delivery -/

theorem decode_trace (mtu ep : Nat) : ∀ (tr : List Step) (s : Nat) (pre : Pend)
    (w : Worker), TraceOK mtu ep s pre tr → Holds (mtu - hdrLen) (getRlist w ep) pre s →
    (∀ st ∈ tr, ∀ p c, st.pre = some (p, c) → p.length ≤ (listCap - 1) * (mtu - hdrLen)) →
    decodeFrom w (tr.map (·.f)) = tr.flatMap Step.done := by
  intro tr
  induction tr with
  | nil => intro s pre w _ _ _; rfl
  | cons a tr ih =>
    intro s pre w ht hl hbig
    obtain ⟨rfl, rfl, h3, h4, h5⟩ := ht
    -- a packet of fewer than `listCap` frames never fills the list
    have hcap : (getRlist w ep).length ≠ listCap := by
      cases hpre : a.pre with
      | none => rw [hpre] at hl; rw [hl]; decide
      | some pc =>
        rw [hpre] at hl
        obtain ⟨start, mids, s0, hL, hs, _, hcnt⟩ := hl
        have := hs.clt
        have := hbig a List.mem_cons_self _ _ hpre
        rw [hL]
        simp only [List.length_cons, listCap, Nat.reduceSub] at this ⊢
        intro he
        have h99 : mids.length = 99 := by omega
        rw [h99] at hcnt
        omega
    obtain ⟨L', hi, hL'⟩ := insert_step (Nat.le_refl _) h4 hl hcap
    simp only [List.map_cons, decodeFrom, processFrame, h3, hi, List.flatMap_cons]
    rw [ih _ _ (setRlist w ep L') h5 (by rwa [getRlist_setRlist, if_pos rfl])
      (fun st hst => hbig st (List.mem_cons_of_mem _ hst))]

/-! ### arbitrary loss, duplication and reordering of the frames of one stream -/

/-- the reassembly list of the stream's epoch at any time: empty, or in sync with the packet in
progress after frame `j` of the trace -/
def Inv (tr : List Step) (L : List FB) : Prop :=
  L = [] ∨ ∃ start mids p c s0 j, ∃ hj : j < tr.length, L = start :: mids ∧
    Sync start mids p c s0 ∧ s0 + mids.length = j ∧ (tr[j]).post = some (p, c)

theorem inv_of_holds (tr : List Step) (k : Nat) (hk : k < tr.length) (L : List FB)
    (h : Holds 0 L (tr[k]).post (k + 1)) : Inv tr L := by
  cases hpost : (tr[k]).post with
  | none => rw [hpost] at h; exact Or.inl h
  | some pc =>
    rw [hpost] at h
    obtain ⟨start, mids, s0, hL, hs, hs0, _⟩ := h
    exact Or.inr ⟨start, mids, pc.1, pc.2, s0, k, hk, hL, hs, by omega, hpost⟩

/-- a frame of the trace hits an empty list (or evicts the list) -/
theorem insertFirst_trace (mtu ep : Nat) (tr : List Step) (ht : TraceOK mtu ep 0 none tr)
    (k : Nat) (hk : k < tr.length) :
    ∃ L' out, insertFirst (newFB (tr[k]).f) = (L', out) ∧ (∀ x ∈ out, x ∈ (tr[k]).done) ∧
      Inv tr L' := by
  obtain ⟨hseq, _, hok, _⟩ := trace_get mtu ep tr 0 none ht k hk
  generalize hst : tr[k] = st at hok hseq
  cases hok with
  | middle p c f hv hc hlt hpl hidx =>
    refine ⟨[], [], insertFirst_noIndex _ hidx rfl, (by intro x hx; cases hx), Or.inl rfl⟩
  | general pre qs h cur f hp hq hh hpl hidx hb =>
    obtain ⟨L', hi, ha⟩ := insertFirst_gen 0 (newFB f) (tailOf pre) qs h cur
      ⟨hq, hh, hpl, hidx, hb, rfl, rfl⟩
    refine ⟨L', qs, hi, ?_, ?_⟩
    · intro x hx; simp only [Step.done]; exact List.mem_append_right _ hx
    · have hsq : (newFB f).seq = k := by simp only [newFB]; simp only at hseq; omega
      rw [hsq] at ha
      exact inv_of_holds tr k hk L' (by rw [hst]; exact ha)

theorem insert_trace (mtu ep : Nat) (tr : List Step) (ht : TraceOK mtu ep 0 none tr)
    (L : List FB) (hinv : Inv tr L) (k : Nat) (hk : k < tr.length) :
    ∃ L' out, GwFrames.insert L (newFB (tr[k]).f) = (L', out) ∧
      (∀ x ∈ out, x ∈ (tr[k]).done) ∧ Inv tr L' := by
  obtain ⟨hseq, _, hok, _⟩ := trace_get mtu ep tr 0 none ht k hk
  have hsq : (newFB (tr[k]).f).seq = k := by simp only [newFB]; omega
  rcases hinv with rfl | ⟨start, mids, p, c, s0, j, hj, rfl, hsync, hj0, hpost⟩
  · exact insertFirst_trace mtu ep tr ht k hk
  · by_cases h1 : k ≤ j
    · refine ⟨start :: mids, [], ?_, nofun,
        Or.inr ⟨start, mids, p, c, s0, j, hj, rfl, hsync, hj0, hpost⟩⟩
      rw [insert_seqFrom _ _ _ s0 hsync.seqs, if_pos (by omega)]
    · by_cases h2 : j + 1 < k ∨ (start :: mids).length = listCap
      · rw [insert_seqFrom _ _ _ s0 hsync.seqs, if_neg (by omega),
          if_pos (h2.imp (fun h => by omega) id)]
        exact insertFirst_trace mtu ep tr ht k hk
      · have hkj : k = j + 1 := by omega
        subst hkj
        have hpre : (tr[j + 1]).pre = some (p, c) := by
          rw [(trace_get mtu ep tr 0 none ht j hj).2.2.2 hk, hpost]
        obtain ⟨L', hi, hL'⟩ := insert_step (Nat.zero_le _) hok (L := start :: mids)
          (by rw [hpre]; exact ⟨start, mids, s0, rfl, hsync, by omega, by simp⟩)
          (fun hc => h2 (Or.inr hc))
        rw [hseq, Nat.zero_add] at hL'
        exact ⟨L', _, hi, fun x hx => hx, inv_of_holds tr (j + 1) hk L' hL'⟩

/-! ### the frames of several streams (distinct epochs) interleaved -/

/-- **Every packet the receiver writes was completed by the trace of one of the streams**, whatever
frames of whatever streams (pairwise distinct epochs) arrive, in whatever order, however often.
The streams are any values `s : σ` that have an epoch and a well-formed trace. -/
theorem decode_subset_multi {σ : Type} (mtu ep : σ → Nat) (tr : σ → List Step) (streams : List σ)
    (ok : ∀ s ∈ streams, TraceOK (mtu s) (ep s) 0 none (tr s))
    (hdist : ∀ s ∈ streams, ∀ s' ∈ streams, ep s = ep s' → s = s') :
    ∀ (ds : List Frame) (w : Worker), (∀ s ∈ streams, Inv (tr s) (getRlist w (ep s))) →
      (∀ d ∈ ds, ∃ s ∈ streams, ∃ k, ∃ hk : k < (tr s).length, d = ((tr s)[k]).f) →
      ∀ x ∈ decodeFrom w ds, ∃ s ∈ streams, x ∈ (tr s).flatMap Step.done := by
  intro ds
  induction ds with
  | nil => intro w _ _ x hx; cases hx
  | cons d ds ih =>
    intro w hinv hd x hx
    obtain ⟨s, hs, k, hk, rfl⟩ := hd d List.mem_cons_self
    have hep : ((tr s)[k]).f.epoch = ep s := (trace_get _ _ _ 0 none (ok s hs) k hk).2.1
    obtain ⟨L', out, hi, hout, hinv'⟩ := insert_trace _ _ _ (ok s hs) _ (hinv s hs) k hk
    simp only [decodeFrom, processFrame, hep, hi] at hx
    rcases List.mem_append.1 hx with hx | hx
    · exact ⟨s, hs, List.mem_flatMap.2 ⟨(tr s)[k], List.getElem_mem hk, hout x hx⟩⟩
    · refine ih (setRlist w (ep s) L') ?_ (fun d' hd' => hd d' (List.mem_cons_of_mem _ hd')) x hx
      intro s' hs'
      by_cases he : ep s' = ep s
      · cases hdist s' hs' s hs he
        rw [getRlist_setRlist, if_pos rfl]; exact hinv'
      · rw [getRlist_setRlist, if_neg he]; exact hinv s' hs'

theorem decode_subset (mtu ep : Nat) (tr : List Step) (ht : TraceOK mtu ep 0 none tr) :
    ∀ (ds : List Frame) (w : Worker), Inv tr (getRlist w ep) →
      (∀ d ∈ ds, ∃ k, ∃ hk : k < tr.length, d = (tr[k]).f) →
      ∀ x ∈ decodeFrom w ds, x ∈ tr.flatMap Step.done := by
  intro ds w hinv hd x hx
  obtain ⟨_, _, h⟩ := decode_subset_multi (σ := Unit) (fun _ => mtu) (fun _ => ep) (fun _ => tr) [()]
    (fun _ _ => ht) (fun _ _ _ _ _ => rfl) ds w (fun _ _ => hinv)
    (fun d hd' => ⟨(), List.mem_singleton.2 rfl, hd d hd'⟩) x hx
  exact h

end Scion.Proofs.GwFrames
