import Scion.Proofs.BigEndian
/-! A word as a sequence of bit fields. `pack` writes fields `(width, value)`, least significant first; `bits off k`
reads a range; the rules `bits_pack_lo/hi/mid` say what a range of a packed word is, field by field, so that a
layout is a list and no proof does arithmetic on the whole word. Big-endian bytes are the fields of width 8. -/
namespace Scion.Util

/-- the fields `(width, value)`, least significant first, packed into a number -/
def pack : List (Nat × Nat) → Nat
  | [] => 0
  | (k, v) :: t => v % 2 ^ k + 2 ^ k * pack t

/-- the `k` bits of `w` from bit `off` upwards -/
def bits (off k w : Nat) : Nat := w / 2 ^ off % 2 ^ k

theorem pack_lt (l : List (Nat × Nat)) : pack l < 2 ^ (l.map (·.1)).sum := by
  induction l with
  | nil => simp [pack]
  | cons f t ih =>
    have := Nat.mod_lt f.2 (Nat.two_pow_pos f.1)
    simp only [pack, List.map_cons, List.sum_cons, Nat.pow_add]
    calc _ < 2 ^ f.1 + 2 ^ f.1 * pack t := by omega
      _ = 2 ^ f.1 * (pack t + 1) := by rw [Nat.mul_add, Nat.mul_one, Nat.add_comm]
      _ ≤ _ := Nat.mul_le_mul_left _ ih

theorem bits_eq_mod_div (off k w : Nat) : bits off k w = w % 2 ^ (off + k) / 2 ^ off := by
  rw [bits, Nat.pow_add, Nat.mod_mul_right_div_self]

/-- a range inside the lowest field -/
theorem bits_pack_lo {off k j : Nat} (h : off + k ≤ j) (v : Nat) (t : List (Nat × Nat)) :
    bits off k (pack ((j, v) :: t)) = bits off k v := by
  rw [bits_eq_mod_div, bits_eq_mod_div, pack, ← Nat.mod_mod_of_dvd _ (Nat.pow_dvd_pow 2 h),
    Nat.add_mul_mod_self_left, Nat.mod_mod, Nat.mod_mod_of_dvd _ (Nat.pow_dvd_pow 2 h)]

/-- a range above the lowest field -/
theorem bits_pack_hi {off k j : Nat} (h : j ≤ off) (v : Nat) (t : List (Nat × Nat)) :
    bits off k (pack ((j, v) :: t)) = bits (off - j) k (pack t) := by
  obtain ⟨d, rfl⟩ := Nat.exists_eq_add_of_le h
  rw [bits, bits, pack, Nat.add_sub_cancel_left, Nat.pow_add, ← Nat.div_div_eq_div_mul,
    Nat.add_mul_div_left _ _ (Nat.two_pow_pos j), Nat.div_eq_of_lt (Nat.mod_lt _ (Nat.two_pow_pos j)),
    Nat.zero_add]

theorem bits_add (off a b w : Nat) : bits off (a + b) w = bits off a w + 2 ^ a * bits (off + a) b w := by
  rw [bits, bits, bits, Nat.pow_add, Nat.mod_mul, Nat.pow_add, Nat.div_div_eq_div_mul]

theorem bits_lt (off k w : Nat) : bits off k w < 2 ^ k := Nat.mod_lt _ (Nat.two_pow_pos k)

/-- a range that starts in the lowest field and ends above it: again a packed word, of two fields -/
theorem bits_pack_mid {off k j : Nat} (h1 : off < j) (h2 : j < off + k) (v : Nat) (t : List (Nat × Nat)) :
    bits off k (pack ((j, v) :: t)) =
      pack [(j - off, bits off (j - off) v), (off + k - j, bits 0 (off + k - j) (pack t))] := by
  obtain ⟨a, rfl⟩ := Nat.exists_eq_add_of_le (Nat.le_of_lt h1)
  obtain ⟨b, rfl⟩ : ∃ b, k = a + b := ⟨off + k - (off + a), by omega⟩
  rw [bits_add, bits_pack_lo (Nat.le_refl _), bits_pack_hi (Nat.le_refl _), Nat.sub_self, Nat.add_sub_cancel_left,
    ← Nat.add_assoc, Nat.add_sub_cancel_left, pack, pack, pack, Nat.mul_zero, Nat.add_zero,
    Nat.mod_eq_of_lt (bits_lt ..), Nat.mod_eq_of_lt (bits_lt ..)]

/-- a range of a range -/
theorem bits_bits {o k k' : Nat} (h : o + k ≤ k') (o' w : Nat) : bits o k (bits o' k' w) = bits (o' + o) k w := by
  rw [bits_eq_mod_div, bits, Nat.mod_mod_of_dvd _ (Nat.pow_dvd_pow 2 h), ← bits_eq_mod_div, bits, bits,
    Nat.div_div_eq_div_mul, Nat.pow_add]

/-- big-endian bytes are 8-bit fields -/
theorem pack_bytes (l : Bytes) : pack (l.map fun b => (8, b.toNat)) = beNat l.reverse := by
  induction l with
  | nil => rfl
  | cons b t ih =>
    rw [List.map_cons, pack, ih, List.reverse_cons, beNat_append, Nat.mod_eq_of_lt b.toNat_lt, Nat.add_comm,
      Nat.mul_comm]
    simp [beNat]

theorem beNat_eq_pack (l : Bytes) : beNat l = pack (l.reverse.map fun b => (8, b.toNat)) := by
  rw [pack_bytes, List.reverse_reverse]

theorem byte_eq_bits (k n : Nat) : n / 256 ^ k % 256 = bits (8 * k) 8 n := by
  rw [bits, Nat.pow_mul]

/-- two flags, written as numbers, are the two low bits -/
theorem two_flags (f : Nat) : (if f % 2 = 1 then 1 else 0) + 2 * (if f / 2 % 2 = 1 then 1 else 0) = f % 4 := by
  have e : ∀ x, (if x % 2 = 1 then 1 else 0) = x % 2 := fun x => by split <;> omega
  rw [e, e, ← Nat.mod_mul]

end Scion.Util

