import Scion.Proofs.PathMeta
import Scion.Gen.Path
/-!
# C19 — Path pointer arithmetic is correct for every path shape

The model (`Scion.Model.PathMeta`) is tied to
`pkg/slayers/path/scion` by `harness/cmd/meta` (exhaustive over the 2^26 meta headers in the
thorough tier).
-/
namespace Scion.C19
open Scion.PathMeta

/-- re-encoding a decoded line reproduces it except for the six reserved bits 18..23 -/
theorem meta_encode_decode (w : Nat) (_h : w < 2^32) :
    encode (decode w) = w - (w / 2^18 % 64) * 2^18 := by
  simp only [encode, decode, Nat.mod_mod]
  -- shifts by 6 bits at a time: `omega` then relates neighbouring quotients with small coefficients
  have e : ∀ k, w / 2 ^ (k + 6) = w / 2 ^ k / 64 := fun k => by
    rw [Nat.pow_add, Nat.div_div_eq_div_mul]
  rw [e 24, e 18, e 12, e 6, e 0, Nat.pow_zero, Nat.div_one]
  omega

theorem meta_decode_encode (m : Hdr) (h : m.InRange) : decode (encode m) = m :=
  PathMeta.decode_encode m h

theorem decode_inRange (w : Nat) : (decode w).InRange :=
  PathMeta.decode_inRange w

/-- the info index computed for a hop is the segment that contains the hop -/
theorem infIdx_spec (m : Hdr) (hf : Nat) (h : hf < sumHops m) :
    segStart m (infIdx m hf) ≤ hf ∧ hf < segStart m (infIdx m hf) + segLen m (infIdx m hf) := by
  unfold infIdx sumHops at *
  split <;> (try split) <;> simp [segStart, segLen] <;> omega

/-- … and it is the only such segment -/
theorem infIdx_unique (m : Hdr) (hf i : Nat) (hi : i < 3)
    (h : segStart m i ≤ hf ∧ hf < segStart m i + segLen m i) : infIdx m hf = i := by
  refine (eq_infIdx_iff.2 ?_).symm
  match i, hi with
  | 0, _ | 1, _ | 2, _ => simp only [segStart, segLen] at h; omega

theorem currINFMatches_iff (b : Base) :
    currINFMatchesCurrHF b = true ↔ b.pm.currINF = infIdx b.pm b.pm.currHF := by
  simp [currINFMatchesCurrHF]

/-- cross-over is reported exactly when the current hop is the last hop of its segment and not
the last hop of the path -/
theorem isXover_iff (b : Base) (hn : b.numHops = sumHops b.pm) (_hc : b.pm.currHF < b.numHops)
    (hm : b.pm.currINF = infIdx b.pm b.pm.currHF) :
    isXover b = true ↔
      (b.pm.currHF + 1 = segStart b.pm b.pm.currINF + segLen b.pm b.pm.currINF
        ∧ b.pm.currHF + 1 < b.numHops) := by
  unfold isXover
  rw [hm, hn] at *
  generalize b.pm = m at *
  unfold infIdx sumHops at *
  -- one case per segment of the current hop and of the next
  split <;> split <;> (try split) <;> (try split) <;> simp [segStart, segLen] <;> omega

/-- whatever the pointers: a reported cross-over has a following hop (in particular a path
without hops never reports one) -/
theorem isXover_imp_next_hop (b : Base) (h : isXover b = true) :
    b.pm.currHF + 1 < b.numHops := by
  unfold isXover at h
  simp at h
  exact h.1

/-- whatever the pointers: first-hop-after-cross-over needs a previous hop and segment -/
theorem isFirstHopAfterXover_imp_prev (b : Base) (h : isFirstHopAfterXover b = true) :
    b.pm.currINF > 0 ∧ b.pm.currHF > 0 := by
  unfold isFirstHopAfterXover at h
  simp at h
  exact ⟨h.1.1, h.1.2⟩

/-- first-hop-after-cross-over is reported exactly when the current hop is the first hop of a
segment that is not the first segment (pointers consistent, segments non-empty) -/
theorem isFirstHopAfterXover_iff (b : Base) (hs : Shape b.pm) (hn : b.numHops = sumHops b.pm)
    (hc : b.pm.currHF < b.numHops) (hm : b.pm.currINF = infIdx b.pm b.pm.currHF) :
    isFirstHopAfterXover b = true ↔
      (b.pm.currINF > 0 ∧ b.pm.currHF = segStart b.pm b.pm.currINF) := by
  unfold isFirstHopAfterXover
  rw [hm, hn] at *
  generalize b.pm = m at *
  unfold infIdx sumHops Shape at *
  split <;> split <;> (try split) <;> (try split) <;> simp [segStart] <;> omega

/-- advancing: before the last hop it moves to the next hop and to that hop's segment, leaving
the pointers consistent; nothing else changes -/
theorem incPath_spec (b : Base) (hinf : b.numINF > 0) (h : b.pm.currHF + 1 < b.numHops) :
    ∃ b', incPath b = .ok b' ∧ b'.pm.currHF = b.pm.currHF + 1 ∧
      currINFMatchesCurrHF b' = true ∧ b'.numHops = b.numHops ∧ b'.numINF = b.numINF ∧
      b'.pm.s0 = b.pm.s0 ∧ b'.pm.s1 = b.pm.s1 ∧ b'.pm.s2 = b.pm.s2 := by
  rw [incPath, if_neg (by omega), if_neg (by omega)]
  exact ⟨_, rfl, rfl, by simp [currINFMatchesCurrHF, infIdx], rfl, rfl, rfl, rfl, rfl⟩

/-- … and at (or past) the last hop it refuses -/
theorem incPath_at_end (b : Base) (h : b.pm.currHF + 1 ≥ b.numHops) :
    ∃ e, incPath b = .error e := by
  unfold incPath
  by_cases h1 : b.numINF = 0 <;> simp [h1, h]

def iterInc : Nat → Base → Except Base Base
  | 0, b => .ok b
  | n+1, b => match incPath b with
    | .ok b' => iterInc n b'
    | .error e => .error e

/-- starting at hop 0, `k` advances reach hop `k` (for every `k` up to the last hop), with the
info pointer on the segment containing hop `k`: the walk visits every hop and segment -/
theorem iterate_incPath_visits (b : Base) (hinf : b.numINF > 0) (j k : Nat)
    (hj : b.pm.currHF = j) (hk : j + k < b.numHops) :
    ∃ b', iterInc k b = .ok b' ∧ b'.pm.currHF = j + k ∧ b'.numHops = b.numHops ∧
      (k > 0 → b'.pm.currINF = infIdx b.pm (j + k)) := by
  induction k generalizing b j with
  | zero => exact ⟨b, rfl, hj, rfl, nofun⟩
  | succ k ih =>
    obtain ⟨b1, hb1, hhf, hmatch, hnh, hni, e0, e1, -⟩ := incPath_spec b hinf (by omega)
    obtain ⟨b2, hb2, hhf2, hnh2, hinf2⟩ := ih b1 (by omega) (j + 1) (by omega) (by omega)
    refine ⟨b2, by simp only [iterInc, hb1, hb2], by omega, by omega, fun _ => ?_⟩
    rw [← infIdx_congr e0 e1]
    cases k with
    | zero =>
      -- the first step lands on the segment of hop `j + 1`
      cases hb2
      rw [(currINFMatches_iff b1).1 hmatch, hhf, hj]
    | succ k =>
      rw [hinf2 (by omega)]
      congr 1; omega

/-- reversing twice restores pointers and segment lengths (pointers in range) -/
theorem reverse_involutive (b : Base) (hs : Shape b.pm) (hv : b.numINF = nonEmptySegs b.pm)
    (hn : b.numHops = sumHops b.pm) (hi : b.pm.currINF < b.numINF) (hc : b.pm.currHF < b.numHops) :
    ∃ b1, reverseMeta b = some b1 ∧ reverseMeta b1 = some b := by
  have h3 : nonEmptySegs b.pm ≤ 3 := by have := nonEmptySegs_cases b.pm hs; omega
  have h64 := hs.2.2
  unfold sumHops at hn
  -- the mirror image has its pointers in range too, and mirroring twice is the identity
  refine ⟨_, reverseMeta_eq hi hc (by omega) (by omega), ?_⟩
  rw [reverseMeta_eq (b := mirror b) (by show b.numINF - 1 - _ < b.numINF; omega)
    (by show b.numHops - 1 - _ < b.numHops; omega) (by show b.numINF ≤ _; omega) (by show b.numHops ≤ _; omega),
    mirror_mirror b hi hc]

theorem swapEnds_eq_reverse {α} (l : List α) (h : l.length ≤ 3) : swapEnds l = l.reverse := by
  match l, h with
  | [], _ => rfl
  | [_], _ => rfl
  | [_, _], _ => rfl
  | [_, _, _], _ => rfl
  | _ :: _ :: _ :: _ :: _, h => simp at h

theorem reverseInfos_involutive (l : List Info) (h : l.length ≤ 3) :
    reverseInfos (reverseInfos l) = l := by
  -- reversing twice and flipping every ConsDir twice
  unfold reverseInfos
  rw [swapEnds_eq_reverse l h, swapEnds_eq_reverse _ (by simpa using h)]
  simp only [List.map_reverse, List.reverse_reverse, List.map_map]
  exact (List.map_congr_left fun i _ => by simp).trans (List.map_id l)

/-! Non-vacuity: a 3-segment path (2+3+2 hops) at hop 1 meets every hypothesis above. -/
example :
    let m : Hdr := ⟨0, 1, 2, 3, 2⟩
    Shape m ∧ baseDecode m = some ⟨m, 3, 7⟩ ∧ isXover ⟨m, 3, 7⟩ = true ∧
    (∃ b', incPath ⟨m, 3, 7⟩ = .ok b' ∧ isFirstHopAfterXover b' = true) := by
  refine ⟨by simp [Shape], by decide, by decide, ?_⟩
  exact ⟨_, rfl, by decide⟩

/-! Constants regenerated from the source (T3) agree with the ones the model was written for. -/
theorem gen_consts :
    Scion.Gen.Path.MaxHops = Scion.PathMeta.maxHops ∧ Scion.Gen.Path.MetaLen = 4 := by decide
end Scion.C19
