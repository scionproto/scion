import Scion.Proofs.RouterProcess
import Scion.Proofs.RouterExamples
import Scion.Gen.Router1
/-!
# C05 — Routers reject impossible source or destination ISD-AS and transit spoofing

Property theorems only. Model: `Scion.Model.Router` (see C01 for the tie). "Entering from
another AS" is `ing.ifID ≠ 0` (external links carry their non-zero interface id; internal and
sibling links report 0, exactly the distinction `process` itself makes).
-/
namespace Scion.C05
open Scion.Util Scion.Router
open Scion.PathMeta hiding Info

abbrev run (cfg : Cfg) (mac : Mac) (resolve : Cfg → Hd → ResolveOut) (now : Nat) (ing : Ingress)
    (h : Hd) (pm : Hdr) (raw : Bytes) : Disp × Bytes := process cfg mac resolve now ing h pm raw

/-- **(1)** a packet entering from another AS that claims the local AS as source is rejected -/
theorem external_local_src_rejected (cfg mac resolve now ing h pm raw)
    (hext : ing.ifID ≠ 0) (hsrc : h.srcIA = cfg.localIA) :
    (run cfg mac resolve now ing h pm raw).1.accepting = false :=
  Bool.eq_false_iff.2 fun hacc => by
    obtain ⟨s0, s1, p⟩ := process_accepting_inv hacc
    exact (stSrcDst_ends.ok p.srcdst).2.extSrc hext hsrc

/-- an accepted packet ends up delivered exactly when its destination is the local AS -/
theorem accepted_deliver_iff_dst_local (cfg mac resolve now ing h pm raw)
    (hacc : (run cfg mac resolve now ing h pm raw).1.accepting = true) :
    (run cfg mac resolve now ing h pm raw).1.isDeliver = true ↔ h.dstIA = cfg.localIA := by
  obtain ⟨s0, s1, p, ⟨hd, e⟩ | ⟨hd, s5, l, o⟩⟩ := process_accepting_cases hacc
  · unfold run at hacc ⊢
    rw [e] at hacc ⊢
    exact ⟨fun _ => hd, fun _ => inbound_accepting_deliver _ _ hacc⟩
  · simp [run, o.disp, Disp.isDeliver, hd]

/-- **(2)** from another AS: delivered locally iff at the last hop and destined to the local AS;
and a packet for which exactly one of the two holds is never accepted -/
theorem external_deliver_iff_last_and_local (cfg mac resolve now ing h pm raw)
    (hext : ing.ifID ≠ 0)
    (hacc : (run cfg mac resolve now ing h pm raw).1.accepting = true) :
    ((run cfg mac resolve now ing h pm raw).1.isDeliver = true ↔
      (isLastHop (base h pm) = true ∧ h.dstIA = cfg.localIA)) ∧
    (isLastHop (base h pm) = true ↔ h.dstIA = cfg.localIA) := by
  obtain ⟨s0, s1, p⟩ := process_accepting_inv hacc
  have a := stParse_ok p.parse
  have b := stSegID_ends.ok p.segid
  have c := (stSrcDst_ends.ok p.srcdst).2.extDst hext
  rw [b.hpm, a.hpm] at c
  refine ⟨?_, c⟩
  rw [accepted_deliver_iff_dst_local cfg mac resolve now ing h pm raw hacc]
  exact ⟨fun hd => ⟨c.mpr hd, hd⟩, And.right⟩

theorem external_last_xor_local_rejected (cfg mac resolve now ing h pm raw)
    (hext : ing.ifID ≠ 0)
    (hx : ¬ (isLastHop (base h pm) = true ↔ h.dstIA = cfg.localIA)) :
    (run cfg mac resolve now ing h pm raw).1.accepting = false :=
  Bool.eq_false_iff.2 fun hacc =>
    hx (external_deliver_iff_last_and_local cfg mac resolve now ing h pm raw hext hacc).2

/-- the "if" half: at the last hop, destination local, every check passing ⇒ the packet is
handed to local delivery (delivered, or answered by the destination resolution) -/
theorem last_local_handed_to_delivery (cfg mac resolve now ing h pm raw s0 s1)
    (p : Passed cfg mac now ing h pm raw s0 s1) (hd : h.dstIA = cfg.localIA) :
    run cfg mac resolve now ing h pm raw = inbound (resolve cfg h) s1 := by
  show process cfg mac resolve now ing h pm raw = _
  rw [process_of_passed p]
  unfold tail
  simp [hd]

/-- **(3)** from inside the AS: accepted ⇒ forwarded (never delivered), destination not local,
and on the first hop the source is the local AS (with a usable source host address) -/
theorem internal_accept (cfg mac resolve now ing h pm raw)
    (hint : ing.ifID = 0)
    (hacc : (run cfg mac resolve now ing h pm raw).1.accepting = true) :
    (run cfg mac resolve now ing h pm raw).1.isForward = true ∧
    h.dstIA ≠ cfg.localIA ∧ (pm.currHF = 0 → h.srcIA = cfg.localIA) ∧
    (h.srcIA = cfg.localIA → srcHostBad h = false) := by
  obtain ⟨s0, s1, p, hc⟩ := process_accepting_cases hacc
  have c := (stSrcDst_ends.ok p.srcdst).2
  have hd := c.intDst hint
  refine ⟨?_, hd, fun h0 => c.intFirst hint ?_, c.srcHost⟩
  · obtain ⟨hd', _⟩ | ⟨_, s5, l, o⟩ := hc
    · exact absurd hd' hd
    · simp [run, o.disp, Disp.isForward]
  · rw [(stSegID_ends.ok p.segid).hpm, (stParse_ok p.parse).hpm]; exact h0

/-- the interface by which the packet entered the AS, read from the received packet: the
travel-direction ingress of the current hop, or — right after a cross-over done by the ingress
router — of the previous hop with the previous info field -/
def entryInterface (h : Hd) (pm : Hdr) (raw : Bytes) (hop : Hop) (inf : Info) (peering : Bool) : Option Nat :=
  ingressInterface h ⟨raw, pm, hop, inf, peering, false⟩

/-- **(4)** from inside the AS and not on its first hop: accepted only if it came over the
*sibling* link that owns the interface by which it entered the AS -/
theorem transit_only_via_owning_sibling (cfg mac resolve now ing h pm raw)
    (hint : ing.ifID = 0) (hnf : pm.currHF ≠ 0)
    (hacc : (run cfg mac resolve now ing h pm raw).1.accepting = true) :
    ∃ hop inf peering id l,
      getHop h raw pm.currHF = some hop ∧ getInfo h raw pm.currINF = some inf ∧
      determinePeer pm inf = some peering ∧
      entryInterface h pm raw hop inf peering = some id ∧
      cfg.ifaces id = some l ∧ l.linkId = ing.linkId ∧ l.scope = .sibling := by
  obtain ⟨s0, s1, p⟩ := process_accepting_inv hacc
  have a := stParse_ok p.parse
  -- from inside the AS the SegID stage leaves the state alone
  obtain rfl : s0 = s1 := by simpa [stSegID, ingressUpdates, hint] using p.segid
  obtain ⟨id, l, hid, hl, h1, h2⟩ := (stTransit_ends.ok p.transit).2 (by rw [a.hpm]; exact hnf) hint
  refine ⟨s0.hop, s0.inf, s0.peering, id, l, a.hop, a.inf, a.peer, ?_, hl, h1, h2⟩
  unfold entryInterface
  rw [← a.buf, ← a.hpm, ← a.eff]
  exact hid

/-- a packet is delivered only if it came from another AS -/
theorem deliver_only_from_external (cfg mac resolve now ing h pm raw)
    (hd : (run cfg mac resolve now ing h pm raw).1.isDeliver = true) : ing.ifID ≠ 0 := by
  intro hint
  have hacc : (run cfg mac resolve now ing h pm raw).1.accepting = true := by
    cases hx : (run cfg mac resolve now ing h pm raw).1 <;> simp_all [Disp.isDeliver, Disp.accepting]
  exact (internal_accept cfg mac resolve now ing h pm raw hint hacc).2.1
    ((accepted_deliver_iff_dst_local cfg mac resolve now ing h pm raw hacc).1 hd)

/-- the statements above hold of raw packets: `processPkt` accepts only through `process` -/
theorem processPkt_accepting (cfg mac resolve now ing) (raw : Bytes)
    (hacc : (processPkt cfg mac resolve now ing raw).1.accepting = true) :
    ∃ h pm, parse raw = .ok h pm ∧
      processPkt cfg mac resolve now ing raw = run cfg mac resolve now ing h pm raw :=
  processPkt_accepting_inv hacc

/-! ### non-vacuity -/

example : (processPkt Ex.cfg Ex.idMac resolveLocal Ex.now ⟨0, 0⟩ Ex.firstHop).1 = .forward 2 :=
  congrArg Prod.fst Ex.firstHop_out
example : (processPkt Ex.cfg Ex.idMac resolveLocal Ex.now ⟨1, 10⟩ Ex.lastHop).1 =
    .deliver 0 [10, 0, 0, 2] 80 := congrArg Prod.fst Ex.lastHop_out
/-- the first-hop packet replayed with a foreign source AS is answered with InvalidSourceAddress -/
example : (processPkt Ex.cfg Ex.idMac resolveLocal Ex.now ⟨0, 0⟩ (Ex.firstHop.set 27 0x13)).1 =
    .slow PP cBadSrc 20 := by decide
/-- a transit packet injected over the internal link (not a sibling link) is dropped -/
example : (processPkt Ex.cfg Ex.idMac resolveLocal Ex.now ⟨0, 0⟩ Ex.xover).1 = .discard := by decide

/-! ### T3 -/

/-- the guards of the three checks the model was written against -/
theorem guards :
    Scion.Gen.Router1.conds_validateTransitUnderlaySrc =
      ["p.path.IsFirstHop() || p.ingressFromLink != 0",
       "ingressLink != p.pkt.Link || ingressLink.Scope() != Sibling"] ∧
    Scion.Gen.Router1.conds_validateSrcDstIA =
      ["p.ingressFromLink == 0", "p.path.IsFirstHop() && !srcIsLocal", "dstIsLocal", "srcIsLocal",
       "p.path.IsLastHop() != dstIsLocal"] ∧
    Scion.Gen.Router1.conds_validateSrcHost =
      ["p.scionLayer.SrcIA != p.d.localIA",
       "err == nil && src.Type() == addr.HostTypeIP && src.IP().Is4In6()", "err == nil"] :=
  ⟨rfl, rfl, rfl⟩

theorem stage_order : Scion.Gen.Router1.processCalls = Router.processCallOrder := rfl

theorem scmp_requests :
    Scion.Gen.Router1.req_respInvalidSrcIA =
      ["slowPathType(slayers.SCMPTypeParameterProblem)|slayers.SCMPCodeInvalidSourceAddress|uint16(slayers.CmnHdrLen + addr.IABytes)"] ∧
    Scion.Gen.Router1.req_respInvalidDstIA =
      ["slowPathType(slayers.SCMPTypeParameterProblem)|slayers.SCMPCodeInvalidDestinationAddress|uint16(slayers.CmnHdrLen)"] ∧
    Router.cBadSrc = Scion.Gen.Router1.SCMPCodeInvalidSourceAddress ∧
    Router.cBadDst = Scion.Gen.Router1.SCMPCodeInvalidDestinationAddress ∧
    Router.CmnHdrLen + 8 = Scion.Gen.Router1.CmnHdrLen + Scion.Gen.Router1.IABytes :=
  ⟨rfl, rfl, rfl, rfl, rfl⟩

end Scion.C05
