import Scion.Model.Resolve
import Scion.Proofs.Resolve
import Scion.Gen.RcfgPort
/-!
# C11 — local delivery uses the documented underlay destination port

*Statement.* The router in the destination AS sends a packet for an IP host to the layer-4 port
derived from the packet (UDP or TCP destination port, SCMP echo/traceroute reply identifier,
quoted UDP source port of an SCMP error) if that port lies in the AS's configured dispatched-port
range, and to the default end-host port 30041 otherwise.  Packets for a service address go to the
address and port of a registered instance of that service.  The configured range (from the
topology, possibly overridden by the router configuration) is honoured whatever the order in
which the router is configured.

Model: `Scion.Resolve` (tied to the running router by engine `rcfg`).  Helper lemmas:
`Scion.Proofs.Resolve`.  Facts regenerated from the source: `Scion.Gen.RcfgPort`.
-/
namespace Scion.C11
open Scion.Resolve Scion.Util

/-! ### 1. the port derived from the packet -/

/-- UDP: the destination port (bytes 2..3 of a header of at least 8 bytes). -/
theorem udp_port (src dst : Nat) (rest : Bytes) (q : Quote) (hd : dst < 65536)
    (hl : 4 ≤ rest.length) :
    dstScionPort l4UDP (be16 src ++ be16 dst ++ rest) q = .ok dst :=
  Proofs.udp_port src dst rest q hd hl

/-- TCP counts like UDP (header of at least 20 bytes). -/
theorem tcp_port (src dst : Nat) (rest : Bytes) (q : Quote) (hd : dst < 65536)
    (hl : 16 ≤ rest.length) :
    dstScionPort l4TCP (be16 src ++ be16 dst ++ rest) q = .ok dst :=
  Proofs.tcp_port src dst rest q hd hl

/-- SCMP echo reply: the identifier. -/
theorem echo_reply_port (code c1 c2 : UInt8) (id : Nat) (rest : Bytes) (q : Quote)
    (hd : id < 65536) (hl : 2 ≤ rest.length) :
    dstScionPort l4SCMP ([129, code, c1, c2] ++ be16 id ++ rest) q = .ok id :=
  Proofs.echo_reply_port code c1 c2 id rest q hd hl

/-- SCMP traceroute reply: the identifier. -/
theorem traceroute_reply_port (code c1 c2 : UInt8) (id : Nat) (rest : Bytes) (q : Quote)
    (hd : id < 65536) (hl : 18 ≤ rest.length) :
    dstScionPort l4SCMP ([131, code, c1, c2] ++ be16 id ++ rest) q = .ok id :=
  Proofs.traceroute_reply_port code c1 c2 id rest q hd hl

/-- SCMP error (any of the five known types, with its complete type-specific header and a
non-empty quote): the port named by the quoted packet. -/
theorem scmp_error_port (t code c1 c2 : UInt8) (hdr quote : Bytes) (q : Quote)
    (ht : scmpErrHdrLen t.toNat = some hdr.length) (hq : quote ≠ []) :
    dstScionPort l4SCMP ([t, code, c1, c2] ++ hdr ++ quote) q = quotePort q :=
  Proofs.scmp_error_port t code c1 c2 hdr quote q ht hq

/-- … which is the quoted UDP source port (0 counts as truncated: the packet is dropped), or the
identifier of a quoted echo / traceroute request. -/
theorem quote_port :
    (∀ src, src ≠ 0 → quotePort (.udp src) = .ok src) ∧
    quotePort (.udp 0) = .error .port ∧
    (∀ id, quotePort (.scmp 128 (some id)) = .ok id) ∧
    (∀ id, quotePort (.scmp 130 (some id)) = .ok id) := by
  refine ⟨fun src h => by simp [quotePort, h], rfl, fun _ => rfl, fun _ => rfl⟩

/-- echo / traceroute *requests* and every other layer-4 protocol carry no port to dispatch on:
the default end-host port. -/
theorem default_port :
    (∀ code c1 c2 rest q, dstScionPort l4SCMP ([128, code, c1, c2] ++ rest) q = .ok endhostPort) ∧
    (∀ code c1 c2 rest q, dstScionPort l4SCMP ([130, code, c1, c2] ++ rest) q = .ok endhostPort) ∧
    (∀ proto pld q, proto ≠ l4UDP → proto ≠ l4TCP → proto ≠ l4SCMP →
      dstScionPort proto pld q = .ok endhostPort) := by
  refine ⟨fun _ _ _ _ _ => rfl, fun _ _ _ _ _ => rfl, fun proto pld q h1 h2 h3 => ?_⟩
  simp [dstScionPort, h1, h2, h3]

/-- the length guards of the Go code are sufficient for its slice accesses: whenever a guard lets
a header through, the 16-bit read behind it is in range (the model's `none` branches, which stand
for an index-out-of-range panic, are dead) -/
theorem guards_suffice (bs : Bytes) :
    (8 ≤ bs.length → (u16At bs 2).isSome = true) ∧      -- UDP (and TCP with 20)
    (4 ≤ bs.length → (u16At bs 0).isSome = true) :=     -- echo (and traceroute with 20)
  ⟨fun h => Proofs.u16At_isSome bs 2 (by omega), fun h => Proofs.u16At_isSome bs 0 (by omega)⟩

/-! ### 2. from the derived port to the underlay destination -/

theorem apply_spec (r : Range) (p : Nat) :
    r.apply p = if r.start ≤ p ∧ p ≤ r.stop then p else r.redirect := by
  unfold Range.apply
  by_cases h : p < r.start ∨ p > r.stop
  · rw [if_pos h, if_neg (by omega)]
  · rw [if_neg h, if_pos (by omega)]

/-- **resolve_port_spec.** On a router whose internal link applies the range `[s, e]` with
redirect port 30041, a packet for a routable IP host from which the port `p` is derived is sent
to that host, to port `p` if `s ≤ p ≤ e` and to port 30041 otherwise. -/
theorem resolve_port_spec (c : Cfg) (s e : Nat) (bs : Bytes) (proto : Nat) (pld : Bytes)
    (q : Quote) (p : Nat)
    (hlink : c.link = some ⟨s, e, endhostPort⟩)
    (h4 : is4In6 bs = false) (hz : allZero bs = false)
    (hp : dstScionPort proto pld q = .ok p) :
    resolveLocalDst c (.ip bs) proto pld q =
      .ok [(bs, if s ≤ p ∧ p ≤ e then p else 30041)] := by
  simp [resolveLocalDst, hlink, hp, linkResolve, h4, hz, apply_spec, endhostPort]

/-- a packet whose port cannot be derived (truncated header, unsupported SCMP, …) is dropped,
never sent to a guessed port -/
theorem resolve_port_error (c : Cfg) (r : Range) (bs : Bytes) (proto : Nat) (pld : Bytes)
    (q : Quote) (err : Err) (hlink : c.link = some r)
    (hp : dstScionPort proto pld q = .error err) :
    resolveLocalDst c (.ip bs) proto pld q = .error err := by
  simp [resolveLocalDst, hlink, hp]

/-- the whole-range and empty-range cases: with `"all"` = `(1, 65535)` every port except 0 is
delivered directly; with `"-"` = `(0, 0)` only port 0 is. -/
theorem all_and_empty_range (p : Nat) (hp : p < 65536) :
    (Range.apply ⟨1, 65535, endhostPort⟩ p = if p = 0 then 30041 else p) ∧
    (Range.apply ⟨0, 0, endhostPort⟩ p = if p = 0 then 0 else 30041) := by
  rw [apply_spec, apply_spec]
  dsimp only [endhostPort]
  by_cases h : p = 0
  · subst h; exact ⟨rfl, rfl⟩
  · rw [if_neg h, if_neg h, if_pos (by omega), if_neg (by omega)]
    exact ⟨rfl, rfl⟩

/-! ### 3. service addresses -/

/-- **svc_spec.** A packet for a service address goes to a registered instance of that service
(multicast flag ignored): every candidate destination is the IP of an instance registered under
the base service number, with that instance's port subject to the same range rule; the packet's
own layer-4 content plays no role; without an instance the answer is `ErrNoSVCBackend`. -/
theorem svc_spec (c : Cfg) (r : Range) (v proto : Nat) (pld : Bytes) (q : Quote)
    (hlink : c.link = some r) :
    (∀ as, resolveLocalDst c (.svc v) proto pld q = .ok as →
       as ≠ [] ∧ ∀ a ∈ as, ∃ ip port, (svcBase v, ip, port) ∈ c.svcs ∧ a = (ip, r.apply port)) ∧
    ((∀ ip port, (svcBase v, ip, port) ∉ c.svcs) →
       resolveLocalDst c (.svc v) proto pld q = .error .noSvc) ∧
    (∀ proto' pld' q', resolveLocalDst c (.svc v) proto' pld' q' =
       resolveLocalDst c (.svc v) proto pld q) :=
  Proofs.svc_spec c r v proto pld q hlink

/-- a registered instance is a candidate: completeness of the lookup -/
theorem svc_complete (c : Cfg) (r : Range) (v proto : Nat) (pld : Bytes) (q : Quote)
    (ip : Bytes) (port : Nat) (hlink : c.link = some r) (hm : (svcBase v, ip, port) ∈ c.svcs) :
    ∃ as, resolveLocalDst c (.svc v) proto pld q = .ok as ∧ (ip, r.apply port) ∈ as :=
  Proofs.svc_complete c r v proto pld q ip port hlink hm

/-- registration: after `AddSvc` the instance is registered, after `DelSvc` it is not, other
instances are untouched (the table is a set) -/
theorem svc_table (c : Cfg) (svc : Nat) (ip : Bytes) (port : Nat) (hv : validSvcAddr ip = true)
    (hnd : c.svcs.Nodup) :
    (svc, ip, port) ∈ (step c (.addSvc svc ip port)).svcs ∧
    (svc, ip, port) ∉ (step c (.delSvc svc ip port)).svcs ∧
    (∀ x, x ≠ (svc, ip, port) →
      ((x ∈ (step c (.addSvc svc ip port)).svcs ↔ x ∈ c.svcs) ∧
       (x ∈ (step c (.delSvc svc ip port)).svcs ↔ x ∈ c.svcs))) ∧
    (step c (.addSvc svc ip port)).svcs.Nodup ∧ (step c (.delSvc svc ip port)).svcs.Nodup :=
  Proofs.svc_table c svc ip port hv hnd

/-! ### 4. the configured range is honoured whatever the configuration order -/

/-- **effective_range.** After *any* sequence of configuration calls (any interleaving, repeated
`SetPortRange`, repeated `AddInternalInterface`, …) that creates the internal link and sets the
range at least once, the range the internal link applies is the one asked for by the *last*
`SetPortRange`, with redirect port 30041. -/
theorem effective_range (ovStart ovStop : Option Nat) (cs : List Call) (s e : Nat)
    (hI : Call.addInternal ∈ cs) (hP : lastSet cs = some (s, e)) :
    (run (Cfg.init ovStart ovStop) cs).link = some (wanted ovStart ovStop s e) :=
  Proofs.effective_range ovStart ovStop cs s e hI hP

/-- **config_order_irrelevant.** Take the calls `ConfigDataplane` issues (one `SetPortRange(s, e)`,
`AddInternalInterface`, any number of other calls): for *every permutation* of them the internal
link ends up with the configured range. -/
theorem config_order_irrelevant (ovStart ovStop : Option Nat) (cs cs' : List Call) (s e : Nat)
    (hperm : cs.Perm cs')
    (hI : Call.addInternal ∈ cs)
    (hP : cs.filter Call.isSetPortRange = [.setPortRange s e]) :
    (run (Cfg.init ovStart ovStop) cs').link = some (wanted ovStart ovStop s e) :=
  Proofs.config_order_irrelevant ovStart ovStop cs cs' s e hperm hI hP

/-- the same for the whole observable behaviour: two orders of the same calls resolve every
packet for an IP host identically -/
theorem resolve_order_irrelevant (ovStart ovStop : Option Nat) (cs cs' : List Call) (s e : Nat)
    (hperm : cs.Perm cs') (hI : Call.addInternal ∈ cs)
    (hP : cs.filter Call.isSetPortRange = [.setPortRange s e])
    (bs : Bytes) (proto : Nat) (pld : Bytes) (q : Quote) :
    resolveLocalDst (run (Cfg.init ovStart ovStop) cs') (.ip bs) proto pld q =
    resolveLocalDst (run (Cfg.init ovStart ovStop) cs) (.ip bs) proto pld q := by
  have h1 := config_order_irrelevant ovStart ovStop cs cs' s e hperm hI hP
  have h2 := config_order_irrelevant ovStart ovStop cs cs s e (List.Perm.refl _) hI hP
  simp [resolveLocalDst, h1, h2, linkResolve]

/-- statement-level corollary: configured in any order with topology range `[s, e]` (no
override), a UDP packet for a routable IP host goes to its destination port if `s ≤ port ≤ e`
and to 30041 otherwise -/
theorem udp_delivery_any_order (cs cs' : List Call) (s e : Nat) (hperm : cs.Perm cs')
    (hI : Call.addInternal ∈ cs)
    (hP : cs.filter Call.isSetPortRange = [.setPortRange s e])
    (bs : Bytes) (h4 : is4In6 bs = false) (hz : allZero bs = false)
    (src dst : Nat) (rest : Bytes) (q : Quote) (hd : dst < 65536) (hl : 4 ≤ rest.length) :
    resolveLocalDst (run (Cfg.init none none) cs') (.ip bs) l4UDP
        (be16 src ++ be16 dst ++ rest) q =
      .ok [(bs, if s ≤ dst ∧ dst ≤ e then dst else 30041)] := by
  have h := config_order_irrelevant none none cs cs' s e hperm hI hP
  exact resolve_port_spec _ s e bs _ _ q dst (by simpa [wanted, override] using h) h4 hz
    (udp_port src dst rest q hd hl)

/-! ### 5. the topology's text form of the range -/

/-- `"-"` (and nothing) is the empty range `(0, 0)`, `"all"` is `(1, 65535)` -/
theorem range_text_special :
    validatePortRange [] = some (0, 0) ∧ validatePortRange ['-'] = some (0, 0) ∧
    validatePortRange ['a', 'l', 'l'] = some (1, 65535) ∧
    validatePortRange ['A', 'L', 'L'] = some (1, 65535) := by
  decide

/-- `"<a>-<b>"` with decimal digit strings: accepted iff `1 ≤ a ≤ b ≤ 65535`, and then it means
`[a, b]` -/
theorem range_text_spec (da db : List Char) (ha : da ≠ []) (hb : db ≠ [])
    (hda : da.all isDigit = true) (hdb : db.all isDigit = true) :
    validatePortRange (da ++ '-' :: db) =
      if 1 ≤ decVal da ∧ decVal da ≤ decVal db ∧ decVal db ≤ 65535
      then some (decVal da, decVal db) else none :=
  Proofs.range_text_spec da db ha hb hda hdb

/-! ### 6. facts regenerated from the source (T3) -/

/-- the default end-host port of the model is the constant of the code, and `topology.EndhostPort`
is still defined as that constant -/
theorem gen_endhost_port :
    Scion.Gen.RcfgPort.EndhostPort = endhostPort ∧
    Scion.Gen.RcfgPort.topologyEndhostPort = "underlay.EndhostPort" := by
  decide

/-- the redirect condition in the text of `internalLink.Resolve` is the one of the model
(`port < start || port > end`), for all values -/
theorem gen_redirect_cond (r : Range) (p : Nat) :
    r.apply p = if Scion.Gen.RcfgPort.redirectCond p r.start r.stop then r.redirect else p := by
  unfold Range.apply Scion.Gen.RcfgPort.redirectCond
  by_cases h1 : p < r.start <;> by_cases h2 : p > r.stop <;> simp [h1, h2]

/-- the propagation chain in the text of the source is the one `step` models:
`ConfigDataplane` → `Connector.SetPortRange` (override) → `dataPlane.SetPortRange` → every
provider's `SetDispatchPorts(start, end, EndhostPort)` → provider fields **and** the live internal
link; `NewInternalLink` copies the provider fields; `Resolve` replaces the port by the redirect
port and writes it into the packet's address; `resolveLocalDst` hands the derived port on. -/
theorem gen_propagation :
    open Scion.Gen.RcfgPort in
    configDataplaneCalls = [["dp.SetPortRange", "cfg.Topo.PortRange()"]] ∧
    connectorSetPortRangeParams = ["start", "end"] ∧
    connectorOverrides = [("c.DispatchedPortStart != nil", "start = uint16(*c.DispatchedPortStart)"),
                          ("c.DispatchedPortEnd != nil", "end = uint16(*c.DispatchedPortEnd)")] ∧
    connectorCalls = [["c.DataPlane.SetPortRange", "start", "end"]] ∧
    setPortRangeParams = ["start", "end"] ∧
    setPortRangeAssigns = [("d.dispatchedPortStart", "start"), ("d.dispatchedPortEnd", "end")] ∧
    setPortRangeLoops = ["u in d.underlays"] ∧
    setPortRangeLoopCalls = [["u.SetDispatchPorts", "start", "end", "topology.EndhostPort"]] ∧
    setDispatchPortsParams = ["start", "end", "redirect"] ∧
    setDispatchPortsAssigns =
      [("u.dispatchStart", "start"), ("u.dispatchEnd", "end"), ("u.dispatchRedirect", "redirect"),
       ("c", "u.internalConnection"),
       ("il.dispatchStart", "start"), ("il.dispatchEnd", "end"), ("il.dispatchRedirect", "redirect")] ∧
    newInternalLinkInit =
      [("dispatchStart", "u.dispatchStart"), ("dispatchEnd", "u.dispatchEnd"),
       ("dispatchRedirect", "u.dispatchRedirect")] ∧
    redirectAssign = [("port", "l.dispatchRedirect")] ∧
    resolveUDPAddr = [("IP", "dstAddr.AsSlice()"), ("Zone", "dstAddr.Zone()"), ("Port", "int(port)")] ∧
    resolveLocalDstCalls = [["d.interfaces[packet.egress].Resolve", "packet", "a", "p"]] :=
  ⟨rfl, rfl, rfl, rfl, rfl, rfl, rfl, rfl, rfl, rfl, rfl, rfl, rfl, rfl⟩

/-! ### non-vacuity -/

/-- the hypotheses are satisfiable: the order the real start-up uses (range last) is a permutation
of the order the unit tests use (range first); with the recommended transition range, port 80
goes to 30041 and port 31500 is delivered directly -/
example :
    resolveLocalDst
      (run (Cfg.init none none)
        [Call.setKey, .addInternal, .addExternal, .addSibling, .setPortRange 31000 32767])
      (.ip [10, 0, 0, 7]) l4UDP (be16 4242 ++ be16 80 ++ [0, 8, 0, 0]) .other
      = .ok [([10, 0, 0, 7], 30041)] ∧
    resolveLocalDst
      (run (Cfg.init none none)
        [Call.setKey, .addInternal, .addExternal, .addSibling, .setPortRange 31000 32767])
      (.ip [10, 0, 0, 7]) l4UDP (be16 4242 ++ be16 31500 ++ [0, 8, 0, 0]) .other
      = .ok [([10, 0, 0, 7], 31500)] := by
  have hperm : [Call.setPortRange 31000 32767, .addInternal, .setKey, .addExternal, .addSibling].Perm
      [Call.setKey, .addInternal, .addExternal, .addSibling, .setPortRange 31000 32767] := by
    decide
  have h := fun dst hd => udp_delivery_any_order _ _ 31000 32767 hperm (by decide) (by decide)
    [10, 0, 0, 7] (by decide) (by decide) 4242 dst [0, 8, 0, 0] .other hd (by decide)
  exact ⟨by simpa using h 80 (by decide), by simpa using h 31500 (by decide)⟩

example : (run (Cfg.init none none) [.setPortRange 31000 32767, .addInternal]).link =
    (run (Cfg.init none none) [.addInternal, .setPortRange 31000 32767]).link := by decide

example : validatePortRange ['3', '1', '0', '0', '0', '-', '3', '2', '7', '6', '7'] =
    some (31000, 32767) := by decide

end Scion.C11
