import Scion.Model.Router
/-! Concrete configurations and packets for the non-vacuity examples of C01, C05, C06, C07, C08Fast.
The toy MAC returns its input, so a hop's MAC bytes are `[0, 0, SegID_hi, SegID_lo, ts_0, ts_1]`. -/
namespace Scion.Router.Ex
open Scion.Util Scion.Router

def localIA : Nat := 0x0001ff0000000110

/-- interface 1: external, child; 2: external, child; 3: owned by sibling link 1, parent; 0: internal -/
def cfg : Cfg :=
  { localIA := localIA, key := [1, 2, 3, 4, 5, 6, 7, 8, 9, 10, 11, 12, 13, 14, 15, 16],
    ifaces := fun id =>
      if id = 0 then some ⟨.internal, true, 0⟩
      else if id = 1 then some ⟨.external, true, 10⟩
      else if id = 2 then some ⟨.external, true, 11⟩
      else if id = 3 then some ⟨.sibling, true, 1⟩
      else none,
    ltype := fun id => if id = 1 then .child else if id = 2 then .child else if id = 3 then .parent else .unset,
    svcs := [2] }

def idMac : Mac := fun _ inp => inp

def now : Nat := 200000000000

/-- first hop, from a local host over the internal link, leaves by interface 2 -/
def firstHop : Bytes :=
  [0, 0, 0, 1, 17, 18, 0, 8, 1, 0, 0, 0,
   0, 1, 0xff, 0, 0, 0, 1, 0x11, 0, 1, 0xff, 0, 0, 0, 1, 0x10, 10, 0, 0, 2, 10, 0, 0, 1,
   0, 0, 0x20, 0,
   1, 0, 0x12, 0x34, 0, 0, 0, 100,
   0, 63, 0, 0, 0, 2, 0, 0, 0x12, 0x34, 0, 0,
   0, 63, 0, 5, 0, 0, 1, 2, 3, 4, 5, 6,
   0, 1, 0, 2, 0, 8, 0, 0]

/-- a shortcut: arrives on child interface 1 at the last hop of an up segment, crosses over to a
down segment and leaves by child interface 2 -/
def xover : Bytes :=
  [0, 0, 0, 1, 17, 26, 0, 8, 1, 0, 0, 0,
   0, 1, 0xff, 0, 0, 0, 1, 0x11, 0, 1, 0xff, 0, 0, 0, 1, 0x12, 10, 0, 0, 2, 10, 0, 0, 1,
   1, 0, 0x20, 0x80,
   0, 0, 0x11, 0x11, 0, 0, 0, 100,
   1, 0, 0x22, 0x22, 0, 0, 0, 100,
   0, 63, 0, 7, 0, 0, 9, 9, 9, 9, 9, 9,
   0, 63, 0, 0, 0, 1, 0, 0, 0x11, 0x11, 0, 0,
   0, 63, 0, 0, 0, 2, 0, 0, 0x22, 0x22, 0, 0,
   0, 63, 0, 3, 0, 0, 1, 1, 1, 1, 1, 1,
   0, 1, 0, 2, 0, 8, 0, 0]

/-- last hop of a down segment, destination a host of the local AS -/
def lastHop : Bytes :=
  [0, 0, 0, 1, 17, 18, 0, 8, 1, 0, 0, 0,
   0, 1, 0xff, 0, 0, 0, 1, 0x10, 0, 1, 0xff, 0, 0, 0, 1, 0x12, 10, 0, 0, 2, 10, 0, 0, 1,
   1, 0, 0x20, 0,
   1, 0, 0x12, 0x34, 0, 0, 0, 100,
   0, 63, 0, 0, 0, 9, 7, 7, 7, 7, 7, 7,
   0, 63, 0, 1, 0, 0, 0, 0, 0x12, 0x34, 0, 0,
   0, 1, 0, 80, 0, 8, 0, 0]

/-- the same packet as `firstHop` but with reserved bits set in the meta header and the info field -/
def firstHopRsv : Bytes :=
  [0, 0, 0, 1, 17, 18, 0, 8, 1, 0, 0, 0,
   0, 1, 0xff, 0, 0, 0, 1, 0x11, 0, 1, 0xff, 0, 0, 0, 1, 0x10, 10, 0, 0, 2, 10, 0, 0, 1,
   0, 0xfc, 0x20, 0,
   0xfd, 0xff, 0x12, 0x34, 0, 0, 0, 100,
   0, 63, 0, 0, 0, 2, 0, 0, 0x12, 0x34, 0, 0,
   0, 63, 0, 5, 0, 0, 1, 2, 3, 4, 5, 6,
   0, 1, 0, 2, 0, 8, 0, 0]
/-- the cross-over test vector, evaluated once: forwarded by interface 2, and only the pointer
byte changes (by two hops and one segment) -/
theorem xover_out : processPkt cfg idMac resolveLocal now ⟨1, 10⟩ xover =
    (.forward 2, xover.set 36 0x43) := by decide

theorem firstHop_out : processPkt cfg idMac resolveLocal now ⟨0, 0⟩ firstHop =
    (.forward 2, firstHop.set 36 1) := by decide

theorem lastHop_out : processPkt cfg idMac resolveLocal now ⟨1, 10⟩ lastHop =
    (.deliver 0 [10, 0, 0, 2] 80, lastHop) := by decide

end Scion.Router.Ex
