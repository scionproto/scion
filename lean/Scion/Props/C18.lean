import Scion.Proofs.Wire
import Scion.Proofs.WireExt
import Scion.Proofs.ScmpMsg
import Scion.Gen.Wire
import Scion.Gen.Path
/-!
# C18 — SCION headers round-trip through decoding and serialization

Model: `Scion.Model.Wire` (byte-level transcription of
`slayers.SCION.{DecodeFromBytes,SerializeTo}` with the address header and the four path types),
`Scion.Model.WireExt` (HBH/E2E extension headers with TLV options, SCION/UDP, SCMP), tied to
`pkg/slayers` by `harness/cmd/wire`.

The well-formedness predicate `Hdr.WF` (decidable, `Scion/Model/Wire.lean`) is: field widths,
address lengths as declared by the address types, a well-formed path of the declared type and
`HdrLen·4 = 12 + address header + path` (hence ≤ 1020 and a multiple of 4).
-/
namespace Scion.C18
open Scion.Wire Scion.WireExt Scion.ScmpMsg Scion.Util

/-- **value → bytes → value.**  Every well-formed header value serializes, and decoding the
bytes (followed by any payload) yields the same field values and exactly that payload. -/
theorem decode_serialize (h : Hdr) (hw : h.WF) (payload : Bytes) :
    ∃ bytes, encodeSCION h = .ok bytes ∧ bytes.length = h.cmn.hdrLen * 4 ∧
      decodeSCION (bytes ++ payload) = .ok (h, payload) := by
  obtain ⟨hc, ha, hp, hpt, hlen⟩ := hw
  obtain ⟨pb, hpb, hpl, hdp⟩ := decPath_encPath h.path hp
  have h255 : h.cmn.hdrLen < 256 := hc.2.2.2.2.1
  refine ⟨encCmn h.cmn ++ encAddr h.cmn ⟨h.dstIA, h.srcIA, h.rawDst, h.rawSrc⟩ ++ pb, ?_, ?_, ?_⟩
  · unfold encodeSCION
    simp only
    rw [if_neg (by omega), if_neg (by omega), hpb]
  · simp [length_encCmn, length_encAddr, hpl]; omega
  · unfold decodeSCION
    simp only [List.append_assoc, decCmn_encCmn _ _ hc, decAddr_encAddr _ _ _ ha]
    rw [decPathPart_enc h.cmn h.path pb payload _ hpt hlen hpl hdp
      (by simp [length_encCmn, length_encAddr]; omega)]

/-- **No panic.**  The decoder is total and every slice it takes is in range: the outcome
`Err.panic` (a `takeN` that Go would answer with a slice-bounds panic) is unreachable for every
byte string. -/
theorem decode_no_panic (data : Bytes) : decodeSCION data ≠ .error .panic := by
  unfold decodeSCION
  split
  · simp
  · rename_i c rest hc
    obtain ⟨pre, hdata, hpre, _⟩ := encCmn_decCmn hc
    have := decAddr_ne_panic c rest
    split
    · rename_i e he; intro hx; cases hx; exact this he
    · rename_i a r4 ha
      obtain ⟨hrest, _⟩ := decAddr_ok ha
      have hl : r4.length + 12 + addrHdrLen c = data.length := by
        rw [hdata, hrest]; simp [length_encAddr, hpre]; omega
      have := decPathPart_ne_panic c data.length r4 hl
      split
      · rename_i e he; intro hx; cases hx; exact this he
      · simp

/-- **bytes → value → bytes.**  Whatever byte string the decoder accepts: the decoded value is
well-formed, it re-serializes, and header ‖ payload reproduces the input on all bits except the
reserved ones (`reservedMask`: the RSV bytes 10–11 of the common header, the six reserved bits
of the path meta line, the reserved bits of the one-hop info/hop fields), which come out zero.
In particular the header the decoder consumed is exactly `HdrLen·4` bytes — a `HdrLen` that
declares more than common + address + path need is rejected. -/
theorem serialize_decode (data : Bytes) (h : Hdr) (payload : Bytes)
    (hd : decodeSCION data = .ok (h, payload)) :
    h.WF ∧ ∃ bytes, encodeSCION h = .ok bytes ∧ bytes.length = h.cmn.hdrLen * 4 ∧
      bytes ++ payload = clearBits data (reservedMask h) := by
  unfold decodeSCION at hd
  split at hd
  · cases hd
  · rename_i c rest hc
    obtain ⟨pre, hdata, hpre, hec, hcw⟩ := encCmn_decCmn hc
    split at hd
    · cases hd
    · rename_i a r4 ha
      obtain ⟨hrest, haw⟩ := decAddr_ok ha
      split at hd
      · cases hd
      · rename_i p pl hpp
        obtain ⟨pb, hr4, hlen, hdp⟩ := decPathPart_ok hpp
        obtain ⟨hpw, hpt, hpl, hep, hpos⟩ := decPath_ok hdp rfl
        cases hd
        refine ⟨⟨hcw, haw, hpw, hpt.symm, by simp only; omega⟩,
          encCmn c ++ encAddr c a ++ clearBits pb (pathMask p), ?_, ?_, ?_⟩
        · unfold encodeSCION
          have h255 : c.hdrLen < 256 := hcw.2.2.2.2.1
          simp only
          rw [if_neg (by omega), if_neg (by omega), hep]
        · simp [length_encCmn, length_encAddr, length_clearBits]; omega
        · have e1 : clearBits data (reservedMask ⟨c, a.dstIA, a.srcIA, a.rawDst, a.rawSrc, p⟩) =
              clearBits (encCmn c ++ (encAddr c a ++ (pb ++ payload)))
                ((pathMask p).map fun (q, k) => (12 + addrHdrLen c + q, k)) := by
            rw [hdata, hrest, hr4, hec, ← clearBits_append_left pre _ _ (by simp [hpre])]
            rfl
          rw [e1]
          have e2 := clearBits_append_right (encCmn c ++ encAddr c a) (pb ++ payload) (pathMask p)
          simp only [List.length_append, length_encCmn, length_encAddr, List.append_assoc] at e2
          rw [e2, clearBits_append_left pb payload (pathMask p) hpos]
          simp

/-- **Declared lengths are within the data.**  On acceptance the header is exactly `HdrLen·4`
bytes and header + payload is the whole input … -/
theorem decode_length (data : Bytes) (h : Hdr) (payload : Bytes)
    (hd : decodeSCION data = .ok (h, payload)) :
    data.length = h.cmn.hdrLen * 4 + payload.length := by
  obtain ⟨_, bytes, _, hl, he⟩ := serialize_decode data h payload hd
  have : (bytes ++ payload).length = data.length := by rw [he, length_clearBits]
  simp at this
  omega

/-- … so an input whose common header declares a `HdrLen` beyond the data is rejected, with an
error and never a panic. -/
theorem overlong_hdrLen_rejected (data : Bytes) (c : Cmn) (rest : Bytes)
    (hc : decCmn data = some (c, rest)) (hlong : data.length < c.hdrLen * 4) :
    ∃ e, decodeSCION data = .error e ∧ e ≠ .panic := by
  cases hres : decodeSCION data with
  | error e => exact ⟨e, rfl, fun he => decode_no_panic data (he ▸ hres)⟩
  | ok v =>
    obtain ⟨h, payload⟩ := v
    have hl := decode_length data h payload hres
    unfold decodeSCION at hres
    rw [hc] at hres
    simp only at hres
    split at hres
    · cases hres
    · split at hres
      · cases hres
      · cases hres
        simp only at hl
        omega

/-! ### `scion.Decoded`: the info and hop fields inside a SCION path body -/

/-- the fields of a decoded SCION path serialize to `8·#info + 12·#hops` bytes that decode to the
same fields (`Decoded.SerializeTo` / `Decoded.DecodeFromBytes` loops) -/
theorem path_fields_decode_serialize (is : List Info) (hs : List Hop) (rest : Bytes)
    (hi : ∀ i ∈ is, i.WF) (hh : ∀ h ∈ hs, h.WF) :
    (encInfos is ++ encHops hs).length = is.length * 8 + hs.length * 12 ∧
    decInfos is.length (encInfos is ++ encHops hs ++ rest) = some (is, encHops hs ++ rest) ∧
    decHops hs.length (encHops hs ++ rest) = some (hs, rest) := by
  refine ⟨by simp [length_encInfos, length_encHops], ?_, decHops_encHops hs rest hh⟩
  rw [List.append_assoc]
  exact decInfos_encInfos is _ hi

/-- a single info / hop field: re-encoding a decoded field clears the reserved bits only -/
theorem info_field_serialize_decode (f r s0 s1 t0 t1 t2 t3 : UInt8) (i : Info)
    (h : decInfo [f, r, s0, s1, t0, t1, t2, t3] = some i) :
    encInfo i = [UInt8.ofNat (f.toNat % 4), 0, s0, s1, t0, t1, t2, t3] ∧ i.WF :=
  encInfo_decInfo f r s0 s1 t0 t1 t2 t3 i h

theorem hop_field_serialize_decode (f e i0 i1 e0 e1 m0 m1 m2 m3 m4 m5 : UInt8) (h : Hop)
    (hd : decHop [f, e, i0, i1, e0, e1, m0, m1, m2, m3, m4, m5] = some h) :
    encHop h = [UInt8.ofNat (f.toNat % 4), e, i0, i1, e0, e1, m0, m1, m2, m3, m4, m5] ∧ h.WF :=
  encHop_decHop f e i0 i1 e0 e1 m0 m1 m2 m3 m4 m5 h hd

/-! ### extension headers (HBH / E2E) with TLV options

`decExt chk` is `HopByHopExtn.DecodeFromBytes` for `chk = hbhChk` and
`EndToEndExtn.DecodeFromBytes` for `chk = e2eChk` (`decHBH`, `decE2E` are these instances);
`encExt chk fix` is the corresponding `SerializeTo`. -/

/-- value → bytes → value, as decoded values are re-serialized (no `FixLengths`) -/
theorem ext_decode_serialize (chk : Nat → Bool) (e : Ext) (payload : Bytes) (hw : e.WF)
    (hc : chk e.base.nextHdr = false) :
    ∃ bytes, encExt chk false e = .ok bytes ∧ decExt chk (bytes ++ payload) = .ok (e, payload) := by
  obtain ⟨h1, h2, ho, hl⟩ := hw
  refine ⟨UInt8.ofNat e.base.nextHdr :: UInt8.ofNat e.base.extLen :: encOpts e.opts, ?_, ?_⟩
  · unfold encExt
    simp only [hc, Bool.false_eq_true, if_false]
    rw [if_neg (by omega)]
  · unfold decExt
    rw [List.cons_append, List.cons_append, decExtBase_enc _ _ _ _ h1 h2 hl]
    simp only [hc, Bool.false_eq_true, if_false, decOpts_encOpts _ ho _ (Nat.le_refl _)]

/-- value → bytes → value with `FixLengths`, for **arbitrary option lists** (any types, data up
to 255 bytes, any alignment request `x·n+y` with `y < x`): the serializer inserts `Pad1`/`PadN`
options, the result is a multiple of 4 bytes, it decodes, and the decoded options are the given
ones plus padding options only (`contents` drops padding) with the same `NextHdr`.  The bound is
the 8-bit `ExtLen`. -/
theorem ext_decode_serialize_fix (chk : Nat → Bool) (nh el : Nat) (os : List Opt) (payload : Bytes)
    (hnh : nh < 256) (hw : ∀ o ∈ os, o.FixWF) (hc : chk nh = false)
    (hlen : (encOptsFix 2 os).length + 2 ≤ 1024) :
    ∃ bytes x, encExt chk true ⟨⟨nh, el⟩, os⟩ = .ok bytes ∧ bytes.length % 4 = 0 ∧
      decExt chk (bytes ++ payload) = .ok (x, payload) ∧ x.base.nextHdr = nh ∧
      contents x.opts = contents os ∧ (x.base.extLen + 1) * 4 = bytes.length := by
  obtain ⟨ds, he, hdw, hcont, hmod⟩ := encOptsFix_eq os hw 2
  generalize hob : encOptsFix 2 os = ob at *
  have hd := decOpts_encOpts ds hdw _ (Nat.le_refl _)
  rw [← he] at hd
  refine ⟨UInt8.ofNat nh :: UInt8.ofNat ((ob.length + 2) / 4 - 1) :: ob,
    ⟨⟨nh, (ob.length + 2) / 4 - 1⟩, ds⟩, ?_, ?_, ?_, rfl, hcont, ?_⟩
  · unfold encExt
    simp only [hc, Bool.false_eq_true, if_false, if_true, hob]
    rw [if_neg (by omega)]
  · simp only [List.length_cons]; omega
  · unfold decExt
    simp only [List.cons_append]
    rw [decExtBase_enc nh _ ob payload hnh (by omega) (by omega)]
    simp only [hc, Bool.false_eq_true, if_false, hd]
  · simp only [List.length_cons]; omega

/-- bytes → value → bytes: exact (extension headers have no reserved bits) -/
theorem ext_serialize_decode (chk : Nat → Bool) (data : Bytes) (x : Ext) (payload : Bytes)
    (h : decExt chk data = .ok (x, payload)) :
    x.WF ∧ ∃ bytes, encExt chk false x = .ok bytes ∧ bytes ++ payload = data := by
  unfold decExt at h
  split at h
  · cases h
  · rename_i b body pl hb
    split at h
    · cases h
    · rename_i hc
      split at h
      · cases h
      · rename_i os ho
        cases h
        obtain ⟨hd, hl, h1, h2⟩ := decExtBase_ok hb
        obtain ⟨he, hw⟩ := encOpts_decOpts _ _ _ ho
        refine ⟨⟨h1, h2, hw, by rw [he]; exact hl⟩, ?_⟩
        unfold encExt
        simp only [Bool.eq_false_iff.mpr hc, Bool.false_eq_true, if_false, he]
        rw [if_neg (by omega)]
        exact ⟨_, rfl, by rw [hd]; simp⟩

/-- over-long `ExtLen` / `OptDataLen` and every other malformed input end in an error, never in
an out-of-range slice -/
theorem ext_decode_no_panic (chk : Nat → Bool) (data : Bytes) : decExt chk data ≠ .error .panic := by
  unfold decExt
  have h1 := decExtBase_ne_panic data
  split
  · rename_i e he; intro hc; cases hc; exact h1 he
  · rename_i b body payload hb
    split
    · simp
    · have h2 := decOpts_ne_panic body.length body (Nat.le_refl _)
      split
      · rename_i e he; intro hc; cases hc; exact h2 he
      · simp

/-- an `ExtLen` that declares more than the data holds is rejected -/
theorem overlong_extLen_rejected (chk : Nat → Bool) (nh el : UInt8) (rest : Bytes)
    (h : (nh :: el :: rest).length < (el.toNat + 1) * 4) :
    decExt chk (nh :: el :: rest) = .error .extLen := by
  have hb : decExtBase (nh :: el :: rest) = .error .extLen := by
    simp only [decExtBase]
    rw [if_pos h]
  unfold decExt
  rw [hb]

/-! ### the SPAO option (`pkt_auth.go`): an E2E option of type 2 viewed as SPI / algorithm /
timestamp-or-sequence-number / authenticator -/

/-- params → option (`NewPacketAuthOption`/`Reset`) → params (`ParsePacketAuthOption` + views):
the same values; the option is a legal serializer input (type 2, aligned 4n+2) -/
theorem spao_option_views_decode_serialize (p : AuthParams) (hw : p.WF) :
    ∃ o, encAuthOpt p = .ok o ∧ parseAuthOpt o = .ok p ∧ o.FixWF ∧
      o.data.length = 12 + p.auth.length := by
  obtain ⟨h1, h2, h3, h4⟩ := hw
  unfold encAuthOpt
  rw [if_neg (by omega)]
  refine ⟨_, rfl, ?_, ?_, ?_⟩
  · have e1 := beNat_natBE_of_lt (k := 4) h1
    have e2 := beNat_natBE_of_lt (k := 6) h3
    simp only [natBE] at e1 e2
    simp only [parseAuthOpt, natBE, List.cons_append, List.nil_append, ne_eq, not_true_eq_false,
      if_false, e1, e2, UInt8.toNat_ofNat_of_lt' h2]
  · refine ⟨by show 2 < 256; omega, ?_, by simp, Or.inr ⟨by show 2 < 4; omega, by show 4 < 256; omega⟩⟩
    simp; omega
  · simp; omega

/-- option → params → option: whatever option `ParsePacketAuthOption` accepts is reproduced from
its views except for the reserved byte (index 5 of the option data), which comes out zero -/
theorem spao_option_views_serialize_decode (o : Opt) (p : AuthParams) (hl : o.data.length < 256)
    (h : parseAuthOpt o = .ok p) :
    p.WF ∧ ∃ o', encAuthOpt p = .ok o' ∧ o'.typ = o.typ ∧ o'.data = clr 5 0 o.data ∧
      o'.dataLen = o.data.length := by
  unfold parseAuthOpt at h
  split at h
  · cases h
  · rename_i ht
    split at h
    · rename_i s0 s1 s2 s3 a r t0 t1 t2 t3 t4 t5 auth hd
      cases h
      rw [hd] at hl
      simp only [List.length_cons] at hl
      have hts : beNat [t0, t1, t2, t3, t4, t5] < 2^48 := beNat_lt_of_length (k := 6) rfl
      refine ⟨⟨beNat_lt_of_length (k := 4) rfl, a.toNat_lt, hts, by show auth.length ≤ 243; omega⟩, ?_⟩
      unfold encAuthOpt
      rw [if_neg (by simp only; omega)]
      refine ⟨_, rfl, by simp only; omega, ?_, ?_⟩
      · simp only [natBE_beNat_of_length, List.length_cons, List.length_nil, UInt8.ofNat_toNat, hd]
        simp [clr, keepLow_zero]
      · simp only [hd, List.length_cons]; omega
    · cases h

/-- options that are not authenticator options, or carry fewer than the 12 metadata bytes, are
rejected (the views never index out of range) -/
theorem spao_option_short_rejected (o : Opt) (h : o.data.length < 12) :
    ∃ e, parseAuthOpt o = .error e := by
  unfold parseAuthOpt
  split
  · exact ⟨_, rfl⟩
  · split
    · rename_i hd; rw [hd] at h; simp at h; omega
    · exact ⟨_, rfl⟩

/-- **Alignment invariant of the FixLengths serializer**: every option of the input list sits in
the serialized extension header at an offset (from the start of the header) congruent to its
request `y` modulo `x` -/
theorem options_aligned (os : List Opt) (hw : ∀ o ∈ os, o.FixWF) (i : Nat) (hi : i < os.length) :
    ∃ pre post, encOptsFix 2 os = pre ++ optBytes os[i] ++ post ∧
      (os[i].alignX ≠ 0 → (2 + pre.length) % os[i].alignX = os[i].alignY) :=
  encOptsFix_aligned os hw 2 i hi

/-! ### SCION/UDP and SCMP headers -/

theorem udp_decode_serialize (u : UDP) (pl : Bytes) (hw : u.WF) (hl : u.length = 8 + pl.length) :
    decUDP (encUDP u ++ pl) = .ok (u, pl) := by
  obtain ⟨h1, h2, h3, h4⟩ := hw
  have e1 := beNat_natBE_of_lt (k := 2) h1
  have e2 := beNat_natBE_of_lt (k := 2) h2
  have e3 := beNat_natBE_of_lt (k := 2) h3
  have e4 := beNat_natBE_of_lt (k := 2) h4
  simp only [natBE] at e1 e2 e3 e4
  simp only [encUDP, natBE, List.cons_append, List.nil_append, decUDP]
  rw [e1, e2, e3, e4, if_pos (by omega), show u.length - 8 = pl.length by omega]
  simp

theorem udp_serialize_decode (data : Bytes) (u : UDP) (pl : Bytes) (h : decUDP data = .ok (u, pl)) :
    u.WF ∧ encUDP u = data.take 8 ∧ 8 ≤ data.length := by
  match data, h with
  | s0 :: s1 :: d0 :: d1 :: l0 :: l1 :: c0 :: c1 :: rest, h =>
    have hu : u = ⟨beNat [s0, s1], beNat [d0, d1], beNat [l0, l1], beNat [c0, c1]⟩ := by
      simp only [decUDP] at h
      split at h
      · cases h; rfl
      · split at h
        · cases h; rfl
        · cases h
    subst hu
    refine ⟨⟨beNat_lt_of_length (k := 2) rfl, beNat_lt_of_length (k := 2) rfl,
      beNat_lt_of_length (k := 2) rfl, beNat_lt_of_length (k := 2) rfl⟩, ?_, by simp⟩
    simp only [encUDP, natBE_beNat_of_length, List.length_cons, List.length_nil]
    rfl

theorem scmp_decode_serialize (h : SCMPHdr) (pl : Bytes) (hw : h.WF) :
    decSCMP (encSCMP h ++ pl) = .ok (h, pl) := by
  obtain ⟨h1, h2, h3⟩ := hw
  have e := beNat_natBE_of_lt (k := 2) h3
  simp only [natBE] at e
  simp only [encSCMP, natBE, List.cons_append, List.nil_append, decSCMP, e,
    UInt8.toNat_ofNat_of_lt' h1, UInt8.toNat_ofNat_of_lt' h2]

theorem scmp_serialize_decode (data : Bytes) (h : SCMPHdr) (pl : Bytes)
    (hd : decSCMP data = .ok (h, pl)) : h.WF ∧ encSCMP h ++ pl = data := by
  unfold decSCMP at hd
  split at hd
  · rename_i t c k0 k1 rest
    cases hd
    refine ⟨⟨t.toNat_lt, c.toNat_lt, beNat_lt_of_length (k := 2) rfl⟩, ?_⟩
    simp only [encSCMP, natBE_beNat_of_length, List.length_cons, List.length_nil, UInt8.ofNat_toNat]
    rfl
  · cases hd

/-! ### the SCMP message types

`msgSpec typ` is the field layout of the layer `SCMP.NextLayerType` selects (all eight message
layers: destination unreachable, packet too big, parameter problem, external interface down,
internal connectivity down, echo request/reply, traceroute request/reply). -/

/-- value → bytes → value for every SCMP message type -/
theorem scmp_msg_decode_serialize (typ : Nat) (spec : List Field) (vs : List Nat) (rest : Bytes)
    (hs : msgSpec typ = some spec) (hv : ValuesWF spec vs) :
    decMsg spec (encFields spec vs ++ rest) = .ok (vs, rest) := by
  unfold decMsg
  rw [if_neg (by simp [length_encFields]), decFields_encFields spec vs rest hv]

/-- bytes → value → bytes for every SCMP message type: exact except reserved fields, which come
out zero; a message shorter than its fixed fields is rejected without an out-of-range read -/
theorem scmp_msg_serialize_decode (typ : Nat) (spec : List Field) (data : Bytes) (vs : List Nat)
    (rest : Bytes) (hs : msgSpec typ = some spec) (h : decMsg spec data = .ok (vs, rest)) :
    ValuesWF spec vs ∧ encFields spec vs ++ rest = zeroReserved spec data := by
  unfold decMsg at h
  split at h
  · cases h
  · split at h
    · cases h
    · rename_i r hr
      cases h
      exact encFields_decFields spec data vs rest hr

theorem scmp_msg_no_panic (spec : List Field) (data : Bytes) : decMsg spec data ≠ .error .panic := by
  unfold decMsg
  split
  · simp
  · rename_i hl
    have := decFields_ne_none spec data (by omega)
    split
    · rename_i hn; exact absurd hn this
    · simp

theorem scmp_msg_short_rejected (spec : List Field) (data : Bytes) (h : data.length < totalLen spec) :
    decMsg spec data = .error .short := by
  unfold decMsg; rw [if_pos h]

/-- layout constants the model uses, re-extracted from the source on every run -/
theorem gen_consts :
    Scion.Gen.Wire.CmnHdrLen = 12 ∧ Scion.Gen.Wire.LineLen = 4 ∧ Scion.Gen.Wire.MaxHdrLen = 1020 ∧
    Scion.Gen.Wire.IABytes = 8 ∧ Scion.Gen.Wire.EmptyPathType = 0 ∧ Scion.Gen.Wire.ScionPathType = 1 ∧
    Scion.Gen.Wire.OneHopPathType = 2 ∧ Scion.Gen.Wire.EpicPathType = 3 ∧
    Scion.Gen.Wire.OneHopPathLen = 32 ∧ Scion.Gen.Wire.EpicMetadataLen = 16 ∧
    Scion.Gen.Path.MetaLen = 4 ∧ Scion.Gen.Path.InfoLen = 8 ∧ Scion.Gen.Path.HopLen = 12 ∧
    Scion.Gen.Path.MaxHops = PathMeta.maxHops := by decide

/-! Non-vacuity: a concrete header (IPv4 destination, IPv6 source, SCION path with two segments
of 2+1 hops, pointers in the middle) is well-formed. -/
def exHdr : Hdr :=
  { cmn := { version := 0, tc := 0xb8, flowID := 0xdead, nextHdr := 17, hdrLen := 26,
             payloadLen := 8, pathType := 1, dstType := 0, srcType := 3 },
    dstIA := 0x0001ff0000000110, srcIA := 0x0002ff0000000220,
    rawDst := [10, 0, 0, 1], rawSrc := [0x20, 1, 0xd, 0xb8, 0, 0, 0, 0, 0, 0, 0, 0, 0, 0, 0, 1],
    path := .scion ⟨1, 2, 2, 1, 0⟩ (List.replicate 52 7) }

example : exHdr.WF := by decide

/-- options with alignment requests as the SPAO (4n+2) and others use them -/
def exOpts : List Opt :=
  [⟨2, 0, [1, 2, 3, 4, 5, 6, 7, 8, 9, 10, 11, 12, 13, 14, 15, 16], 4, 2⟩, ⟨77, 0, [9], 8, 3⟩, ⟨0, 0, [], 0, 0⟩]
example : (∀ o ∈ exOpts, o.FixWF) ∧ (encOptsFix 2 exOpts).length + 2 ≤ 1024 := by decide

end Scion.C18
