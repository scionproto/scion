import Scion.Proofs.NetEdge
import Scion.Proofs.NetMulti
/-! C10, run level: an SCMP error raised by the ingress checks at an AS of the first segment of a
path, either direction, plain or peering; the reply built by the slow path travels back to the
sender.  Then the same for SCMP 4/51, 4/52 with several border routers per AS: the run in the
collapsed network (`FL` holds there too) transfers to the network as it is.  Core Lean only. -/
namespace Scion.Net
open Scion.SegID (updateSegID extractBeta xorAll)

/-- the reply to a packet stopped on arrival over an external link, at a hop after the first of its
    first segment that is not a peering hop (`c` is the packet as updated at ingress): the path
    reversed, the SegID update of the ingress undone — the guard is `determinePeer` of the hop, not
    the Peer flag of the segment —, the pointer moved to the previous AS -/
theorem replyOf_first_segment (cd pr : Bool) (β ts i t k e : Nat) (done : List Hop) (h' : Hop)
    (tlh : List Hop) (after : List Seg) (hpr : pr = true → after.length = 1 ∧ tlh ≠ [])
    (hdone : done ≠ []) (hi0 : i ≠ 0) :
    replyOf (.slow t k e ⟨[], ⟨cd, pr, usedSeg cd β h', ts⟩, done, h', tlh, after⟩) (.ext i) =
      some (mkCur (after.reverse.map revSeg) ⟨!cd, pr, β, ts⟩ (tlh.reverse ++ [h']) done.reverse []) := by
  have hdp : determinePeer (reverseCursor ⟨[], ⟨cd, pr, usedSeg cd β h', ts⟩, done, h', tlh, after⟩) =
      some false := by
    cases pr with
    | false => rfl
    | true =>
      obtain ⟨hl, ht⟩ := hpr rfl
      have : tlh.isEmpty = false := by cases tlh <;> simp_all
      obtain ⟨b, rfl⟩ := List.length_eq_one_iff.mp hl
      simp [determinePeer, reverseCursor, flipInfo, this]
  rw [← incPath_mkCur _ _ tlh.reverse h' done.reverse [] (by simpa using hdone)]
  simp only [replyOf, scmpPrepare, hdp]
  cases cd <;>
    simp [reverseCursor, flipInfo, Cursor.isXover, egUpd, Arrival.ifid, hi0, usedSeg, updateSegID,
      Scion.SegID.xor_cancel]

section
variable (mac : MacFn) (net : Net) (now src dst : Nat) (core cd : Bool) (ts : Nat)
variable (hUp : AllUp net) (hSR : SingleRouter net)
include hUp hSR

/-- **C10, an SCMP error raised by the ingress checks at an AS of the first segment**, either
    direction, any position after the source.  Forwarding order: `e0` (source), `m1`, `ek`, then
    whatever follows (`tlh`, `after`); `h'` is the hop field the packet carries for `ek`.  On a
    peering path (`pr`: the segment carries the Peer flag, one more segment follows) `ek` is not
    the peering AS, so at least one more hop field follows in the segment.  If the router of `ek`
    answers with an SCMP error `t/k` built on the packet as updated at ingress, the reply —
    reversed path, SegID re-adjusted under the guard `determinePeer` (the hop of `ek` is not a
    peering hop even where the segment carries the Peer flag) — is accepted by every AS on the way
    back and delivered in the source AS. -/
theorem slow_reply_run (pr : Bool) (tlh : List Hop) (after : List Seg)
    (hsing : pr = true ∨ ∀ s ∈ after, s.hops.length ≠ 1)
    (hpr : pr = true → after.length = 1 ∧ tlh ≠ [])
    (seg0 : Nat) (e0 : ASE) (m1 : List ASE) (ek : ASE) (h' : Hop) (t k : Nat) (c1 : Cursor)
    (hFL : FL mac net core cd ts seg0 (e0 :: (m1 ++ [ek])))
    (hsrc : src = e0.ia) (hsd : src ≠ dst)
    (hnd : ((e0 :: (m1 ++ [ek])).map (·.ia)).Nodup)
    (hmidd : ∀ e ∈ m1, e.ia ≠ dst)
    (hexpU : ∀ e ∈ e0 :: m1, expired now ts e.hop.exp = false)
    (hstop : routerStep mac (cfgOf net ek.ia) now (.ext (inF cd ek)) (ek.ia == src) (ek.ia == dst)
        ⟨[], ⟨cd, pr, extractBeta (updateSegID seg0 (pfx e0.hop.mac)) (sig m1), ts⟩,
          hopOf e0.hop :: m1.map (fun e => hopOf e.hop), h', tlh, after⟩ = .slow t k 0 c1)
    (hc1 : c1 = ⟨[], ⟨cd, pr, usedSeg cd (extractBeta (updateSegID seg0 (pfx e0.hop.mac)) (sig m1)) h', ts⟩,
          hopOf e0.hop :: m1.map (fun e => hopOf e.hop), h', tlh, after⟩) (fuel : Nat) :
    ∃ tr rc trr cr,
      run mac net now src dst (fuel + 2 + m1.length) src 0 .host
        ⟨[], ⟨cd, pr, usedAt cd seg0 e0, ts⟩, [], hopOf e0.hop,
          (m1.map fun e => hopOf e.hop) ++ h' :: tlh, after⟩ [] =
        .stopped ek.ia 0 (.ext (inF cd ek)) (.slow t k 0 c1) tr ∧
      replyOf (.slow t k 0 c1) (.ext (inF cd ek)) = some rc ∧
      followReply mac net now src ek.ia 0 (.ext (inF cd ek)) rc = .delivered src trr cr := by
  subst hc1
  obtain ⟨h0k, hmid1⟩ := nd_facts e0 m1 ek hnd
  obtain ⟨_, hin0, _⟩ := fl_last mac net core cd ts m1 e0 ek seg0 hFL
  have hreply := replyOf_first_segment cd pr (extractBeta (updateSegID seg0 (pfx e0.hop.mac)) (sig m1)) ts
    (inF cd ek) t k 0 (hopOf e0.hop :: m1.map fun e => hopOf e.hop) h' tlh after hpr (by simp) hin0
  rw [List.reverse_cons, ← List.map_reverse] at hreply
  -- the way back: the same segment read from ek, in the opposite direction
  have hFLm := fl_mirror mac net core cd ts _ seg0 hFL
  rw [show (e0 :: (m1 ++ [ek])).reverse = ek :: (m1.reverse ++ [e0]) by simp] at hFLm
  obtain ⟨_, f, g, hf, _, hfn, hfi, hg, _⟩ := fl_head mac net core (!cd) ts _ ek m1.reverse e0 hFLm
  rw [show outF (!cd) ek = inF cd ek by cases cd <;> rfl] at hf
  rw [← hfn, ← hfi] at hg
  have hsegm : updateSegID (extractBeta seg0 (sig (e0 :: (m1 ++ [ek])))) (pfx ek.hop.mac) =
      extractBeta (updateSegID seg0 (pfx e0.hop.mac)) (sig m1) :=
    extractBeta_sig_snoc seg0 (e0 :: m1) ek
  exact ⟨_, _, _, _, Reach.stops (prefix_reach hUp hSR _ _ hsing (fun hp => (hpr hp).1) hFL hsrc hsd
      (fun e he => ⟨by rw [hsrc]; exact (hmid1 e he).1, hmidd e he, hexpU e (by simp [he])⟩) (hexpU e0 (by simp)))
      (by omega) (ends_stopped hstop rfl fuel),
    hreply, (followReply_ext hf hg).trans (by
      rw [hSR _ _ _ hg, hfn, hfi, ← hsegm]
      exact (fl_tail_ends hUp hSR pr hFLm
        (fun e he => ⟨(hmid1 e (by simpa using he)).2, by rw [hsrc]; exact (hmid1 e (by simpa using he)).1,
          hexpU e (by simp at he; simp [he])⟩)
        (hexpU e0 (by simp)) hsrc (by rw [hsrc]; exact Ne.symm h0k)
        (after.reverse.map revSeg) (tlh.reverse ++ [h'])
        (hsing.imp id fun ha s hs => by
          obtain ⟨s', hs', rfl⟩ := List.mem_map.1 hs
          simpa [revSeg] using ha s' (List.mem_reverse.1 hs'))
        (fun hp => by simp [(hpr hp).1]) (by simp) _).of_le (Nat.le_trans (by simp) (fuelFor_mkCur_ge ..)))⟩

/-- `slow_reply_run` where the hop field of `ek` has expired (SCMP 4/52) -/
theorem expired_reply_run (pr : Bool) (tlh : List Hop) (after : List Seg)
    (hsing : pr = true ∨ ∀ s ∈ after, s.hops.length ≠ 1)
    (hpr : pr = true → after.length = 1 ∧ tlh ≠ [])
    (seg0 : Nat) (e0 : ASE) (m1 : List ASE) (ek : ASE) (exp' : Nat)
    (hFL : FL mac net core cd ts seg0 (e0 :: (m1 ++ [ek])))
    (hsrc : src = e0.ia) (hsd : src ≠ dst)
    (hnd : ((e0 :: (m1 ++ [ek])).map (·.ia)).Nodup)
    (hmidd : ∀ e ∈ m1, e.ia ≠ dst)
    (hexpU : ∀ e ∈ e0 :: m1, expired now ts e.hop.exp = false)
    (hexp' : expired now ts exp' = true) (fuel : Nat) :
    ∃ tr c1 rc trr cr,
      run mac net now src dst (fuel + 2 + m1.length) src 0 .host
        ⟨[], ⟨cd, pr, usedAt cd seg0 e0, ts⟩, [], hopOf e0.hop,
          (m1.map fun e => hopOf e.hop) ++ { hopOf ek.hop with exp := exp' } :: tlh, after⟩ [] =
        .stopped ek.ia 0 (.ext (inF cd ek)) (.slow 4 52 0 c1) tr ∧
      replyOf (.slow 4 52 0 c1) (.ext (inF cd ek)) = some rc ∧
      followReply mac net now src ek.ia 0 (.ext (inF cd ek)) rc = .delivered src trr cr := by
  obtain ⟨_, hin0, _⟩ := fl_last mac net core cd ts m1 e0 ek seg0 hFL
  refine (slow_reply_run mac net now src dst core cd ts hUp hSR pr tlh after hsing hpr
    seg0 e0 m1 ek _ 4 52 _ hFL hsrc hsd hnd hmidd hexpU
    (expired_step mac net now src dst cd pr ts _ ek.ia _ { hopOf ek.hop with exp := exp' } [] _ tlh after
      (hsing.imp id fun ha => ⟨nofun, ha, by simp; omega⟩)
      (by
        cases pr with
        | false => rfl
        | true =>
          exact determinePeer_transit _ _ _ _ _ _ (fun _ => ⟨by simp [(hpr rfl).1], nofun⟩) (hpr rfl).2)
      hin0 hexp') rfl fuel).imp fun _ h => ⟨_, h⟩

end

/-! ### `FL` does not depend on which router owns which interface -/

theorem macAt_collapse (mac : MacFn) (net : Net) (ts β : Nat) (e : ASE) (h : MacAt mac net ts β e) :
    MacAt mac (collapse net) ts β e := by
  obtain ⟨h1, h2⟩ := h
  refine ⟨h1, ?_⟩
  intro p hp
  obtain ⟨f, hf, r1, r2, r3, r4, r5⟩ := h2 p hp
  exact ⟨collapseIf f, collapse_iface_some net _ _ f hf, r1, r2, r3, r4, r5⟩

theorem linkF_collapse (net : Net) (core cd : Bool) (e e' : ASE) (h : LinkF net core cd e e') :
    LinkF (collapse net) core cd e e' := by
  obtain ⟨f, g, h1, h2, h3, h4, h5, h6, h7, h8, h9, h10⟩ := h
  exact ⟨collapseIf f, collapseIf g, collapse_iface_some net _ _ f h1, h2, h3, h4,
    collapse_iface_some net _ _ g h5, h6, h7, h8, h9, h10⟩

theorem fl_collapse (mac : MacFn) (net : Net) (core cd : Bool) (ts : Nat) (l : List ASE) :
    ∀ seg, FL mac net core cd ts seg l → FL mac (collapse net) core cd ts seg l := by
  induction l with
  | nil => intro _ _; trivial
  | cons e rest ih =>
    intro seg h
    cases rest with
    | nil => exact macAt_collapse mac net ts _ e h
    | cons e' r =>
      simp only [FL] at h ⊢
      exact ⟨macAt_collapse mac net ts _ e h.1, linkF_collapse net core cd e e' h.2.1, ih _ h.2.2⟩

section
variable (mac : MacFn) (net : Net) (now src dst : Nat) (core cd : Bool) (ts : Nat)
variable (hWF : WFNet net) (hUp : AllUp net)
include hWF hUp

omit hUp in
/-- `send_sim_slow` for a run in the collapsed network that needs no more fuel than `send` provides -/
theorem send_sim_of_run (k : Nat) (hk : k = 51 ∨ k = 52) (c : Cursor) (n a : Nat) (arr : Arrival) (e : Nat)
    (c1 : Cursor) (tr : List (Nat × Nat))
    (h : run mac (collapse net) now src dst n src 0 .host c [] = .stopped a 0 arr (.slow 4 k e c1) tr)
    (hU : Uniform c) (hfirst : c.isFirstHop = true) (hn : n ≤ fuelFor c) :
    ∃ r, send mac net now src dst c = .stopped a r arr (.slow 4 k e c1) tr := by
  apply send_sim_slow mac net now src dst hWF k hk c hU hfirst
  rw [send, entryRouter_zero (collapse net) (singleRouter_collapse net)]
  exact run_mono mac (collapse net) now src dst _ _ _ _ _ _ _ _ h nofun hn

/-- `slow_reply_run` for SCMP 4/51 and 4/52 without `SingleRouter`: the run in the collapsed
    network (`slow_reply_run` there) transfers to the network as it is — the packet is stopped by
    the router of the AS of `ek` that owns the ingress interface, the reply goes back through
    ASes whose ingress and egress interfaces may belong to different routers -/
theorem slow_reply_run_multi (seg0 : Nat) (e0 : ASE) (m1 : List ASE) (ek : ASE) (h' : Hop) (k : Nat)
    (tlh : List Hop) (hk : k = 51 ∨ k = 52)
    (hFL : FL mac net core cd ts seg0 (e0 :: (m1 ++ [ek])))
    (hsrc : src = e0.ia) (hsd : src ≠ dst)
    (hnd : ((e0 :: (m1 ++ [ek])).map (·.ia)).Nodup)
    (hmidd : ∀ e ∈ m1, e.ia ≠ dst)
    (hexpU : ∀ e ∈ e0 :: m1, expired now ts e.hop.exp = false)
    (hstop : routerStep mac (cfgOf (collapse net) ek.ia) now (.ext (inF cd ek)) (ek.ia == src) (ek.ia == dst)
        ⟨[], ⟨cd, false, extractBeta (updateSegID seg0 (pfx e0.hop.mac)) (sig m1), ts⟩,
          hopOf e0.hop :: m1.map (fun e => hopOf e.hop), h', tlh, []⟩ =
      .slow 4 k 0 ⟨[], ⟨cd, false, usedSeg cd (extractBeta (updateSegID seg0 (pfx e0.hop.mac)) (sig m1)) h', ts⟩,
          hopOf e0.hop :: m1.map (fun e => hopOf e.hop), h', tlh, []⟩) :
    ∃ r tr c1 rc trr cr,
      send mac net now src dst
        ⟨[], ⟨cd, false, usedAt cd seg0 e0, ts⟩, [], hopOf e0.hop,
          (m1.map fun e => hopOf e.hop) ++ h' :: tlh, []⟩ =
        .stopped ek.ia r (.ext (inF cd ek)) (.slow 4 k 0 c1) tr ∧
      replyOf (.slow 4 k 0 c1) (.ext (inF cd ek)) = some rc ∧
      followReply mac net now src ek.ia r (.ext (inF cd ek)) rc = .delivered src trr cr := by
  have hUpc := allUp_collapse net hUp
  have hSRc := singleRouter_collapse net
  have hFLc := fl_collapse mac net core cd ts _ seg0 hFL
  obtain ⟨tr, rc, trr, cr, h1, h2, h3⟩ := slow_reply_run mac (collapse net) now src dst core cd ts hUpc hSRc
    false tlh [] (Or.inr (by simp)) nofun seg0 e0 m1 ek h' 4 k _ hFLc hsrc hsd hnd hmidd hexpU hstop rfl 0
  obtain ⟨_, hin0, _⟩ := fl_last mac net core cd ts m1 e0 ek seg0 hFL
  obtain ⟨r', hreal⟩ := send_sim_of_run mac net now src dst hWF k hk _ _ _ _ _ _ _ h1
    ⟨nofun, nofun⟩ rfl (by simp [fuelFor, toFlat, Cursor.segs, Cursor.curSeg]; omega)
  have hrc : Uniform rc ∧ ArrOK rc := by
    have h2' := h2
    simp only [replyOf, Arrival.ifid] at h2'
    have hne : (inF cd ek != 0) = true := by simp [hin0]
    rw [hne] at h2'
    exact scmpPrepare_single _ rc rfl rfl h2'
  exact ⟨r', tr, _, rc, trr, cr, hreal, h2,
    followReply_sim mac net now src hWF ek.ia r' 0 (inF cd ek) rc hrc.1 hrc.2 src trr cr h3⟩

end

end Scion.Net
