import Scion.Model.Drkey
import Scion.Proofs.BigEndian
/-! Lemmas for C39: zero padding, and the epochs and absolute times of the acceptance window as
plain integer arithmetic (no `uint32`, no `int64`). -/
namespace Scion.Drkey
open Scion.Util

theorem zeroPad_inj {a b : Bytes} {n m : Nat} (hl : a.length = b.length)
    (h : zeroPad a n = zeroPad b m) : a = b := by
  unfold zeroPad at h
  exact (List.append_inj h hl).1

theorem zeroPad_head (x : UInt8) (xs : Bytes) (n : Nat) : (zeroPad (x :: xs) n).head? = some x := by
  simp [zeroPad]

theorem zeroPad_length {a : Bytes} {n : Nat} (h : a.length ≤ n) : (zeroPad a n).length = n := by
  simp [zeroPad]; omega

/-- for a well-formed host both level-2 layouts fit the 32-byte scratch buffer -/
theorem inputLen_le (hdr t : Nat) (h : hdr ≤ 4) : inputLen hdr (4 * (t % 4 + 1)) ≤ l2BufLen := by
  unfold inputLen l2BufLen
  omega

theorem specificInput_eq_some {kt : Nat} {h : Host} {x : Bytes} (e : specificInput kt h = some x) :
    x = zeroPad (UInt8.ofNat kt :: UInt8.ofNat (h.typ % 16) :: h.raw) (inputLen 2 h.raw.length) := by
  simp only [specificInput, Option.ite_none_left_eq_some, Option.some.injEq] at e
  exact e.2.symm

theorem genericInput_eq_some {kt p : Nat} {h : Host} {x : Bytes} (e : genericInput kt p h = some x) :
    x = zeroPad (UInt8.ofNat kt :: UInt8.ofNat (p / 256 % 256) :: UInt8.ofNat (p % 256) ::
      UInt8.ofNat (h.typ % 16) :: h.raw) (inputLen 4 h.raw.length) := by
  simp only [genericInput, Option.ite_none_left_eq_some, Option.some.injEq] at e
  exact e.2.symm

/-- A padded input ending in a well-formed host determines its header bytes and the host: the
    nibble after the header gives the host's length, hence where the padding starts. -/
theorem hostBody_inj {pre1 pre2 : Bytes} {h1 h2 : Host} {n1 n2 : Nat} (hw1 : h1.WF) (hw2 : h2.WF)
    (hl : pre1.length = pre2.length)
    (e : zeroPad (pre1 ++ UInt8.ofNat (h1.typ % 16) :: h1.raw) n1 =
         zeroPad (pre2 ++ UInt8.ofNat (h2.typ % 16) :: h2.raw) n2) : pre1 = pre2 ∧ h1 = h2 := by
  obtain ⟨t1, r1⟩ := h1
  obtain ⟨t2, r2⟩ := h2
  obtain ⟨ht1, hl1⟩ := hw1
  obtain ⟨ht2, hl2⟩ := hw2
  simp only [zeroPad, List.append_assoc, List.cons_append] at e
  obtain ⟨ep, e⟩ := List.append_inj e hl
  obtain ⟨et, er⟩ := List.cons.inj e
  have ht : t1 = t2 := by
    have := ofNat_inj (by omega) (by omega) et
    simp only at ht1 ht2
    omega
  subst ht
  exact ⟨ep, by rw [(List.append_inj er (hl1.trans hl2.symm)).1]⟩

theorem liftD_deriveWith_ok {prf : Key → Bytes → Key} {key : Key} {h : Host}
    {ser : Host → Option Bytes} {k : Key} :
    liftD (deriveWith prf key (some h) ser) = .ok k ↔ ∃ inp, ser h = some inp ∧ k = prf key inp := by
  cases e : ser h <;> simp [deriveWith, liftD, e, eq_comm]

/-- the test of one `case` of the selection `switch`, as inequalities -/
theorem ok_iff (i : WinIn) (e : Nat × Nat) :
    i.ok e = true ↔
      (i.awBegin ≤ absTime e.1 i.ts ∧ absTime e.1 i.ts ≤ i.awEnd) ∧
      ((e.1 : Int) * nsPerSec ≤ absTime e.1 i.ts ∧
       absTime e.1 i.ts ≤ (e.2 : Int) * nsPerSec + gracePeriodNs) := by
  simp only [WinIn.ok, contains, withinGrace, Bool.and_eq_true, decide_eq_true_eq]

/-- away from the uint32 wrap (year 2106) an epoch is the aligned interval `[n·d, n·d + d]` -/
theorem newEpoch_nowrap (n d : Int) (h0 : 0 ≤ n * d) (hd : 0 ≤ d) (h1 : n * d + d < 4294967296) :
    ((newEpoch n d).1 : Int) = n * d ∧ ((newEpoch n d).2 : Int) = n * d + d := by
  unfold newEpoch u32
  generalize n * d = P at *
  simp only
  omega

/-- where the three candidate epochs around the receiver's clock begin -/
theorem epoch_nowrap (i : WinIn) (k : Int) (hk : k = -1 ∨ k = 0 ∨ k = 1) (hD : 0 < i.duration)
    (hidx : 1 ≤ i.idx) (hwrap : (i.idx + 2) * i.duration < 4294967296) :
    ((i.epoch k).1 : Int) = i.idx * i.duration + k * i.duration := by
  have hpos : 0 ≤ (i.idx - 1) * i.duration := Int.mul_nonneg (by omega) (by omega)
  rw [Int.sub_mul, Int.one_mul] at hpos
  rw [Int.add_mul] at hwrap
  have := newEpoch_nowrap (i.idx + k) i.duration
  rw [Int.add_mul] at this
  unfold WinIn.epoch
  generalize i.idx * i.duration = P at *
  generalize i.duration = D at *
  rcases hk with rfl | rfl | rfl <;> exact (this (by omega) (by omega) (by omega)).1

theorem absTime_shift (b b' ts : Nat) :
    absTime b' ts = absTime b ts + ((b' : Int) - b) * nsPerSec := by
  unfold absTime nsPerSec
  omega

/-- The acceptance window is shorter than an epoch: if the timestamp read against begin `b` falls
    into it, then read against an epoch that begins a whole duration away it does not. -/
theorem ok_far (i : WinIn) (b : Nat) (e' : Nat × Nat) (haw : 0 ≤ i.accWinNs)
    (hawD : i.accWinNs < i.duration * nsPerSec)
    (hw0 : i.awBegin ≤ absTime b i.ts) (hw1 : absTime b i.ts ≤ i.awEnd)
    (hfar : (b : Int) + i.duration ≤ e'.1 ∨ (e'.1 : Int) + i.duration ≤ b) : ¬ i.ok e' = true := by
  rw [ok_iff, absTime_shift b e'.1]
  have hh : Int.tdiv i.accWinNs 2 = i.accWinNs / 2 := Int.tdiv_eq_ediv_of_nonneg haw
  simp only [WinIn.awBegin, WinIn.awEnd, hh] at hw0 hw1 ⊢
  unfold nsPerSec at *
  omega

/-- a first match returns the one acceptable element, wherever it stands in the list -/
theorem find?_of_unique {α : Type} (p : α → Bool) (a : α) :
    ∀ l : List α, a ∈ l → p a = true → (∀ b ∈ l, b = a ∨ p b = false) → l.find? p = some a
  | b :: l, ha, hp, hu => by
    rcases hu b List.mem_cons_self with rfl | hb
    · rw [List.find?_cons_of_pos (l := l) hp]
    · rw [List.find?_cons_of_neg (l := l) (by simp [hb])]
      exact find?_of_unique p a l ((List.mem_cons.1 ha).resolve_left (by rintro rfl; simp [hp] at hb)) hp
        fun c hc => hu c (List.mem_cons_of_mem _ hc)

/-- the epochs `GetKeyWithinAcceptanceWindow` tries, in its order -/
def candidates (i : WinIn) : List (Nat × Nat) := [i.epoch 0, i.epoch (-1), i.epoch 1]

/-- the `switch` is a first match over the candidates -/
theorem selectKey_eq_find (i : WinIn) (hd : i.duration ≠ 0) :
    selectKey i = match (candidates i).find? i.ok with
      | some e => .key e
      | none => .noKey := by
  simp only [selectKey, hd, if_false, candidates, List.find?_cons, List.find?_nil]
  cases i.ok (i.epoch 0) <;> cases i.ok (i.epoch (-1)) <;> cases i.ok (i.epoch 1) <;> rfl

/-- A first match over any list of epochs returns the acceptable epoch `e`, in whatever order
    they are tried, if every other one begins a whole duration away from it. -/
theorem find?_ok_far (i : WinIn) (es : List (Nat × Nat)) (e : Nat × Nat) (he : e ∈ es)
    (hok : i.ok e = true) (haw : 0 ≤ i.accWinNs) (hawD : i.accWinNs < i.duration * nsPerSec)
    (hfar : ∀ e' ∈ es, e' = e ∨ (e.1 : Int) + i.duration ≤ e'.1 ∨ (e'.1 : Int) + i.duration ≤ e.1) :
    es.find? i.ok = some e :=
  have hw := ((ok_iff i e).1 hok).1
  find?_of_unique i.ok e es he hok fun e' he' =>
    (hfar e' he').imp_right fun h => Bool.eq_false_iff.2 (ok_far i e.1 e' haw hawD hw.1 hw.2 h)

/-- candidates with different offsets begin at least a duration apart -/
theorem epoch_far (i : WinIn) (k k' : Int) (hD : 0 < i.duration)
    (b : ((i.epoch k).1 : Int) = i.idx * i.duration + k * i.duration)
    (b' : ((i.epoch k').1 : Int) = i.idx * i.duration + k' * i.duration) :
    i.epoch k' = i.epoch k ∨ ((i.epoch k).1 : Int) + i.duration ≤ (i.epoch k').1 ∨
      ((i.epoch k').1 : Int) + i.duration ≤ (i.epoch k).1 := by
  rw [b, b']
  rcases Int.lt_trichotomy k k' with h | rfl | h
  · have := Int.mul_le_mul_of_nonneg_right (show k + 1 ≤ k' from h) (Int.le_of_lt hD)
    rw [Int.add_mul, Int.one_mul] at this
    exact .inr (.inl (by omega))
  · exact .inl rfl
  · have := Int.mul_le_mul_of_nonneg_right (show k' + 1 ≤ k from h) (Int.le_of_lt hD)
    rw [Int.add_mul, Int.one_mul] at this
    exact .inr (.inr (by omega))

end Scion.Drkey
