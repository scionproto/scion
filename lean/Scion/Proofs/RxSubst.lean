import Scion.Proofs.Rx
/-! Generic facts about `Rx.Lang`: the letters of a word are accepted by atoms of the expression,
substitution of expressions for atoms, change of alphabet along a map. -/
namespace Scion.Seq.Rx
variable {π ρ α β : Type}

def atoms : Rx π → List π
  | zero => []
  | eps => []
  | atom p => [p]
  | cat a b => atoms a ++ atoms b
  | alt a b => atoms a ++ atoms b
  | opt a => atoms a
  | plus a => atoms a
  | star a => atoms a

theorem Lang_letters (sat : π → α → Bool) (e : Rx π) :
    ∀ w, Lang sat e w → ∀ x ∈ w, ∃ p ∈ atoms e, sat p x = true := by
  induction e using sugarInd with
  | zero => intro w h; exact h.elim
  | eps => rintro _ rfl x hx; cases hx
  | atom p =>
    rintro _ ⟨y, rfl, hy⟩ x hx
    obtain rfl := List.mem_singleton.1 hx
    exact ⟨p, .head _, hy⟩
  | cat a b iha ihb =>
    rintro _ ⟨u, v, rfl, hu, hv⟩ x hx
    simp only [atoms, List.mem_append, or_and_right, exists_or]
    exact (List.mem_append.1 hx).imp (iha u hu x) (ihb v hv x)
  | alt a b iha ihb =>
    intro w h x hx
    simp only [atoms, List.mem_append, or_and_right, exists_or]
    exact h.imp (iha w · x hx) (ihb w · x hx)
  | opt a ih => simpa only [Lang, atoms, List.nil_append] using ih
  | plus a ih => simpa only [Lang_plus_cat, atoms, List.mem_append, or_self] using ih
  | star a iha =>
    rintro _ ⟨ws, rfl, hall⟩ x hx
    obtain ⟨u, hu, hxu⟩ := List.mem_flatten.1 hx
    exact iha u (hall u hu) x hxu

def subst (f : π → Rx ρ) : Rx π → Rx ρ
  | zero => zero
  | eps => eps
  | atom p => f p
  | cat a b => cat (subst f a) (subst f b)
  | alt a b => alt (subst f a) (subst f b)
  | opt a => opt (subst f a)
  | plus a => plus (subst f a)
  | star a => star (subst f a)

theorem forall_flatten_iff {P : List (List β) → Prop} (parts : List (List β)) :
    (∀ u ∈ parts, ∃ ws, u = ws.flatten ∧ P ws) ↔
      ∃ wss : List (List (List β)), parts = wss.map List.flatten ∧ ∀ ws ∈ wss, P ws := by
  constructor
  · intro h
    induction parts with
    | nil => exact ⟨[], rfl, by simp⟩
    | cons u ps ih =>
      obtain ⟨⟨ws, rfl, hp⟩, hr⟩ := List.forall_mem_cons.1 h
      obtain ⟨wss, rfl, hall⟩ := ih hr
      exact ⟨ws :: wss, rfl, List.forall_mem_cons.2 ⟨hp, hall⟩⟩
  · rintro ⟨wss, rfl, h⟩
    exact List.forall_mem_map.2 fun ws hws => ⟨ws, rfl, h ws hws⟩

/-- **substitution lemma**: the language of the substituted expression consists of the
    concatenations of word lists of the original language, a word standing for an atom when the
    atom's expression accepts it -/
theorem Lang_subst (sat : ρ → β → Bool) (f : π → Rx ρ) (e : Rx π) :
    ∀ w : List β, Lang sat (subst f e) w ↔
      ∃ ws : List (List β), w = ws.flatten ∧ Lang (fun p u => accepts sat (f p) u) e ws := by
  induction e using sugarInd with
  | zero => simp [subst, Lang]
  | eps => simp [subst, Lang]
  | atom p =>
    intro w
    simp only [subst, Lang, ← accepts_iff_lang]
    constructor
    · intro h; exact ⟨[w], by simp, w, rfl, h⟩
    · rintro ⟨ws, rfl, u, rfl, hu⟩; simpa using hu
  | cat a b iha ihb =>
    intro w
    simp only [subst, Lang, iha, ihb]
    constructor
    · rintro ⟨_, _, rfl, ⟨us, rfl, hus⟩, vs, rfl, hvs⟩
      exact ⟨us ++ vs, List.flatten_append.symm, us, vs, rfl, hus, hvs⟩
    · rintro ⟨_, rfl, us, vs, rfl, hus, hvs⟩
      exact ⟨_, _, List.flatten_append, ⟨us, rfl, hus⟩, vs, rfl, hvs⟩
  | alt a b iha ihb => simp only [subst, Lang, iha, ihb, and_or_left, exists_or, implies_true]
  | opt a ih => simpa only [subst, Lang] using ih
  | plus a ih => simpa only [subst, Lang_plus_cat] using ih
  | star a iha =>
    intro w
    simp only [subst, Lang, iha, forall_flatten_iff]
    constructor
    · rintro ⟨_, rfl, wss, rfl, h⟩; exact ⟨_, List.flatten_flatten.symm, wss, rfl, h⟩
    · rintro ⟨_, rfl, wss, rfl, h⟩; exact ⟨_, List.flatten_flatten, wss, rfl, h⟩

theorem map_eq_flatten (f : α → β) : ∀ (parts : List (List β)) (w : List α),
    w.map f = parts.flatten → ∃ ps : List (List α), w = ps.flatten ∧ parts = ps.map (List.map f)
  | [], w, h => by
    have : w = [] := by simpa using h
    exact ⟨[], by simp [this], rfl⟩
  | u :: ps, w, h => by
    simp only [List.flatten_cons] at h
    obtain ⟨w1, w2, rfl, h1, h2⟩ := List.map_eq_append_iff.1 h
    obtain ⟨qs, rfl, hq⟩ := map_eq_flatten f ps w2 h2
    exact ⟨w1 :: qs, by simp, by simp [h1, hq]⟩

theorem Lang_map (sat₁ : π → β → Bool) (sat₂ : π → α → Bool) (f : α → β)
    (P : π → Prop) (Q : α → Prop)
    (h : ∀ p x, P p → Q x → sat₁ p (f x) = sat₂ p x) (e : Rx π) :
    (∀ p ∈ atoms e, P p) → ∀ w : List α, (∀ x ∈ w, Q x) →
      (Lang sat₁ e (w.map f) ↔ Lang sat₂ e w) := by
  induction e using sugarInd with
  | zero => intro _ w _; simp [Lang]
  | eps => intro _ w _; simp [Lang]
  | atom p =>
    intro hp w hw
    simp only [Lang, List.map_eq_singleton_iff]
    constructor
    · rintro ⟨_, ⟨x, rfl, rfl⟩, hs⟩
      exact ⟨x, rfl, h p x (hp p (.head _)) (hw x (.head _)) ▸ hs⟩
    · rintro ⟨x, rfl, hs⟩
      exact ⟨_, ⟨x, rfl, rfl⟩, (h p x (hp p (.head _)) (hw x (.head _))).symm ▸ hs⟩
  | cat a b iha ihb =>
    intro hp w hw
    obtain ⟨hpa, hpb⟩ := List.forall_mem_append.1 hp
    simp only [Lang, List.map_eq_append_iff]
    constructor
    · rintro ⟨_, _, ⟨u, v, rfl, rfl, rfl⟩, hu, hv⟩
      obtain ⟨hwu, hwv⟩ := List.forall_mem_append.1 hw
      exact ⟨u, v, rfl, (iha hpa u hwu).1 hu, (ihb hpb v hwv).1 hv⟩
    · rintro ⟨u, v, rfl, hu, hv⟩
      obtain ⟨hwu, hwv⟩ := List.forall_mem_append.1 hw
      exact ⟨_, _, ⟨u, v, rfl, rfl, rfl⟩, (iha hpa u hwu).2 hu, (ihb hpb v hwv).2 hv⟩
  | alt a b iha ihb =>
    intro hp w hw
    obtain ⟨hpa, hpb⟩ := List.forall_mem_append.1 hp
    simp only [Lang, iha hpa w hw, ihb hpb w hw]
  | opt a ih => simpa only [Lang, atoms, List.nil_append] using ih
  | plus a ih => simpa only [Lang_plus_cat, atoms, List.mem_append, or_self] using ih
  | star a iha =>
    intro hp w hw
    simp only [Lang]
    constructor
    · rintro ⟨parts, hw', hall⟩
      obtain ⟨ps, rfl, rfl⟩ := map_eq_flatten f parts w hw'
      exact ⟨ps, rfl, fun u hu =>
        (iha hp u (List.forall_mem_flatten.1 hw u hu)).1 (hall _ (List.mem_map_of_mem hu))⟩
    · rintro ⟨ps, rfl, hall⟩
      exact ⟨_, List.map_flatten, List.forall_mem_map.2 fun u hu =>
        (iha hp u (List.forall_mem_flatten.1 hw u hu)).2 (hall u hu)⟩

/-- **compilation by substitution, read back through a code.**  Atoms are compiled to expressions
    over another alphabet (`f`), letters are written as words (`enc`).  If the compiled atom accepts
    the code of a letter exactly when the atom accepts the letter, and a concatenation of words
    accepted by compiled atoms that spells the code of `xs` is that code word by word (the code is
    uniquely decodable against the compiled atoms), then the compiled expression accepts the code
    of `xs` iff the expression accepts `xs`. -/
theorem Lang_subst_map (sat : ρ → β → Bool) (sat' : π → α → Bool) (f : π → Rx ρ)
    (enc : α → List β) (P : π → Prop) (Q : α → Prop)
    (hf : ∀ p x, P p → Q x → accepts sat (f p) (enc x) = sat' p x)
    (e : Rx π) (he : ∀ p ∈ atoms e, P p) (xs : List α) (hx : ∀ x ∈ xs, Q x)
    (huniq : ∀ us : List (List β), (∀ u ∈ us, ∃ p ∈ atoms e, accepts sat (f p) u = true) →
      (xs.map enc).flatten = us.flatten → us = xs.map enc) :
    Lang sat (subst f e) (xs.map enc).flatten ↔ Lang sat' e xs := by
  have key := Lang_map (fun p u => accepts sat (f p) u) sat' enc P Q hf e he xs hx
  rw [Lang_subst]
  constructor
  · rintro ⟨us, hfl, hl⟩
    rw [huniq us (Lang_letters _ e us hl) hfl] at hl
    exact key.1 hl
  · exact fun h => ⟨xs.map enc, rfl, key.2 h⟩

end Scion.Seq.Rx
