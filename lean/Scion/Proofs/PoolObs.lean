import Scion.Proofs.Pool
/-! C14: what the scripted sockets can observe of a run of the ownership model is always
accepted by the acceptor `obsStep` (the acceptor never rejects a behaviour of the protocol).
Core Lean only. -/
namespace Scion.Pool

def Ev.obs : Ev → List ObsEv
  | .rxGet c b => [.hold c b]
  | .rxRead c bs => bs.map (ObsEv.fill c)
  | .rxStopPut c b => [.release c b]
  | .txTake l b => [.present l b]
  | .txPut l b => [.done l b]
  | _ => []

def obsRun (σ : ObsState) : List ObsEv → Except String ObsState
  | [] => .ok σ
  | e :: es => match obsStep σ e with
    | .ok σ' => obsRun σ' es
    | .error w => .error w

/-- what the sockets know about a buffer at a location -/
def Loc.seen : Loc → Seen
  | .rx c => .rx c
  | .tx l => .tx l
  | _ => .flight

def Agree (h : List (Loc × Buf)) (σ : ObsState) : Prop := ∀ p ∈ h, seen σ p.2 = p.1.seen

theorem seen_setSeen_same (σ : ObsState) (b : Buf) (v : Seen) : seen (setSeen σ b v) b = v := by
  simp [seen, setSeen]

theorem seen_setSeen_other (σ : ObsState) (b b' : Buf) (v : Seen) (h : b' ≠ b) :
    seen (setSeen σ b v) b' = seen σ b' := by
  unfold seen setSeen
  -- a pair found under key `b'` passes the filter `≠ b`
  have hp : (fun p : Buf × Seen => decide ((p.1 != b) = true ∧ (p.1 == b') = true)) =
      fun p => p.1 == b' := by
    funext p
    by_cases hb : p.1 = b' <;> simp [hb, h]
  rw [List.find?_cons_of_neg (by simpa using fun e : b = b' => h e.symm), List.find?_filter, hp]

theorem agree_move (h : List (Loc × Buf)) (σ : ObsState) (src dst : Loc) (b : Buf)
    (hn : (bufs h).Nodup) (ha : Agree h σ) (hin : (src, b) ∈ h) :
    Agree (h.erase (src, b) ++ [(dst, b)]) (setSeen σ b dst.seen) := by
  intro p hp
  rcases List.mem_append.mp hp with h1 | h1
  · -- `b` had one holding and that is erased: `p` is about another buffer
    have hn2 : (b :: bufs (h.erase (src, b))).Nodup :=
      ((List.perm_cons_erase hin).map (fun p : Loc × Buf => p.2)).nodup_iff.mp hn
    have hne : p.2 ≠ b := fun he => (List.nodup_cons.mp hn2).1 (List.mem_map.mpr ⟨p, h1, he⟩)
    rw [seen_setSeen_other _ _ _ _ hne]
    exact ha p (List.mem_of_mem_erase h1)
  · rw [List.mem_singleton.mp h1]; exact seen_setSeen_same _ _ _

theorem agree_move_silent (σ : ObsState) (src dst : Loc) (hs : src.seen = dst.seen)
    (h : List (Loc × Buf)) (b : Buf) (hin : (src, b) ∈ h) (ha : Agree h σ) :
    Agree (h.erase (src, b) ++ [(dst, b)]) σ := by
  intro p hp
  rcases List.mem_append.mp hp with h1 | h1
  · exact ha p (List.mem_of_mem_erase h1)
  · rw [List.mem_singleton.mp h1]
    exact (ha (src, b) hin).trans hs

theorem obsRun_append (xs ys : List ObsEv) : ∀ σ σ', obsRun σ xs = .ok σ' →
    obsRun σ (xs ++ ys) = obsRun σ' ys := by
  induction xs with
  | nil => intro σ σ' h; cases h; rfl
  | cons x xs ih =>
    intro σ σ' h
    simp only [obsRun, List.cons_append] at h ⊢
    cases hx : obsStep σ x with
    | error w => rw [hx] at h; cases h
    | ok σ1 => rw [hx] at h; exact ih σ1 σ' h

/-- `ReadBatch` fills a list of registered buffers -/
theorem fill_all (c : Nat) : ∀ (bs : List Buf) (h h' : List (Loc × Buf)),
    moveAll h (.rx c) (.rxDeliver c) bs = some h' → ∀ σ : ObsState, (bufs h).Nodup → Agree h σ →
    ∃ σ', obsRun σ (bs.map (ObsEv.fill c)) = .ok σ' ∧ Agree h' σ' := by
  refine (isRun_moveAll _ _).induction (fun h σ _ ha => ⟨σ, rfl, ha⟩) ?_
  intro h b h1 bs h' hb ih σ hn ha
  obtain ⟨hin, rfl⟩ := moveOne_eq_some.1 hb
  have hs : seen σ b = .rx c := ha _ hin
  obtain ⟨σ', hr, ha'⟩ := ih _ ((bufs_move h _ _ b hin).nodup_iff.mpr hn)
    (agree_move h σ _ _ b hn ha hin)
  refine ⟨σ', ?_, ha'⟩
  simp only [List.map_cons, obsRun, obsStep, hs, if_true]
  exact hr

theorem move_obs (h h' : List (Loc × Buf)) (σ : ObsState) (src dst : Loc) (b : Buf) (o : ObsEv)
    (hn : (bufs h).Nodup) (ha : Agree h σ) (hm : moveAll h src dst [b] = some h')
    (ho : seen σ b = src.seen → obsStep σ o = .ok (setSeen σ b dst.seen)) :
    ∃ σ', obsRun σ [o] = .ok σ' ∧ Agree h' σ' := by
  obtain ⟨hin, hm⟩ := moveAll_cons_some hm
  cases hm
  refine ⟨_, ?_, agree_move h σ src dst b hn ha hin⟩
  simp only [obsRun, ho (ha _ hin)]

theorem step_obs (s s' : State) (e : Ev) (σ : ObsState) (hn : (bufs s.holdings).Nodup)
    (ha : Agree s.holdings σ) (hs : step s e = some s') :
    ∃ σ', obsRun σ e.obs = .ok σ' ∧ Agree s'.holdings σ' := by
  have hm := step_moveAll s s' e hs
  cases e with
  | rxRead c bs => exact fill_all c bs _ _ hm σ hn ha
  | rxGet c b =>
    refine move_obs _ _ σ _ _ b _ hn ha hm fun (h : seen σ b = .flight) => ?_
    simp only [obsStep, h]; rfl
  | rxStopPut c b =>
    refine move_obs _ _ σ _ _ b _ hn ha hm fun (h : seen σ b = .rx c) => ?_
    simp only [obsStep, h, true_or, if_true]; rfl
  | txTake l b =>
    refine move_obs _ _ σ _ _ b _ hn ha hm fun (h : seen σ b = .flight) => ?_
    simp only [obsStep, h]; rfl
  | txPut l b =>
    refine move_obs _ _ σ _ _ b _ hn ha hm fun (h : seen σ b = .tx l) => ?_
    simp only [obsStep, h, if_true]; rfl
  | _ => exact ⟨σ, rfl, moveAll_preserves (agree_move_silent σ _ _ (by rfl)) hm ha⟩

theorem run_obs : ∀ (es : List Ev) (s s' : State), run s es = some s' → ∀ σ : ObsState,
    (bufs s.holdings).Nodup → Agree s.holdings σ →
    ∃ σ', obsRun σ (es.flatMap Ev.obs) = .ok σ' ∧ Agree s'.holdings σ' := by
  refine isRun_run.induction (fun s σ _ ha => ⟨σ, rfl, ha⟩) ?_
  intro s e s1 es s' hs ih σ hn ha
  obtain ⟨σ1, hr1, ha1⟩ := step_obs s s1 e σ hn ha hs
  obtain ⟨σ', hr', ha'⟩ := ih σ1 ((step_perm s s1 e hs).nodup_iff.mpr hn) ha1
  refine ⟨σ', ?_, ha'⟩
  rw [List.flatMap_cons, obsRun_append _ _ σ σ1 hr1]
  exact hr'

end Scion.Pool
