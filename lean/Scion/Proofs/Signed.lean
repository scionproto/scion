import Scion.Model.Signed
import Scion.Proofs.BigEndian
/-!
Helper lemmas for C38: prefix-freeness of the protobuf varint and of length-delimited
fields (the facts behind "the `HeaderAndBody` ‖ associated-data boundary cannot move").
-/
namespace Scion.Signed
open Scion.Util (Bytes)

def PR {α : Type} (l₁ l₂ : List α) : Prop := l₁ <+: l₂ ∨ l₂ <+: l₁

theorem PR.symm {α : Type} {l₁ l₂ : List α} (h : PR l₁ l₂) : PR l₂ l₁ := Or.symm h

theorem PR.cons {α : Type} {x y : α} {l₁ l₂ : List α} (h : PR (x :: l₁) (y :: l₂)) :
    x = y ∧ PR l₁ l₂ := by
  rcases h with h | h
  · obtain ⟨a, b⟩ := List.cons_prefix_cons.mp h; exact ⟨a, Or.inl b⟩
  · obtain ⟨a, b⟩ := List.cons_prefix_cons.mp h; exact ⟨a.symm, Or.inr b⟩

theorem PR.of_append_eq {α : Type} {a b c d : List α} (h : a ++ b = c ++ d) : PR a c := by
  rcases List.append_eq_append_iff.mp h with ⟨x, hx, _⟩ | ⟨x, hx, _⟩
  · exact Or.inl ⟨x, hx.symm⟩
  · exact Or.inr ⟨x, hx.symm⟩

theorem PR.append_left {α : Type} {a c b d : List α} (h : PR (a ++ b) (c ++ d))
    (hl : a.length = c.length) : a = c ∧ PR b d := by
  rcases h with ⟨t, ht⟩ | ⟨t, ht⟩
  · rw [List.append_assoc] at ht
    obtain ⟨e1, e2⟩ := List.append_inj ht hl
    exact ⟨e1, Or.inl ⟨t, e2⟩⟩
  · rw [List.append_assoc] at ht
    obtain ⟨e1, e2⟩ := List.append_inj ht hl.symm
    exact ⟨e1.symm, Or.inr ⟨t, e2⟩⟩

theorem PR.length_eq {α : Type} {a c : List α} (h : PR a c) (hl : a.length = c.length) : a = c := by
  rcases h with h | h
  · exact h.eq_of_length hl
  · exact (h.eq_of_length hl.symm).symm

theorem varint_PR (a : Nat) : ∀ (b : Nat) (s t : Bytes),
    PR (varint a ++ s) (varint b ++ t) → a = b ∧ PR s t := by
  induction a using Nat.strongRecOn with
  | _ a ih =>
    intro b s t h
    rw [varint.eq_1 a, varint.eq_1 b] at h
    by_cases ha : a < 128 <;> by_cases hb : b < 128
    · simp only [ha, hb, if_true, List.cons_append, List.nil_append] at h
      obtain ⟨h1, h2⟩ := h.cons
      exact ⟨Util.ofNat_inj (by omega) (by omega) h1, h2⟩
    · simp only [ha, hb, if_true, if_false, List.cons_append, List.nil_append] at h
      obtain ⟨h1, _⟩ := h.cons
      have := Util.ofNat_inj (by omega) (by omega) h1
      omega
    · simp only [ha, hb, if_true, if_false, List.cons_append, List.nil_append] at h
      obtain ⟨h1, _⟩ := h.cons
      have := Util.ofNat_inj (by omega) (by omega) h1
      omega
    · simp only [ha, hb, if_false, List.cons_append] at h
      obtain ⟨h1, h2⟩ := h.cons
      have e1 := Util.ofNat_inj (by omega) (by omega) h1
      obtain ⟨e2, h3⟩ := ih (a / 128) (by omega) (b / 128) s t h2
      exact ⟨by omega, h3⟩

theorem lenDelim_of_ne_nil (tag : UInt8) {x : Bytes} (h : x ≠ []) :
    lenDelim tag x = tag :: (varint x.length ++ x) := by
  cases x with
  | nil => exact absurd rfl h
  | cons a t => simp [lenDelim]

theorem lenDelim_nil (tag : UInt8) : lenDelim tag [] = [] := by simp [lenDelim]

/-- field 1 is present -/
theorem encHeader_ne_nil (h : Header) (hk : algoKnown h.algo = true) : encHeader h ≠ [] := by
  have h3 : h.algo = 1 ∨ h.algo = 2 ∨ h.algo = 3 := by
    simp [algoKnown] at hk; omega
  have : algoToPB h.algo ≠ 0 := by
    unfold algoToPB; rw [if_pos h3]; omega
  simp [encHeader, varField, this]

/-- **Two length-delimited field-1 frames in prefix relation carry the same header bytes.**
`r`, `r'` are whatever follows (body field, unknown fields, associated data). -/
theorem frame_PR {e e' r r' : Bytes} (he : e ≠ []) (he' : e' ≠ [])
    (h : PR (lenDelim 0x0a e ++ r) (lenDelim 0x0a e' ++ r')) : e = e' ∧ PR r r' := by
  rw [lenDelim_of_ne_nil _ he, lenDelim_of_ne_nil _ he'] at h
  simp only [List.cons_append, List.append_assoc] at h
  obtain ⟨_, h2⟩ := h.cons
  obtain ⟨hl, h3⟩ := varint_PR _ _ _ _ h2
  exact h3.append_left hl

theorem extract_eq_some {F : Framing} {hb : Bytes} {h : Header} {b : Bytes} :
    extract F hb = some (h, b) ↔ ∃ e u, F.parseOuter hb = some (e, b, u) ∧ F.parseHdr e = some h := by
  unfold extract
  rcases F.parseOuter hb with _ | ⟨e, b', u⟩
  · simp
  · cases hp : F.parseHdr e <;> simp [hp]
    constructor
    · rintro ⟨rfl, rfl⟩; exact ⟨e, ⟨rfl, rfl⟩, hp⟩
    · rintro ⟨_, ⟨rfl, rfl⟩, h'⟩; exact ⟨Option.some.inj (hp.symm.trans h'), rfl⟩

theorem canonical_of_parse {F : Framing} {hb e b u : Bytes} (h : F.parseOuter hb = some (e, b, u)) :
    canonical F hb = true ↔ encHdrAndBody e b ++ u = hb := by
  simp [canonical, h]

end Scion.Signed
