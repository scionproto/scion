import Scion.Proofs.Drkey
import Scion.Gen.Drkey
/-!
# C39 — DRKey keys are derived consistently and with domain separation

Property theorems only.  The model (`Scion.Model.Drkey`) is tied to `pkg/drkey`,
`control/drkey` and `private/drkey/drkeyutil` by `harness/cmd/drkey`, which runs the real
derivers, the real `ServiceEngine` and the real `FakeProvider` and compares real key bytes with
the model instantiated with an executable AES-CBC-MAC (`Scion.Util.AesDrkey`).

Every theorem is for **all** `prf`: the pseudo-random function is a parameter.
-/
namespace Scion.C39
open Scion.Util Scion.Drkey

/-! ## 1. The service's key is the key a host derives itself -/

/-- protocol of the secret value at the root of protocol `p`'s hierarchy: its own for protocols
    with a protocol-specific derivation, `Generic` otherwise (doc: "Generic-protocol derivation") -/
def svProto (p : Nat) : Nat := if isPredefined p then p else genericProto

/-- host side, AS-host key: a node holding the secret value `svKey` of the source AS runs the
    level-1 derivation and then its protocol's deriver (`specific` or `generic{p}`) -/
def hostASHost (prf : Key → Bytes → Key) (svKey : Key) (p dst : Nat) (h : Option Host) :
    Except DErr Key :=
  if isPredefined p then Specific.deriveASHost prf h (Specific.deriveLevel1 prf dst svKey)
  else Generic.deriveASHost prf p h (Specific.deriveLevel1 prf dst svKey)

def hostHostAS (prf : Key → Bytes → Key) (svKey : Key) (p dst : Nat) (h : Option Host) :
    Except DErr Key :=
  if isPredefined p then Specific.deriveHostAS prf h (Specific.deriveLevel1 prf dst svKey)
  else Generic.deriveHostAS prf p h (Specific.deriveLevel1 prf dst svKey)

def hostHostHost (prf : Key → Bytes → Key) (svKey : Key) (p dst : Nat) (hs hd : Option Host) :
    Except DErr Key :=
  match hostHostAS prf svKey p dst hs with
  | .error e => .error e
  | .ok ha =>
    if isPredefined p then Specific.deriveHostHost prf hd ha else Generic.deriveHostHost prf hd ha

/-- level-2 input chosen by the service: protocol-specific deriver for predefined protocols -/
def l2Input (kt p : Nat) (h : Host) : Option Bytes :=
  if isPredefined p then specificInput kt h else genericInput kt p h

/-- the level-1 key the service works from: derived from the *source* AS's secret value, whether
    the service is the source AS itself (fast side) or fetched the key from it (slow side) -/
theorem obtainLevel1Key_eq (prf : Key → Bytes → Key) (sv : Nat → Nat → Key) (loc p src dst : Nat) :
    obtainLevel1Key prf sv loc p src dst =
      if src = loc ∨ dst = loc then .ok (Specific.deriveLevel1 prf dst (sv src (svProto p)))
      else .error .notEndpoint := by
  unfold obtainLevel1Key getLevel1Key svProto
  by_cases h1 : src = loc <;> by_cases h2 : dst = loc <;> simp [h1, h2]

/-- Choosing between the protocol-specific and the generic deriver by `isPredefined p`, as service
    and host both do, is one `deriveWith` step on the serialiser `l2Input kt p` — whatever is done
    with the result (`f`: `liftD` at the service). -/
theorem l2_step {β : Type} (f : Except DErr Key → β) (prf : Key → Bytes → Key) (l1 : Key)
    (kt p : Nat) (h : Option Host) :
    (if isPredefined p then f (deriveWith prf l1 h (specificInput kt))
      else f (deriveWith prf l1 h (genericInput kt p))) = f (deriveWith prf l1 h (l2Input kt p)) := by
  unfold l2Input
  cases isPredefined p <;> rfl

/-- a service that is neither the source nor the destination AS serves nothing -/
theorem service_only_endpoint (prf : Key → Bytes → Key) (sv : Nat → Nat → Key)
    (loc p src dst : Nat) (hs hd : Option Host) (h1 : src ≠ loc) (h2 : dst ≠ loc) :
    svcASHost prf sv loc p src dst hd = .error .notEndpoint ∧
    svcHostAS prf sv loc p src dst hs = .error .notEndpoint ∧
    svcHostHost prf sv loc p src dst hs hd = .error .notEndpoint := by
  simp only [svcHostHost, svcASHost, svcHostAS, obtainLevel1Key_eq, if_neg (not_or.2 ⟨h1, h2⟩)]
  exact ⟨trivial, trivial, trivial⟩

/-- The control service of `loc`, asked for an AS-host key with `loc` as an endpoint, returns
    exactly what the host-side derivers give from the *source* AS's secret value of the
    matching protocol. -/
theorem service_eq_host_ashost (prf : Key → Bytes → Key) (sv : Nat → Nat → Key)
    (loc p src dst : Nat) (h : Option Host) (hep : src = loc ∨ dst = loc) :
    svcASHost prf sv loc p src dst h = liftD (hostASHost prf (sv src (svProto p)) p dst h) := by
  simp only [svcASHost, hostASHost, obtainLevel1Key_eq, if_pos hep]
  split <;> rfl

theorem service_eq_host_hostas (prf : Key → Bytes → Key) (sv : Nat → Nat → Key)
    (loc p src dst : Nat) (h : Option Host) (hep : src = loc ∨ dst = loc) :
    svcHostAS prf sv loc p src dst h = liftD (hostHostAS prf (sv src (svProto p)) p dst h) := by
  simp only [svcHostAS, hostHostAS, obtainLevel1Key_eq, if_pos hep]
  split <;> rfl

theorem service_eq_host_hosthost (prf : Key → Bytes → Key) (sv : Nat → Nat → Key)
    (loc p src dst : Nat) (hs hd : Option Host) (hep : src = loc ∨ dst = loc) :
    svcHostHost prf sv loc p src dst hs hd =
      liftD (hostHostHost prf (sv src (svProto p)) p dst hs hd) := by
  unfold svcHostHost hostHostHost
  rw [service_eq_host_hostas prf sv loc p src dst hs hep]
  cases hostHostAS prf (sv src (svProto p)) p dst hs with
  | error e => cases e <;> rfl
  | ok k => simp only [liftD]; split <;> rfl

/-- the clause of the statement, all three key types -/
theorem service_eq_host (prf : Key → Bytes → Key) (sv : Nat → Nat → Key)
    (loc p src dst : Nat) (hs hd : Option Host) (hep : src = loc ∨ dst = loc) :
    svcASHost prf sv loc p src dst hd = liftD (hostASHost prf (sv src (svProto p)) p dst hd) ∧
    svcHostAS prf sv loc p src dst hs = liftD (hostHostAS prf (sv src (svProto p)) p dst hs) ∧
    svcHostHost prf sv loc p src dst hs hd =
      liftD (hostHostHost prf (sv src (svProto p)) p dst hs hd) :=
  ⟨service_eq_host_ashost prf sv loc p src dst hd hep,
   service_eq_host_hostas prf sv loc p src dst hs hep,
   service_eq_host_hosthost prf sv loc p src dst hs hd hep⟩

/-! ## 2. The documented derivation: explicit input layouts -/

/-- level 1: `type ‖ B`, zero padded to one block -/
theorem level1_layout (dst : Nat) :
    level1Input dst = (0 :: natBE 8 dst) ++ List.replicate 7 0 := by
  simp [level1Input, zeroPad, ktAsAs, length_natBE]

/-- level 2/3, protocol-specific, 4-byte host (IPv4 or service): `type ‖ len/type(H) ‖ H`, one block -/
theorem specific_layout_4 (kt : Nat) (h : Host) (hl : h.raw.length = 4) :
    specificInput kt h =
      some ((UInt8.ofNat kt :: UInt8.ofNat (h.typ % 16) :: h.raw) ++ List.replicate 10 0) := by
  simp [specificInput, inputLen, l2BufLen, zeroPad, hl]

/-- … 16-byte host (IPv6): two blocks -/
theorem specific_layout_16 (kt : Nat) (h : Host) (hl : h.raw.length = 16) :
    specificInput kt h =
      some ((UInt8.ofNat kt :: UInt8.ofNat (h.typ % 16) :: h.raw) ++ List.replicate 14 0) := by
  simp [specificInput, inputLen, l2BufLen, zeroPad, hl]

/-- level 2, generic: `type ‖ protocol ‖ len/type(H) ‖ H` -/
theorem generic_layout_4 (kt p : Nat) (h : Host) (hl : h.raw.length = 4) :
    genericInput kt p h =
      some ((UInt8.ofNat kt :: UInt8.ofNat (p / 256 % 256) :: UInt8.ofNat (p % 256) ::
             UInt8.ofNat (h.typ % 16) :: h.raw) ++ List.replicate 8 0) := by
  simp [genericInput, inputLen, l2BufLen, zeroPad, hl]

theorem generic_layout_16 (kt p : Nat) (h : Host) (hl : h.raw.length = 16) :
    genericInput kt p h =
      some ((UInt8.ofNat kt :: UInt8.ofNat (p / 256 % 256) :: UInt8.ofNat (p % 256) ::
             UInt8.ofNat (h.typ % 16) :: h.raw) ++ List.replicate 12 0) := by
  simp [genericInput, inputLen, l2BufLen, zeroPad, hl]

/-- the derivers never hit the bounds check for well-formed host addresses -/
theorem inputs_defined (kt p : Nat) (h : Host) (hw : h.WF) :
    (specificInput kt h).isSome ∧ (genericInput kt p h).isSome ∧ (hostHostInput h).isSome := by
  have hs := Nat.not_lt.2 (inputLen_le 2 h.typ (by decide))
  have hg := Nat.not_lt.2 (inputLen_le 4 h.typ (by decide))
  simp only [hostHostInput, specificInput, genericInput, hw.2, gt_iff_lt, if_neg hs, if_neg hg]
  exact ⟨rfl, rfl, rfl⟩

/-! ## 3. Domain separation -/

theorem level1Input_injective {a b : Nat} (ha : a < 2 ^ 64) (hb : b < 2 ^ 64)
    (h : level1Input a = level1Input b) : a = b := by
  unfold level1Input at h
  have h' := zeroPad_inj (by simp [length_natBE]) h
  simp only [List.cons.injEq, true_and] at h'
  exact natBE_inj (k := 8) ha hb h'

theorem specificInput_injective {kt1 kt2 : Nat} {h1 h2 : Host} {x : Bytes}
    (hk1 : kt1 < 256) (hk2 : kt2 < 256) (hw1 : h1.WF) (hw2 : h2.WF)
    (e1 : specificInput kt1 h1 = some x) (e2 : specificInput kt2 h2 = some x) :
    kt1 = kt2 ∧ h1 = h2 := by
  have e := (specificInput_eq_some e1).symm.trans (specificInput_eq_some e2)
  obtain ⟨ek, eh⟩ := hostBody_inj (pre1 := [UInt8.ofNat kt1]) (pre2 := [UInt8.ofNat kt2]) hw1 hw2 rfl e
  exact ⟨ofNat_inj hk1 hk2 (List.cons.inj ek).1, eh⟩

theorem genericInput_injective {kt1 kt2 p1 p2 : Nat} {h1 h2 : Host} {x : Bytes}
    (hk1 : kt1 < 256) (hk2 : kt2 < 256) (hp1 : p1 < 65536) (hp2 : p2 < 65536)
    (hw1 : h1.WF) (hw2 : h2.WF)
    (e1 : genericInput kt1 p1 h1 = some x) (e2 : genericInput kt2 p2 h2 = some x) :
    kt1 = kt2 ∧ p1 = p2 ∧ h1 = h2 := by
  have e := (genericInput_eq_some e1).symm.trans (genericInput_eq_some e2)
  obtain ⟨ep, eh⟩ := hostBody_inj (pre1 := [UInt8.ofNat kt1, UInt8.ofNat (p1 / 256 % 256), UInt8.ofNat (p1 % 256)])
    (pre2 := [UInt8.ofNat kt2, UInt8.ofNat (p2 / 256 % 256), UInt8.ofNat (p2 % 256)]) hw1 hw2 rfl e
  simp only [List.cons.injEq, and_true] at ep
  have hph := ofNat_inj (Nat.mod_lt _ (by decide)) (Nat.mod_lt _ (by decide)) ep.2.1
  have hpl := ofNat_inj (Nat.mod_lt _ (by decide)) (Nat.mod_lt _ (by decide)) ep.2.2
  exact ⟨ofNat_inj hk1 hk2 ep.1, by omega, eh⟩

/-- every input starts with its key-type byte, so inputs of different key types differ -/
theorem level1Input_head (dst : Nat) : (level1Input dst).head? = some (UInt8.ofNat ktAsAs) := by
  simp [level1Input, zeroPad]

theorem specificInput_head {kt : Nat} {h : Host} {x : Bytes} (e : specificInput kt h = some x) :
    x.head? = some (UInt8.ofNat kt) := by
  rw [specificInput_eq_some e, zeroPad_head]

theorem genericInput_head {kt p : Nat} {h : Host} {x : Bytes} (e : genericInput kt p h = some x) :
    x.head? = some (UInt8.ofNat kt) := by
  rw [genericInput_eq_some e, zeroPad_head]

theorem keytype_bytes_distinct :
    [UInt8.ofNat ktAsAs, UInt8.ofNat ktAsHost, UInt8.ofNat ktHostAS, UInt8.ofNat ktHostHost].Nodup := by
  decide

/-- a key request as the control service serves it -/
inductive Req
  | asHost (p src dst : Nat) (h : Host)
  | hostAS (p src dst : Nat) (h : Host)
  | hostHost (p src dst : Nat) (hs hd : Host)
deriving DecidableEq

/-- The derivation path of a request: the secret value at its root (source AS, protocol) and the
    PRF inputs from the top down. -/
def Req.path : Req → Option (Nat × Nat × List Bytes)
  | .asHost p src dst h =>
    match l2Input ktAsHost p h with
    | some i2 => some (src, svProto p, [level1Input dst, i2])
    | none => none
  | .hostAS p src dst h =>
    match l2Input ktHostAS p h with
    | some i2 => some (src, svProto p, [level1Input dst, i2])
    | none => none
  | .hostHost p src dst hs hd =>
    match l2Input ktHostAS p hs, hostHostInput hd with
    | some i2, some i3 => some (src, svProto p, [level1Input dst, i2, i3])
    | _, _ => none

/-- what the service computes for a request -/
def Req.serve (prf : Key → Bytes → Key) (sv : Nat → Nat → Key) (loc : Nat) : Req → Except SvcErr Key
  | .asHost p src dst h => svcASHost prf sv loc p src dst (some h)
  | .hostAS p src dst h => svcHostAS prf sv loc p src dst (some h)
  | .hostHost p src dst hs hd => svcHostHost prf sv loc p src dst (some hs) (some hd)

theorem path_asHost {p src dst : Nat} {h : Host} {x : Nat × Nat × List Bytes} :
    (Req.asHost p src dst h).path = some x ↔
      ∃ i2, l2Input ktAsHost p h = some i2 ∧ x = (src, svProto p, [level1Input dst, i2]) := by
  simp only [Req.path]
  cases l2Input ktAsHost p h <;> simp [eq_comm]

theorem path_hostAS {p src dst : Nat} {h : Host} {x : Nat × Nat × List Bytes} :
    (Req.hostAS p src dst h).path = some x ↔
      ∃ i2, l2Input ktHostAS p h = some i2 ∧ x = (src, svProto p, [level1Input dst, i2]) := by
  simp only [Req.path]
  cases l2Input ktHostAS p h <;> simp [eq_comm]

theorem path_hostHost {p src dst : Nat} {hs hd : Host} {x : Nat × Nat × List Bytes} :
    (Req.hostHost p src dst hs hd).path = some x ↔
      ∃ i2 i3, l2Input ktHostAS p hs = some i2 ∧ hostHostInput hd = some i3 ∧
        x = (src, svProto p, [level1Input dst, i2, i3]) := by
  simp only [Req.path]
  cases l2Input ktHostAS p hs <;> cases hostHostInput hd <;> simp [eq_comm]

theorem svcHostAS_ok {prf : Key → Bytes → Key} {sv : Nat → Nat → Key} {loc p src dst : Nat}
    {hh : Host} {k : Key} (h : svcHostAS prf sv loc p src dst (some hh) = .ok k) :
    ∃ i2, l2Input ktHostAS p hh = some i2 ∧
      k = prf (prf (sv src (svProto p)) (level1Input dst)) i2 := by
  by_cases hep : src = loc ∨ dst = loc
  · simp only [svcHostAS, obtainLevel1Key_eq, if_pos hep] at h
    exact liftD_deriveWith_ok.1 ((l2_step liftD prf _ ktHostAS p (some hh)).symm.trans h)
  · simp only [svcHostAS, obtainLevel1Key_eq, if_neg hep] at h
    cases h

/-- The key served for a request is the PRF chained along the request's path, starting from the
    secret value at the path's root. -/
theorem served_key_along_path (prf : Key → Bytes → Key) (sv : Nat → Nat → Key) (loc : Nat)
    (r : Req) (k : Key) (h : r.serve prf sv loc = .ok k) :
    ∃ a q ins, r.path = some (a, q, ins) ∧ k = ins.foldl prf (sv a q) := by
  cases r with
  | asHost p src dst hh =>
    by_cases hep : src = loc ∨ dst = loc
    · simp only [Req.serve, svcASHost, obtainLevel1Key_eq, if_pos hep] at h
      obtain ⟨i2, e2, rfl⟩ :=
        liftD_deriveWith_ok.1 ((l2_step liftD prf _ ktAsHost p (some hh)).symm.trans h)
      exact ⟨src, svProto p, _, path_asHost.2 ⟨i2, e2, rfl⟩, rfl⟩
    · simp only [Req.serve, svcASHost, obtainLevel1Key_eq, if_neg hep] at h
      cases h
  | hostAS p src dst hh =>
    obtain ⟨i2, e2, rfl⟩ := svcHostAS_ok h
    exact ⟨src, svProto p, _, path_hostAS.2 ⟨i2, e2, rfl⟩, rfl⟩
  | hostHost p src dst hs hd =>
    simp only [Req.serve, svcHostHost] at h
    cases e : svcHostAS prf sv loc p src dst (some hs) with
    | error err => rw [e] at h; cases h
    | ok ha =>
      obtain ⟨i2, e2, rfl⟩ := svcHostAS_ok e
      rw [e] at h
      -- both derivers serialise the destination host with `hostHostInput`
      obtain ⟨i3, e3, rfl⟩ := liftD_deriveWith_ok.1 ((ite_self (c := isPredefined p = true) _).symm.trans h)
      exact ⟨src, svProto p, _, path_hostHost.2 ⟨i2, i3, e2, e3, rfl⟩, rfl⟩

/-- requests the service can be asked: 16-bit protocol that is **not** `Generic` (C40
    `never_generic`: level-2/3 keys are never served for protocol 0), 64-bit ISD-AS numbers,
    well-formed host addresses -/
def Req.Valid : Req → Prop
  | .asHost p src dst h => p ≠ genericProto ∧ p < 65536 ∧ src < 2 ^ 64 ∧ dst < 2 ^ 64 ∧ h.WF
  | .hostAS p src dst h => p ≠ genericProto ∧ p < 65536 ∧ src < 2 ^ 64 ∧ dst < 2 ^ 64 ∧ h.WF
  | .hostHost p src dst hs hd =>
    p ≠ genericProto ∧ p < 65536 ∧ src < 2 ^ 64 ∧ dst < 2 ^ 64 ∧ hs.WF ∧ hd.WF

theorem l2Input_head {kt p : Nat} {h : Host} {x : Bytes} (e : l2Input kt p h = some x) :
    x.head? = some (UInt8.ofNat kt) := by
  unfold l2Input at e
  split at e
  · exact specificInput_head e
  · exact genericInput_head e

theorem l2Input_injective {kt p1 p2 : Nat} {h1 h2 : Host} {x : Bytes} (hk : kt < 256)
    (hp1 : p1 < 65536) (hp2 : p2 < 65536) (hn1 : p1 ≠ genericProto) (hn2 : p2 ≠ genericProto)
    (hw1 : h1.WF) (hw2 : h2.WF) (hs : svProto p1 = svProto p2)
    (e1 : l2Input kt p1 h1 = some x) (e2 : l2Input kt p2 h2 = some x) : p1 = p2 ∧ h1 = h2 := by
  unfold l2Input at e1 e2
  unfold svProto at hs
  by_cases c1 : isPredefined p1 = true <;> by_cases c2 : isPredefined p2 = true <;>
    simp only [c1, c2, if_true] at e1 e2 hs
  · exact ⟨hs, (specificInput_injective hk hk hw1 hw2 e1 e2).2⟩
  · exact absurd hs hn1
  · exact absurd hs.symm hn2
  · exact (genericInput_injective hk hk hp1 hp2 hw1 hw2 e1 e2).2

/-- **Domain separation.**  Two valid requests with the same derivation path (same secret value
    at the root and the same sequence of PRF inputs) are the same request: key type, protocol,
    both ISD-ASes and every host address are determined by the path.  Hence keys for different key
    types, protocols or host addresses are never computed from coinciding inputs. -/
theorem domain_separation (r1 r2 : Req) (v1 : r1.Valid) (v2 : r2.Valid)
    (x : Nat × Nat × List Bytes) (e1 : r1.path = some x) (e2 : r2.path = some x) : r1 = r2 := by
  have kAH : ktAsHost < 256 := by decide
  have kHA : ktHostAS < 256 := by decide
  have kHH : ktHostHost < 256 := by decide
  -- AS-host and host-AS paths differ in the key-type byte of the second input, host-host paths
  -- are longer
  have kt_ne : ∀ {p1 p2 h1 h2 i}, l2Input ktAsHost p1 h1 = some i → l2Input ktHostAS p2 h2 ≠ some i :=
    fun a b => (List.nodup_cons.1 (List.nodup_cons.1 keytype_bytes_distinct).2).1
      (Option.some.inj ((l2Input_head a).symm.trans (l2Input_head b)) ▸ List.mem_cons_self)
  cases r1 with
  | asHost p1 s1 d1 h1 =>
    obtain ⟨n1, q1, _, b1, w1⟩ := v1
    obtain ⟨i1, hi1, rfl⟩ := path_asHost.1 e1
    cases r2 with
    | asHost p2 s2 d2 h2 =>
      obtain ⟨n2, q2, _, b2, w2⟩ := v2
      obtain ⟨i2, hi2, e⟩ := path_asHost.1 e2
      simp only [Prod.mk.injEq, List.cons.injEq, and_true] at e
      obtain ⟨rfl, ep, ed, rfl⟩ := e
      obtain ⟨rfl, rfl⟩ := l2Input_injective kAH q1 q2 n1 n2 w1 w2 ep hi1 hi2
      rw [level1Input_injective b1 b2 ed]
    | hostAS p2 s2 d2 h2 =>
      obtain ⟨i2, hi2, e⟩ := path_hostAS.1 e2
      simp only [Prod.mk.injEq, List.cons.injEq, and_true] at e
      exact absurd (e.2.2.2 ▸ hi2) (kt_ne hi1)
    | hostHost p2 s2 d2 hs2 hd2 =>
      simp [path_hostHost] at e2
  | hostAS p1 s1 d1 h1 =>
    obtain ⟨n1, q1, _, b1, w1⟩ := v1
    obtain ⟨i1, hi1, rfl⟩ := path_hostAS.1 e1
    cases r2 with
    | asHost p2 s2 d2 h2 =>
      obtain ⟨i2, hi2, e⟩ := path_asHost.1 e2
      simp only [Prod.mk.injEq, List.cons.injEq, and_true] at e
      exact absurd (e.2.2.2 ▸ hi1) (kt_ne hi2)
    | hostAS p2 s2 d2 h2 =>
      obtain ⟨n2, q2, _, b2, w2⟩ := v2
      obtain ⟨i2, hi2, e⟩ := path_hostAS.1 e2
      simp only [Prod.mk.injEq, List.cons.injEq, and_true] at e
      obtain ⟨rfl, ep, ed, rfl⟩ := e
      obtain ⟨rfl, rfl⟩ := l2Input_injective kHA q1 q2 n1 n2 w1 w2 ep hi1 hi2
      rw [level1Input_injective b1 b2 ed]
    | hostHost p2 s2 d2 hs2 hd2 =>
      simp [path_hostHost] at e2
  | hostHost p1 s1 d1 hs1 hd1 =>
    obtain ⟨n1, q1, _, b1, ws1, wd1⟩ := v1
    obtain ⟨i1, j1, hi1, hj1, rfl⟩ := path_hostHost.1 e1
    cases r2 with
    | asHost p2 s2 d2 h2 =>
      simp [path_asHost] at e2
    | hostAS p2 s2 d2 h2 =>
      simp [path_hostAS] at e2
    | hostHost p2 s2 d2 hs2 hd2 =>
      obtain ⟨n2, q2, _, b2, ws2, wd2⟩ := v2
      obtain ⟨i2, j2, hi2, hj2, e⟩ := path_hostHost.1 e2
      simp only [Prod.mk.injEq, List.cons.injEq, and_true] at e
      obtain ⟨rfl, ep, ed, rfl, rfl⟩ := e
      obtain ⟨rfl, rfl⟩ := l2Input_injective kHA q1 q2 n1 n2 ws1 ws2 ep hi1 hi2
      rw [level1Input_injective b1 b2 ed,
        (specificInput_injective kHH kHH wd1 wd2 hj1 hj2).2]

/-- Why the `Generic` protocol must never be served at level 2 (C40): if it were, the
    protocol-specific AS-host input of protocol 0 for host 7.0.1.2 would coincide with the generic
    AS-host input of niche protocol 7 for host 1.2.0.0 — under the same level-1 key. -/
example :
    svProto 0 = svProto 7 ∧
    l2Input ktAsHost 0 ⟨T4Ip, [7, 0, 1, 2]⟩ = l2Input ktAsHost 7 ⟨T4Ip, [1, 2, 0, 0]⟩ := by decide

/-! ## 4. Secret values -/

/-- the KDF input determines the AS secret, the protocol and the epoch (length prefix) -/
theorem svInput_injective (s1 s2 : Bytes) (p1 p2 b1 b2 e1 e2 : Nat) (x : Bytes)
    (hs1 : s1.length < 2 ^ 64) (hs2 : s2.length < 2 ^ 64) (hp1 : p1 < 2 ^ 16) (hp2 : p2 < 2 ^ 16)
    (hb1 : b1 < 2 ^ 32) (hb2 : b2 < 2 ^ 32) (he1 : e1 < 2 ^ 32) (he2 : e2 < 2 ^ 32)
    (h1 : svInput s1 p1 b1 e1 = some x) (h2 : svInput s2 p2 b2 e2 = some x) :
    s1 = s2 ∧ p1 = p2 ∧ b1 = b2 ∧ e1 = e2 := by
  simp only [svInput, Option.ite_none_left_eq_some, Option.some.injEq] at h1 h2
  have e := h1.2.trans h2.2.symm
  simp only [List.append_assoc] at e
  obtain ⟨el, e⟩ := List.append_inj e (by simp [length_natBE])
  have hl : s1.length = s2.length := natBE_inj (k := 8) hs1 hs2 el
  obtain ⟨es, e⟩ := List.append_inj e hl
  obtain ⟨ep, e⟩ := List.append_inj e (by simp [length_natBE])
  obtain ⟨eb, ee⟩ := List.append_inj e (by simp [length_natBE])
  exact ⟨es, natBE_inj (k := 2) hp1 hp2 ep, natBE_inj (k := 4) hb1 hb2 eb,
    natBE_inj (k := 4) he1 he2 ee⟩

/-- away from the 2106 wrap-around, an epoch computed from index `v / d` is the aligned interval
    of length `d` that contains `v` -/
theorem newEpoch_contains (v d : Int) (hd : 0 < d) (hv : 0 ≤ v) (hb : v + d < 4294967296) :
    ((newEpoch (Int.tdiv v d) d).1 : Int) ≤ v ∧ v < (newEpoch (Int.tdiv v d) d).2 ∧
    ((newEpoch (Int.tdiv v d) d).2 : Int) = (newEpoch (Int.tdiv v d) d).1 + d ∧
    ((newEpoch (Int.tdiv v d) d).1 : Int) = (v / d) * d := by
  have h0 : Int.tdiv v d = v / d := Int.tdiv_eq_ediv_of_nonneg hv
  have h1 : v / d * d ≤ v := Int.ediv_mul_le v (by omega)
  have h2 : v < (v / d + 1) * d := Int.lt_ediv_add_one_mul_self v hd
  have h3 : 0 ≤ v / d := Int.ediv_nonneg hv (by omega)
  have h4 : 0 ≤ v / d * d := Int.mul_nonneg h3 (by omega)
  rw [Int.add_mul, Int.one_mul] at h2
  obtain ⟨e1, e2⟩ := newEpoch_nowrap (v / d) d h4 (by omega) (by omega)
  rw [h0, e1, e2]
  exact ⟨h1, h2, rfl, rfl⟩

/-- the epoch of the secret value served for validity time `v` contains `v` -/
theorem sv_epoch_contains (v d : Int) (b e : Nat) (hd : 0 < d) (hv : 0 ≤ v)
    (hb : v + d < 4294967296) (h : svEpoch v d = some (b, e)) :
    (b : Int) ≤ v ∧ v < e ∧ (e : Int) = b + d := by
  simp only [svEpoch, Option.ite_none_left_eq_some, Option.some.injEq] at h
  have := newEpoch_contains v d hd hv hb
  rw [h.2] at this
  exact ⟨this.1, this.2.1, this.2.2.1⟩

/-- the secret value served for `(p, v)` is the KDF of the documented input
    `len(secret) ‖ secret ‖ p ‖ epoch_begin ‖ epoch_end` for the epoch computed from `v` (for every
    KDF) -/
theorem getSecretValue_spec (kdf : Bytes → Key) (secret : Bytes) (d v : Int) (p : Nat)
    (ep : Nat × Nat) (k : Key) (h : getSecretValue kdf secret d v p = .sv ep k) :
    svEpoch v d = some ep ∧ secret ≠ [] ∧
    k = kdf (natBE 8 secret.length ++ secret ++ natBE 2 p ++ natBE 4 ep.1 ++ natBE 4 ep.2) := by
  unfold getSecretValue deriveSV svInput at h
  split at h
  · cases h
  · rename_i ep' he
    split at h
    · cases h
    · rename_i k' hk
      cases h
      refine ⟨he, ?_⟩
      split at hk
      · cases hk
      · rename_i hne
        simp only [Option.map_some, Option.some.injEq] at hk
        exact ⟨by intro hs; simp [hs] at hne, hk.symm⟩

/-! ## 5. Acceptance window -/

/-- **Window clause.**  A key selected for timestamp `ts` received at `t` belongs to one of the
    three epochs around `t`, and that epoch's validity extended by the grace period contains the
    timestamp's absolute time, which lies inside the acceptance window. -/
theorem window_key_epoch (i : WinIn) (e : Nat × Nat) (h : selectKey i = .key e) :
    (e = i.epoch 0 ∨ e = i.epoch (-1) ∨ e = i.epoch 1) ∧
    (e.1 : Int) * nsPerSec ≤ absTime e.1 i.ts ∧
    absTime e.1 i.ts ≤ (e.2 : Int) * nsPerSec + gracePeriodNs ∧
    i.awBegin ≤ absTime e.1 i.ts ∧ absTime e.1 i.ts ≤ i.awEnd := by
  have hd : i.duration ≠ 0 := fun hd => by simp [selectKey, hd] at h
  rw [selectKey_eq_find i hd] at h
  split at h <;> cases h
  rename_i hf
  have h' := (ok_iff i e).1 (List.find?_some hf)
  exact ⟨by simpa [candidates] using List.mem_of_find?_eq_some hf, h'.2.1, h'.2.2, h'.1.1, h'.1.2⟩

/-- the selection refuses only when none of the three epochs qualifies, and prefers the current
    epoch, then the previous one -/
theorem window_selection_order (i : WinIn) (hd : i.duration ≠ 0) :
    selectKey i =
      if i.ok (i.epoch 0) then .key (i.epoch 0)
      else if i.ok (i.epoch (-1)) then .key (i.epoch (-1))
      else if i.ok (i.epoch 1) then .key (i.epoch 1) else .noKey := by
  simp [selectKey, hd]

/-- `int64(ts)` is non-negative for every timestamp that fits the 48-bit header field, so the
    left inequality of the window clause is then the trivial one -/
theorem absTime_ge_begin (b ts : Nat) (h : ts < 2 ^ 48) : (b : Int) * nsPerSec ≤ absTime b ts := by
  unfold absTime toInt64
  split <;> omega

/-- for a sane provider configuration the current candidate epoch contains the reception time -/
theorem current_epoch_contains_now (i : WinIn) (hd : 0 < i.duration) (ht : 0 ≤ i.unix)
    (hb : i.unix + i.duration < 4294967296) :
    ((i.epoch 0).1 : Int) ≤ i.unix ∧ i.unix < (i.epoch 0).2 := by
  have := newEpoch_contains i.unix i.duration hd ht hb
  simp only [WinIn.epoch, WinIn.idx, Int.add_zero]
  exact ⟨this.1, this.2.1⟩

/-- sender and receiver agree on the absolute time: what `AbsoluteTimestamp` reconstructs from a
    `RelativeTimestamp` is the original instant -/
theorem abs_of_rel (b : Nat) (t : Int) (ts : Nat) (hr : -9223372036854775808 ≤ t - (b : Int) * nsPerSec)
    (h : relTimestamp b t = some ts) : absTime b ts = t := by
  simp only [relTimestamp, Option.ite_none_left_eq_some, Option.some.injEq] at h
  obtain ⟨hlt, rfl⟩ := h
  unfold absTime toInt64
  generalize (b : Int) * nsPerSec = m at *
  split <;> omega

/-- a timestamp taken less than 2^48 ns ≈ 3.26 days after the epoch's begin fits the 48-bit
    field -/
theorem rel_fits (b : Nat) (t : Int) (h0 : (b : Int) * nsPerSec ≤ t)
    (h1 : t < (b : Int) * nsPerSec + 281474976710656) :
    ∃ ts, relTimestamp b t = some ts ∧ ts < 2 ^ 48 := by
  unfold relTimestamp
  generalize (b : Int) * nsPerSec = m at *
  simp only
  have : ¬ t - m ≥ 281474976710656 := by omega
  simp only [this, if_false]
  refine ⟨_, rfl, ?_⟩
  omega

/-- **Sender and receiver pick the same epoch.**  A packet stamped at instant `s` relative to the
    epoch valid at `s` (one of the three epochs around the receiver's clock), received while the
    receiver's clock is within half the acceptance window of `s`, makes the receiver select exactly
    the sender's epoch — provided the acceptance window is shorter than an epoch. -/
theorem receiver_selects_sender_epoch (i : WinIn) (k : Int) (hk : k = -1 ∨ k = 0 ∨ k = 1) (s : Int)
    (hD : 0 < i.duration) (hidx : 1 ≤ i.idx) (hwrap : (i.idx + 2) * i.duration < 4294967296)
    (haw : 0 ≤ i.accWinNs) (hawD : i.accWinNs < i.duration * nsPerSec)
    (hs0 : ((i.epoch k).1 : Int) * nsPerSec ≤ s) (hs1 : s < ((i.epoch k).2 : Int) * nsPerSec)
    (hts : relTimestamp (i.epoch k).1 s = some i.ts)
    (hw0 : i.awBegin ≤ s) (hw1 : s ≤ i.awEnd) :
    selectKey i = .key (i.epoch k) := by
  have habs : absTime (i.epoch k).1 i.ts = s :=
    abs_of_rel _ _ _ (by omega) hts
  have hok : i.ok (i.epoch k) = true := by
    rw [ok_iff, habs]
    unfold gracePeriodNs
    omega
  -- the other two candidates begin a whole epoch away, where the window cannot reach
  have beg := fun k' hk' => epoch_nowrap i k' hk' hD hidx hwrap
  have hmem : ∀ e' ∈ candidates i, ∃ k', (k' = -1 ∨ k' = 0 ∨ k' = 1) ∧ e' = i.epoch k' := by
    simp [candidates]
  rw [selectKey_eq_find i (by omega),
    find?_ok_far i _ (i.epoch k) (by rcases hk with rfl | rfl | rfl <;> simp [candidates]) hok haw hawD
      fun e' he' => by
        obtain ⟨k', hk', rfl⟩ := hmem e' he'
        exact epoch_far i k k' hD (beg k hk) (beg k' hk')]

/-! ## 6. Constants the model fixes, re-checked against the source (T3) -/

theorem gen_consts :
    ktAsAs = Scion.Gen.Drkey.AsAs ∧ ktAsHost = Scion.Gen.Drkey.AsHost ∧
    ktHostAS = Scion.Gen.Drkey.HostAS ∧ ktHostHost = Scion.Gen.Drkey.HostHost ∧
    predefinedProtos = Scion.Gen.Drkey.predefinedProtocols ∧
    genericProto = Scion.Gen.Drkey.Generic ∧
    gracePeriodNs = Scion.Gen.Drkey.gracePeriodNs ∧
    T4Ip = Scion.Gen.Drkey.T4Ip ∧ T4Svc = Scion.Gen.Drkey.T4Svc ∧ T16Ip = Scion.Gen.Drkey.T16Ip ∧
    l2BufLen = Scion.Gen.Drkey.level2BufLen := by
  decide

/-! ## Non-vacuity -/

/-- a toy PRF (not a secure one — the theorems hold for every function) -/
def toyPrf (k inp : Bytes) : Bytes := k ++ inp.take 4

/-- the service (source side, SCMP, IPv4 host) returns a key and it is the host-side key -/
example :
    svcASHost toyPrf (fun _ p => [UInt8.ofNat p]) 5 1 5 9 (some ⟨T4Ip, [10, 0, 0, 1]⟩) =
      .ok [1, 0, 0, 0, 0, 1, 0, 10, 0] := by rfl

/-- a valid host-host request with a defined path -/
example : (Req.hostHost 1 5 9 ⟨T4Ip, [10, 0, 0, 1]⟩ ⟨T4Svc, [0, 2, 0, 0]⟩).Valid ∧
    ((Req.hostHost 1 5 9 ⟨T4Ip, [10, 0, 0, 1]⟩ ⟨T4Svc, [0, 2, 0, 0]⟩).path).isSome :=
  ⟨by simp [Req.Valid, Host.WF, genericProto, T4Ip, T4Svc], by rfl⟩

/-- a timestamp 2 s into the *previous* epoch's grace period, received 1 s after the epoch change,
    selects the previous epoch -/
example : selectKey ⟨7201000000000, 3600000000000, 10000000000, 3602000000000⟩ = .key (3600, 7200) := by
  decide

/-- the hypotheses of `receiver_selects_sender_epoch` are satisfiable: sender stamps 1 s before the
    epoch change, receiver's clock is 2 s later (already in the next epoch), window ±5 s -/
example : selectKey ⟨7201000000000, 3600000000000, 10000000000, 3599000000000⟩ = .key (3600, 7200) :=
  receiver_selects_sender_epoch ⟨7201000000000, 3600000000000, 10000000000, 3599000000000⟩ (-1)
    (.inl rfl) 7199000000000 (by decide) (by decide) (by decide) (by decide) (by decide) (by decide)
    (by decide) (by decide) (by decide) (by decide)

end Scion.C39
