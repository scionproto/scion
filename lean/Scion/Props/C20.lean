import Scion.Proofs.Checksum
import Scion.Gen.Wire
/-!
# C20 — UDP and SCMP checksums verify and detect corruption

Model: `Scion.Model.Checksum` (transcription of
`SCION.{computeChecksum,pseudoHeaderChecksum,upperLayerChecksum,foldChecksum}`), tied to
`pkg/slayers` by `harness/cmd/csum` (real `UDP/SCMP.SerializeTo` with `ComputeChecksums`, every
address-type pair, lengths 0..9000, real recomputation after single-bit flips).

All theorems hold for **every** byte string / header (no length bound except where the Go
accumulator's 32 bits matter: upper layer ≤ 65535 bytes, which is all a 16-bit `PayloadLen` can
carry; the property's own quantifier stops at 9000).
-/
namespace Scion.C20
open Scion.Checksum Scion.Util

/-- host addresses of a SCION address header: 4, 8, 12 or 16 bytes (`AddrType.Length`) -/
def AddrLen (n : Nat) : Prop := n = 4 ∨ n = 8 ∨ n = 12 ∨ n = 16

def WFHdr (h : PHdr) : Prop := AddrLen h.src.length ∧ AddrLen h.dst.length

instance (h : PHdr) : Decidable (WFHdr h) := by unfold WFHdr AddrLen; exact inferInstance

/-- the fold loop preserves the value modulo 2^16 − 1 … -/
theorem fold_congr (c : Nat) : fold c % 65535 = c % 65535 := fold_mod c

/-- … ends with a 16-bit value … -/
theorem fold_lt (c : Nat) : fold c < 65536 := by have := fold_le c; omega

/-- … and yields 0 only for 0 (so a non-empty sum folds into 1..0xFFFF) -/
theorem fold_zero_iff (c : Nat) : fold c = 0 ↔ c = 0 := fold_eq_zero c

/-- the `uint32` accumulator of the Go code cannot wrap: for every address header and every
upper layer a SCION packet can carry the exact total is below 2^32 -/
theorem no_overflow (h : PHdr) (hw : WFHdr h) (length protocol : Nat) (upper : Bytes)
    (hl : upper.length ≤ 65535) : totalRaw h length protocol upper < 2 ^ 32 := by
  obtain ⟨hs, hd⟩ := hw
  unfold AddrLen at hs hd
  -- 4 + 4 words of ISD-AS, at most 8 + 8 of host addresses, 32768 of upper layer, 2 of length
  have h1 := sum16_le (l := natBE 8 h.srcIA) (n := 4) (by rw [length_natBE]; decide)
  have h2 := sum16_le (l := natBE 8 h.dstIA) (n := 4) (by rw [length_natBE]; decide)
  have h3 := sum16_le (l := h.src) (n := 8) (by omega)
  have h4 := sum16_le (l := h.dst) (n := 8) (by omega)
  have h5 := sum16_le (l := upper) (n := 32768) (by omega)
  have h6 := lenSum_le length
  have h7 := Nat.mod_lt protocol (by decide : 0 < 256)
  clear hs hd hl
  unfold totalRaw pseudoRaw iaSum
  omega

/-- hence `computeChecksum` is the complement of the folded exact total -/
theorem computeChecksum_eq (h : PHdr) (hw : WFHdr h) (upper : Bytes) (protocol : Nat)
    (hl : upper.length ≤ 65535) :
    computeChecksum h upper protocol =
      .ok (0xffff - fold (totalRaw h upper.length protocol upper)) := by
  have hno := no_overflow h hw upper.length protocol upper hl
  obtain ⟨hs, hd⟩ := hw
  unfold AddrLen at hs hd
  rw [computeChecksum, pseudoHeaderChecksum, if_neg (by omega), if_neg (by omega), if_neg (by omega)]
  unfold totalRaw at hno ⊢
  simp only [foldChecksum, upperLayerChecksum, Nat.mod_add_mod, Nat.mod_eq_of_lt hno]

/-- **Verification.**  Take any upper layer `u` whose checksum field (an even offset `off`: 6 in
SCION/UDP, 2 in SCMP) is zero, compute the checksum as the serializer does and store it: the
one's-complement sum the receiver forms over pseudo header and upper layer folds to `0xFFFF`,
its 32-bit accumulator is exact, and recomputing the checksum over the stored bytes yields 0. -/
theorem checksum_verifies (h : PHdr) (hw : WFHdr h) (u : Bytes) (protocol off c : Nat)
    (hl : u.length ≤ 65535) (he : off % 2 = 0) (ho : off + 1 < u.length)
    (hz : getWord u off = 0) (hc : computeChecksum h u protocol = .ok c) :
    (setWord u off c).length = u.length ∧
    totalRaw h (setWord u off c).length protocol (setWord u off c) < 2 ^ 32 ∧
    fold (totalRaw h (setWord u off c).length protocol (setWord u off c)) = 0xffff ∧
    computeChecksum h (setWord u off c) protocol = .ok 0 := by
  rw [computeChecksum_eq h hw u protocol hl] at hc
  have hc' : c = 0xffff - fold (totalRaw h u.length protocol u) := by cases hc; rfl
  have hlen := length_setWord u off c
  have hfl := fold_le (totalRaw h u.length protocol u)
  have hsw := sum16_setWord u off c he ho (by omega)
  rw [hz] at hsw
  have htot : totalRaw h (setWord u off c).length protocol (setWord u off c) =
      totalRaw h u.length protocol u + c := by
    unfold totalRaw; rw [hlen]; omega
  have hno := no_overflow h hw (setWord u off c).length protocol (setWord u off c) (by omega)
  have hfold : fold (totalRaw h (setWord u off c).length protocol (setWord u off c)) = 0xffff := by
    rw [htot, hc']
    generalize totalRaw h u.length protocol u = S at *
    have h2 := fold_mod S
    have h3 := fold_le (S + (0xffff - fold S))
    have h4 := fold_mod (S + (0xffff - fold S))
    have h5 := fold_eq_zero (S + (0xffff - fold S))
    have h6 := fold_eq_zero S
    omega
  refine ⟨hlen, hno, hfold, ?_⟩
  rw [computeChecksum_eq h hw _ protocol (by omega), hfold]

/-- **Single-bit-flip detection, all covered data at once.**  The covered data is the pseudo
header (DstIA, SrcIA, DstHost, SrcHost, upper-layer length, zero, next header) followed by the
upper layer.  Whenever the covered bytes of a second packet are those of the first with bit `b`
of byte `i` flipped — wherever `i` lies: ISD-AS, host address, length, protocol, upper-layer
header, payload, the checksum field itself — the folded one's-complement sums differ. -/
theorem single_bit_flip_detected
    (h h' : PHdr) (length length' protocol protocol' : Nat) (upper upper' : Bytes)
    (hs : h.src.length % 2 = 0) (hd : h.dst.length % 2 = 0)
    (hs' : h'.src.length % 2 = 0) (hd' : h'.dst.length % 2 = 0)
    (i b : Nat) (hi : i < (pseudoBytes h length protocol ++ upper).length) (hb : b < 8)
    (hflip : pseudoBytes h' length' protocol' ++ upper' =
      flipBit (pseudoBytes h length protocol ++ upper) i b) :
    fold (totalRaw h' length' protocol' upper') ≠ fold (totalRaw h length protocol upper) := by
  rw [totalRaw_eq_sum16 h length protocol upper hs hd,
    totalRaw_eq_sum16 h' length' protocol' upper' hs' hd', hflip]
  obtain ⟨k, hk, hdiff⟩ := sum16_flipBit _ i b hi hb
  exact fold_ne_of_diff _ _ k hk hdiff

/-- bytes-only form: for *every* byte string, flipping any single bit changes the folded sum -/
theorem flip_changes_fold (l : Bytes) (i b : Nat) (hi : i < l.length) (hb : b < 8) :
    fold (sum16 (flipBit l i b)) ≠ fold (sum16 l) := by
  obtain ⟨k, hk, hdiff⟩ := sum16_flipBit l i b hi hb
  exact fold_ne_of_diff _ _ k hk hdiff

/-- consequence for the serializer/receiver pair: a flip anywhere in the upper layer (header,
payload or the stored checksum) makes the recomputed checksum differ — in particular a packet
that verified (`.ok 0`, theorem `checksum_verifies`) no longer does -/
theorem upper_flip_changes_checksum (h : PHdr) (hw : WFHdr h) (u : Bytes) (protocol : Nat)
    (hl : u.length ≤ 65535) (i b : Nat) (hi : i < u.length) (hb : b < 8) :
    computeChecksum h (flipBit u i b) protocol ≠ computeChecksum h u protocol := by
  have hlen := length_flipBit u i b
  rw [computeChecksum_eq h hw u protocol hl, computeChecksum_eq h hw _ protocol (by omega), hlen]
  have hs : h.src.length % 2 = 0 := by obtain ⟨hs, _⟩ := hw; unfold AddrLen at hs; omega
  have hd : h.dst.length % 2 = 0 := by obtain ⟨_, hd⟩ := hw; unfold AddrLen at hd; omega
  have hne := single_bit_flip_detected h h u.length u.length protocol protocol u (flipBit u i b)
    hs hd hs hd ((pseudoBytes h u.length protocol).length + i) b
    (by simp only [List.length_append]; omega) hb
    (by rw [flipBit_append_right])
  have l1 := fold_le (totalRaw h u.length protocol u)
  have l2 := fold_le (totalRaw h u.length protocol (flipBit u i b))
  intro e
  injection e with e
  omega

/-- the protocol numbers the two serializers pass to `computeChecksum` and the layout constants
the statement relies on, re-extracted from the source on every run -/
theorem gen_consts :
    Scion.Gen.Wire.L4UDP = 17 ∧ Scion.Gen.Wire.L4SCMP = 202 ∧ Scion.Gen.Wire.LineLen = 4 ∧
    Scion.Gen.Wire.IABytes = 8 := by decide

/-! Non-vacuity: a concrete SCION/UDP datagram (IPv4 → IPv6 hosts, odd payload length) meets
the hypotheses of `checksum_verifies`, and a concrete flip meets those of the detection theorem. -/
def exHdr : PHdr :=
  { srcIA := 0x0001ff0000000110, dstIA := 0x0002ff0000000220,
    src := [10, 0, 0, 1], dst := [0x20, 1, 0xd, 0xb8, 0, 0, 0, 0, 0, 0, 0, 0, 0, 0, 0, 1] }
def exUdp : Bytes := [0x1f, 0x90, 0, 53, 0, 11, 0, 0, 0xde, 0xad, 0xbe]

example : WFHdr exHdr ∧ exUdp.length ≤ 65535 ∧ 6 % 2 = 0 ∧ 6 + 1 < exUdp.length ∧
    getWord exUdp 6 = 0 := by decide
example : ∃ c, computeChecksum exHdr exUdp 17 = .ok c :=
  ⟨_, computeChecksum_eq exHdr (by decide) exUdp 17 (by decide)⟩
example : flipBit exUdp 10 7 = [0x1f, 0x90, 0, 53, 0, 11, 0, 0, 0xde, 0xad, 0x3e] := by decide

end Scion.C20
