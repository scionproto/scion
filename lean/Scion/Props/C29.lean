import Scion.Proofs.CombGraph
import Scion.Gen.Comb
/-!
# C29 — Path combination finds every valid segment combination

`allJoins` is the specification: a direct enumeration of every way to join at most one up, one
core and one down segment (in that order) at common ASes, at shortcuts inside an up and a down
segment, or over a peering link announced by both — it does not mention the graph of graph.go.
`newDMG`/`getPaths` model the graph and the search of graph.go.  Real `Combine` is compared with
`allJoins → pathOf → filters` by `harness/cmd/comb` on every generated segment set (and the Lean
driver cross-checks `getPaths` against `allJoins` on the same inputs).
-/
namespace Scion.C29
open Scion.Combinator

/-- `allJoins` enumerates exactly the joins of the declarative definition `IsJoin`: nothing is
missed by the enumeration, and nothing else is produced -/
theorem allJoins_iff (ups cores downs : List Seg) (src dst : Nat) (es : List Edge) :
    es ∈ allJoins ups cores downs src dst ↔ IsJoin ups cores downs src dst es :=
  Scion.Combinator.allJoins_iff ups cores downs src dst es

/-- every join of the specification is returned by `Combine` (with `findAllIdentical`) unless its
path passes an AS more than twice (or `Path` would panic on it, which `pathOf_ok_of_join` excludes) -/
theorem join_returned (ups cores downs : List Seg) (src dst : Nat) (es : List Edge) (p : Path)
    (hj : IsJoin ups cores downs src dst es) (hp : pathOf es = .ok p)
    (h2 : ∀ ia, (p.intfs.map (·.ia)).count ia ≤ 2) :
    p ∈ combineSpec ups cores downs src dst true := by
  unfold combineSpec
  rw [if_pos rfl]
  exact mem_pipeline.2 ⟨⟨es, (allJoins_iff ..).2 hj, hp⟩, (isLong_false_iff _).2 h2⟩

/-! ### the graph search of graph.go against the specification

`IsJoinStrict` is `IsJoin` with the side condition that no intermediate join point is the
destination vertex: `GetPaths` does not extend a solution that has reached the destination.
(Such a join enters the destination AS, leaves it and comes back: with non-zero interface ids it
has three interface entries of the destination AS and is removed by `filterLongPaths` anyway.)
`NoCollision`: no segment produces two edges between the same two vertices (holds for loop-free
segments whose AS entries announce each peering interface once); otherwise `AddEdge` overwrites. -/

/-- soundness: everything the search finds is a join of the specification (no hypothesis on the
segments beyond non-emptiness, which `newDMG = some g` expresses) -/
theorem getPaths_sound {ups cores downs : List Seg} {g : DMG} {src dst : Nat} {es : List Edge}
    (hg : newDMG ups cores downs = some g) (h : es ∈ getPaths g src dst) :
    IsJoinStrict ups cores downs src dst es ∧ es ∈ allJoins ups cores downs src dst := by
  have := getPaths_strict hg h
  exact ⟨this, (allJoins_iff ..).2 this.isJoin⟩

/-- completeness: every join of the specification (not passing through the destination vertex) is
found by the search -/
theorem getPaths_complete {ups cores downs : List Seg} {g : DMG} {src dst : Nat} {es : List Edge}
    (hg : newDMG ups cores downs = some g) (hn : NoCollision (allTuples ups cores downs))
    (h : IsJoinStrict ups cores downs src dst es) : es ∈ getPaths g src dst :=
  mem_getPaths.2 ((isJoinStrict_iff_walk.1 h).mono
    (fun hs => dmg_complete hg hn ▸ gStep_allTuples.2 hs) id)

/-- the hypothesis `NoCollision` holds for segments as beaconing produces them (`SegWF`: no AS twice
in a segment, no zero IA, every peering interface announced once per AS entry) -/
theorem noCollision_of_wf {ups cores downs : List Seg}
    (hw : ∀ s ∈ ups ++ cores ++ downs, SegWF s) : NoCollision (allTuples ups cores downs) :=
  Scion.Combinator.noCollision_of_wf hw

/-- completeness for well-formed segment sets: the search finds every join of the specification
(whose intermediate join points are not the destination vertex) -/
theorem getPaths_complete_wf {ups cores downs : List Seg} {g : DMG} {src dst : Nat} {es : List Edge}
    (hg : newDMG ups cores downs = some g) (hw : ∀ s ∈ ups ++ cores ++ downs, SegWF s)
    (h : IsJoinStrict ups cores downs src dst es) : es ∈ getPaths g src dst :=
  getPaths_complete hg (noCollision_of_wf hw) h

/-- for well-formed segment sets the search finds exactly the strict joins -/
theorem getPaths_iff_wf {ups cores downs : List Seg} {g : DMG} {src dst : Nat} {es : List Edge}
    (hg : newDMG ups cores downs = some g) (hw : ∀ s ∈ ups ++ cores ++ downs, SegWF s) :
    es ∈ getPaths g src dst ↔ IsJoinStrict ups cores downs src dst es :=
  ⟨fun h => (getPaths_sound hg h).1, getPaths_complete_wf hg hw⟩

/-- the search needs no more than four rounds of the queue loop -/
theorem bfs_fuel {g : DMG} {src dst : Nat} (n : Nat) (es : List Edge) :
    es ∈ bfs g (vIA dst) (4 + n) [⟨[], vIA src, none⟩] ↔ es ∈ getPaths g src dst :=
  Scion.Combinator.bfs_fuel n es

/-- the graph is built without a panic exactly when no segment is empty -/
theorem newDMG_total (ups cores downs : List Seg)
    (h : ∀ s ∈ ups ++ cores ++ downs, s.ents ≠ []) : ∃ g, newDMG ups cores downs = some g := by
  have hall : ∀ (kind : Kind) (ss : List Seg) (g : DMG) (i : Nat), (∀ s ∈ ss, s.ents ≠ []) →
      ∃ g', traverseAll kind g i ss = some g' := by
    intro kind ss
    induction ss with
    | nil => intro g i _; exact ⟨g, rfl⟩
    | cons s ss ih =>
      intro g i hs
      obtain ⟨hs0, hss⟩ := List.forall_mem_cons.1 hs
      obtain ⟨l, hl⟩ := lastIA_some_iff.2 hs0
      obtain ⟨f, hf⟩ := firstIA_some_iff.2 hs0
      obtain ⟨g1, hg1⟩ : ∃ g1, traverseSegment g s kind i = some g1 := by
        simp only [traverseSegment, hl, hf]
        split <;> exact ⟨_, rfl⟩
      simp only [traverseAll, hg1]
      exact ih _ _ hss
  unfold newDMG
  obtain ⟨g1, h1⟩ := hall .up ups [] 0 (fun s hs => h s (by simp [hs]))
  obtain ⟨g2, h2⟩ := hall .core cores g1 ups.length (fun s hs => h s (by simp [hs]))
  obtain ⟨g3, h3⟩ := hall .down downs g2 (ups.length + cores.length) (fun s hs => h s (by simp [hs]))
  exact ⟨g3, by simp [h1, h2, h3]⟩

/-! ### closing the gap: joins THROUGH the destination vertex are long

`IfWF`: interface ids are non-zero where a link exists (the last entry of a segment has an ingress,
every other entry an egress, a segment has at least two entries).  `SegWF` as above. -/

/-- a join either avoids the destination vertex at its intermediate join points (then the search
finds it), or its path has at least three interface entries of the destination AS — it enters the
destination, leaves it and comes back — and `filterLongPaths` removes it -/
theorem join_strict_or_long {ups cores downs : List Seg} {src dst : Nat} {es : List Edge} {p : Path}
    (hdst : dst ≠ 0) (hw : ∀ s ∈ ups ++ cores ++ downs, SegWF s ∧ IfWF s)
    (hj : IsJoin ups cores downs src dst es) (hp : pathOf es = .ok p) :
    IsJoinStrict ups cores downs src dst es ∨ isLong p.intfs = true :=
  Scion.Combinator.join_strict_or_long hdst hw hj hp

/-- COMPLETENESS, every join of the specification: for well-formed segment sets, the path of every
join of `allJoins` is found by the graph search unless it passes some AS more than twice -/
theorem getPaths_complete_all {ups cores downs : List Seg} {g : DMG} {src dst : Nat}
    {es : List Edge} {p : Path}
    (hdst : dst ≠ 0) (hw : ∀ s ∈ ups ++ cores ++ downs, SegWF s ∧ IfWF s)
    (hg : newDMG ups cores downs = some g)
    (hj : es ∈ allJoins ups cores downs src dst) (hp : pathOf es = .ok p)
    (h2 : isLong p.intfs = false) : es ∈ getPaths g src dst := by
  rcases join_strict_or_long hdst hw ((allJoins_iff ..).1 hj) hp with h | h
  · exact getPaths_complete_wf hg (fun s hs => (hw s hs).1) h
  · rw [h] at h2; cases h2

/-- `Combine` over the graph = `Combine` over the specification (findAllIdentical): the graph is
built without panic and the two results contain exactly the same paths -/
theorem combineDMG_complete_all (ups cores downs : List Seg) (src dst : Nat)
    (hdst : dst ≠ 0) (hw : ∀ s ∈ ups ++ cores ++ downs, SegWF s ∧ IfWF s) :
    ∃ ps, combineDMG ups cores downs src dst true = some ps ∧
      ∀ p, p ∈ ps ↔ p ∈ combineSpec ups cores downs src dst true := by
  obtain ⟨g, hg⟩ := newDMG_total ups cores downs (fun s hs => by
    have := (hw s hs).2.1; intro h; rw [h] at this; simp at this)
  refine ⟨_, combineDMG_eq_some.2 ⟨g, hg, rfl⟩, fun p => ?_⟩
  unfold combineSpec
  simp only [if_true, mem_pipeline]
  refine and_congr_left fun hl => ⟨?_, ?_⟩
  · rintro ⟨es, hes, hp⟩; exact ⟨es, (getPaths_sound hg hes).2, hp⟩
  · rintro ⟨es, hes, hp⟩; exact ⟨es, getPaths_complete_all hdst hw hg hes hp hl, hp⟩

/-- … and without `findAllIdentical` both keep, for every interface sequence, a path with the same
(latest) expiry: which of several equally late constructions is kept depends on the order in which
the solutions were found, which the statement leaves open -/
theorem combineDMG_complete_all_uniq (ups cores downs : List Seg) (src dst : Nat)
    (hdst : dst ≠ 0) (hw : ∀ s ∈ ups ++ cores ++ downs, SegWF s ∧ IfWF s) :
    ∃ ps, combineDMG ups cores downs src dst false = some ps ∧
      (∀ p ∈ ps, ∃ q ∈ combineSpec ups cores downs src dst false,
        q.intfs = p.intfs ∧ q.expiry = p.expiry) ∧
      (∀ q ∈ combineSpec ups cores downs src dst false, ∃ p ∈ ps,
        p.intfs = q.intfs ∧ p.expiry = q.expiry) := by
  obtain ⟨psA, hA, hiff⟩ := combineDMG_complete_all ups cores downs src dst hdst hw
  -- both results are `filterDuplicates` of lists with the same members
  have key : ∀ (A B : List Path), (∀ p, p ∈ A ↔ p ∈ B) → ∀ p ∈ filterDuplicates A,
      ∃ q ∈ filterDuplicates B, q.intfs = p.intfs ∧ q.expiry = p.expiry := by
    intro A B hAB p hp
    have hpA := (filterDuplicates_sublist A).subset hp
    obtain ⟨q, hq, hqi, hle⟩ := filterDuplicates_covers B p ((hAB p).1 hpA)
    have hqA := (hAB q).2 ((filterDuplicates_sublist B).subset hq)
    have := filterDuplicates_latest A p hp q hqA hqi
    exact ⟨q, hq, hqi, by omega⟩
  obtain ⟨g, hg, rfl⟩ := combineDMG_eq_some.1 hA
  simp only [if_true] at hiff
  refine ⟨_, combineDMG_eq_some.2 ⟨g, hg, rfl⟩, ?_, ?_⟩
  · exact key _ _ hiff
  · exact key _ _ fun p => (hiff p).symm

/-- `Path` does not panic on a join: the `Path` of every join exists -/
theorem pathOf_ok_of_join {ups cores downs : List Seg} {src dst : Nat} {es : List Edge}
    (h : IsJoin ups cores downs src dst es) : ∃ p, pathOf es = .ok p :=
  Scion.Combinator.pathOf_ok_of_join h

/-- full statement on the model: with the graph built from non-empty, collision-free segments,
`Combine` (graph version, `findAllIdentical`) returns the path of every strict join that passes no
AS more than twice -/
theorem combineDMG_complete {ups cores downs : List Seg} {src dst : Nat} {es : List Edge}
    (hne : ∀ s ∈ ups ++ cores ++ downs, s.ents ≠ [])
    (hn : NoCollision (allTuples ups cores downs))
    (h : IsJoinStrict ups cores downs src dst es) :
    ∃ p ps, pathOf es = .ok p ∧ combineDMG ups cores downs src dst true = some ps ∧
      ((∀ ia, (p.intfs.map (·.ia)).count ia ≤ 2) → p ∈ ps) := by
  obtain ⟨g, hg⟩ := newDMG_total ups cores downs hne
  obtain ⟨p, hp⟩ := pathOf_ok_of_join h.isJoin
  exact ⟨p, _, hp, combineDMG_eq_some.2 ⟨g, hg, rfl⟩, fun h2 =>
    mem_pipeline.2 ⟨⟨es, getPaths_complete hg hn h, hp⟩, (isLong_false_iff _).2 h2⟩⟩

/-! ### fact regenerated from the source (T3) -/

/-- the `validNextSeg` used by the search model is the table read off the `switch` in graph.go:
after an up segment a core or down segment, after a core segment a down segment, nothing after a
down segment, anything first -/
theorem gen_validNext :
    Scion.Gen.Comb.validNext = [("up", ["core", "down"]), ("core", ["down"]), ("down", [])] ∧
    Scion.Gen.Comb.firstSegAny = "true" ∧
    (∀ b, validNextSeg none b = true) ∧
    (∀ b, validNextSeg (some .up) b = (b == .core || b == .down)) ∧
    (∀ b, validNextSeg (some .core) b = (b == .down)) ∧
    (∀ b, validNextSeg (some .down) b = false) := by
  refine ⟨by decide, by decide, ?_, ?_, ?_, ?_⟩ <;> intro b <;> cases b <;> rfl

/-! ### non-vacuity -/
def exUp : Seg := ⟨100, 7, [⟨1, ⟨0, 1, 63, 5⟩, 0, 1500, []⟩, ⟨2, ⟨1, 2, 63, 6⟩, 1400, 1500, []⟩,
  ⟨3, ⟨1, 0, 10, 5⟩, 1300, 1500, [⟨⟨9, 0, 63, 6⟩, 4, 8, 1200⟩]⟩]⟩
def exDown : Seg := ⟨200, 9, [⟨1, ⟨0, 1, 63, 1⟩, 0, 1500, []⟩, ⟨2, ⟨1, 3, 63, 2⟩, 1400, 1500, []⟩,
  ⟨4, ⟨1, 0, 63, 3⟩, 1350, 1500, [⟨⟨8, 0, 20, 4⟩, 3, 9, 1200⟩]⟩]⟩

example : NoCollision (allTuples [exUp] [] [exDown]) := by
  unfold NoCollision
  decide

/-- the graph search and the specification agree on the example: join at the core, shortcut at AS
2, and the peering link 3#9 — 4#8 -/
example : (newDMG [exUp] [] [exDown]).map (fun g => (getPaths g 3 4).map fun es => es.map fun e => (e.kind, e.sc, e.peer)) =
    some [[(.up, 2, 1), (.down, 2, 1)], [(.up, 1, 0), (.down, 1, 0)], [(.up, 0, 0), (.down, 0, 0)]] := by
  decide

/-- the example segments satisfy the well-formedness hypotheses of the completeness theorems -/
example : ∀ s ∈ [exUp] ++ [] ++ [exDown], SegWF s ∧ IfWF s := by
  intro s hs
  simp only [List.append_nil, List.cons_append, List.nil_append, List.mem_cons, List.not_mem_nil,
    or_false] at hs
  rcases hs with rfl | rfl
  all_goals
    refine ⟨⟨by decide, by decide⟩, by decide, by decide, ?_⟩
    intro i ent h hne
    match i, h, hne with
    | 0, h, _ => simp [exUp, exDown] at h; subst h; decide
    | 1, h, _ => simp [exUp, exDown] at h; subst h; decide
    | 2, _, hne => exact absurd rfl hne
    | n + 3, h, _ => simp [exUp, exDown] at h

end Scion.C29
