import Scion.Model.Addr
/-! Lemmas about the digit strings and the splitting functions of `Scion.Model.Addr`.  `strconv.ParseUint`
is characterised exactly against a denotation of digit strings (`ofDigits`); that it reads back what
`toDigits` prints follows from that. -/
namespace Scion.Addr

/-! ### digits -/

theorem digitVal_digitChar : ∀ d, d < 16 → digitVal (digitChar d) = some d := by decide

theorem toDigits_lt (b n : Nat) (h : n < b) : toDigits b n = [digitChar n] := by
  simp [toDigits, toDigitsFuel, h]

theorem toDigitsFuel_eq (b : Nat) (hb : 2 ≤ b) : ∀ n fuel acc, n < fuel →
    toDigitsFuel b fuel n acc = toDigits b n ++ acc := by
  intro n
  induction n using Nat.strongRecOn with
  | _ n ih =>
    intro fuel acc hf
    obtain ⟨f, rfl⟩ : ∃ f, fuel = f + 1 := ⟨fuel - 1, by omega⟩
    simp only [toDigits, toDigitsFuel]
    split
    · rfl
    · have hlt : n / b < n := Nat.div_lt_self (by omega) (by omega)
      rw [ih _ hlt f _ (by omega), ih _ hlt n _ hlt, List.append_assoc]
      rfl

theorem toDigits_step (b n : Nat) (hb : 2 ≤ b) (h : b ≤ n) :
    toDigits b n = toDigits b (n / b) ++ [digitChar (n % b)] := by
  rw [← toDigitsFuel_eq b hb _ n _ (Nat.div_lt_self (by omega) (by omega))]
  simp [toDigits, toDigitsFuel, Nat.not_lt.2 h]

theorem toDigits_ne_nil (b n : Nat) : toDigits b n ≠ [] := by
  have : ∀ f n acc, toDigitsFuel b (f + 1) n acc ≠ [] := by
    intro f
    induction f with
    | zero =>
      intro n acc
      simp only [toDigitsFuel]
      split <;> exact List.cons_ne_nil _ _
    | succ f ih =>
      intro n acc
      rw [toDigitsFuel]
      split
      · exact List.cons_ne_nil _ _
      · exact ih _ _
  exact this n n []

theorem mem_toDigits (b : Nat) (hb : 2 ≤ b) : ∀ n c, c ∈ toDigits b n → ∃ d, d < b ∧ c = digitChar d := by
  intro n
  induction n using Nat.strongRecOn with
  | _ n ih =>
    intro c hc
    by_cases h : n < b
    · rw [toDigits_lt b n h] at hc
      exact ⟨n, h, List.mem_singleton.1 hc⟩
    · rw [toDigits_step b n hb (by omega)] at hc
      simp only [List.mem_append, List.mem_singleton] at hc
      rcases hc with hc | hc
      · exact ih (n / b) (Nat.div_lt_self (by omega) (by omega)) c hc
      · exact ⟨n % b, Nat.mod_lt _ (by omega), hc⟩

/-! ### `strconv.ParseUint`: what it accepts, against an independent denotation of digit strings -/

/-- `c` is a digit of base `b` for `strconv.ParseUint` -/
def IsDigit (b : Nat) (c : Char) : Prop := ∃ d, digitVal c = some d ∧ d < b

/-- value of a digit string read in base `b` (characters that are no digits count 0; only used
    under `∀ c ∈ s, IsDigit b c`) -/
def ofDigitsAcc (b : Nat) : Nat → Str → Nat
  | acc, [] => acc
  | acc, c :: cs =>
    match digitVal c with
    | some d => ofDigitsAcc b (acc * b + d) cs
    | none => ofDigitsAcc b (acc * b) cs

def ofDigits (b : Nat) (s : Str) : Nat := ofDigitsAcc b 0 s

theorem le_ofDigitsAcc (b : Nat) (hb : 1 ≤ b) : ∀ s acc, acc ≤ ofDigitsAcc b acc s := by
  intro s
  induction s with
  | nil => intro acc; exact Nat.le_refl _
  | cons c cs ih =>
    intro acc
    have h1 : acc ≤ acc * b := Nat.le_mul_of_pos_right acc hb
    simp only [ofDigitsAcc]
    split <;> exact Nat.le_trans (by omega) (ih _)

theorem parseUintGo_ok_iff (b M : Nat) (hb : 1 ≤ b) : ∀ s acc v, acc ≤ M →
    (parseUintGo b M acc s = .ok v ↔
      (∀ c ∈ s, IsDigit b c) ∧ ofDigitsAcc b acc s = v ∧ v ≤ M) := by
  intro s
  induction s with
  | nil =>
    intro acc v h
    simp only [parseUintGo, ofDigitsAcc, Except.ok.injEq, List.not_mem_nil, false_imp_iff,
      implies_true, true_and]
    exact ⟨fun e => ⟨e, e ▸ h⟩, fun e => e.1⟩
  | cons c cs ih =>
    intro acc v _
    simp only [parseUintGo, ofDigitsAcc, IsDigit, List.mem_cons, forall_eq_or_imp]
    cases hd : digitVal c with
    | none => simp
    | some d =>
      -- a rejected digit cannot be made good later: the value only grows
      have hle := le_ofDigitsAcc b hb cs (acc * b + d)
      simp only [Option.some.injEq, exists_eq_left']
      by_cases h1 : b ≤ d
      · simp only [h1, if_true, reduceCtorEq, false_iff, not_and]
        omega
      · by_cases h2 : M < acc * b + d
        · simp only [h1, h2, if_true, if_false, reduceCtorEq, false_iff, not_and]
          omega
        · simp only [h1, h2, if_false, ih _ v (Nat.not_lt.1 h2), IsDigit, Nat.not_le.1 h1, true_and]

/-- **`strconv.ParseUint` accepts exactly the non-empty digit strings whose value fits**, and
    returns that value -/
theorem parseUint_ok_iff (b bits : Nat) (hb : 1 ≤ b) (s : Str) (v : Nat) :
    parseUint b bits s = .ok v ↔
      s ≠ [] ∧ (∀ c ∈ s, IsDigit b c) ∧ ofDigits b s = v ∧ v < 2 ^ bits := by
  have hpos : 0 < 2 ^ bits := Nat.two_pow_pos bits
  cases s with
  | nil => simp [parseUint]
  | cons c cs =>
    simp only [parseUint, parseUintGo_ok_iff b _ hb _ 0 v (Nat.zero_le _), ofDigits, ne_eq,
      reduceCtorEq, not_false_eq_true, true_and, Nat.le_sub_one_iff_lt hpos]

/-! ### the parser reads back what `toDigits` prints -/

theorem ofDigitsAcc_append (b : Nat) : ∀ s t acc,
    ofDigitsAcc b acc (s ++ t) = ofDigitsAcc b (ofDigitsAcc b acc s) t := by
  intro s
  induction s with
  | nil => intro t acc; rfl
  | cons c cs ih =>
    intro t acc
    simp only [List.cons_append, ofDigitsAcc]
    split <;> exact ih _ _

theorem ofDigits_toDigits (b n : Nat) (hb : 2 ≤ b) (hb' : b ≤ 16) : ofDigits b (toDigits b n) = n := by
  induction n using Nat.strongRecOn with
  | _ n ih =>
    by_cases h : n < b
    · rw [toDigits_lt b n h]
      simp [ofDigits, ofDigitsAcc, digitVal_digitChar n (by omega)]
    · have hlt : n / b < n := Nat.div_lt_self (by omega) (by omega)
      have hm : n % b < 16 := Nat.lt_of_lt_of_le (Nat.mod_lt n (by omega)) hb'
      rw [toDigits_step b n hb (by omega), ofDigits, ofDigitsAcc_append, ← ofDigits, ih _ hlt]
      simp only [ofDigitsAcc, digitVal_digitChar (n % b) hm]
      rw [Nat.mul_comm]; exact Nat.div_add_mod n b

theorem isDigit_toDigits (b n : Nat) (hb : 2 ≤ b) (hb' : b ≤ 16) :
    ∀ c ∈ toDigits b n, IsDigit b c := by
  intro c hc
  obtain ⟨d, hd, rfl⟩ := mem_toDigits b hb n c hc
  exact ⟨d, digitVal_digitChar d (by omega), hd⟩

theorem parseUint_toDigits (b bits n : Nat) (hb : 2 ≤ b) (hb' : b ≤ 16) (hn : n < 2 ^ bits) :
    parseUint b bits (toDigits b n) = .ok n :=
  (parseUint_ok_iff b bits (by omega) _ n).2
    ⟨toDigits_ne_nil b n, isDigit_toDigits b n hb hb', ofDigits_toDigits b n hb hb', hn⟩

theorem toDigits_inj (b : Nat) (hb : 2 ≤ b) (hb' : b ≤ 16) (m n : Nat)
    (h : toDigits b m = toDigits b n) : m = n := by
  rw [← ofDigits_toDigits b m hb hb', h, ofDigits_toDigits b n hb hb']

def IsDigitChar (c : Char) : Prop := ∃ d, d < 16 ∧ c = digitChar d

theorem toDigits_isDigitChar (b : Nat) (hb : 2 ≤ b) (hb' : b ≤ 16) (n : Nat) :
    ∀ c ∈ toDigits b n, IsDigitChar c := by
  intro c hc
  obtain ⟨d, hd, rfl⟩ := mem_toDigits b hb n c hc
  exact ⟨d, by omega, rfl⟩

theorem notin_toDigits (c : Char) (hc : ¬ IsDigitChar c) (b : Nat) (hb : 2 ≤ b) (hb' : b ≤ 16)
    (n : Nat) : c ∉ toDigits b n :=
  fun hm => hc (toDigits_isDigitChar b hb hb' n c hm)

theorem digitChar_alphanum : ∀ d, d < 16 → (digitChar d).isAlphanum = true := by decide

theorem not_isDigitChar (c : Char) (h : c.isAlphanum = false) : ¬ IsDigitChar c := by
  rintro ⟨d, hd, rfl⟩
  rw [digitChar_alphanum d hd] at h
  cases h

/-! ### `strings.Split`

The groups `g` that are joined consist of characters with a property `P` (digit characters, or
"not the separator character"), and the separator contains a character without it: then the
separator cannot start inside a group, even where it is longer than one character. -/

/-- the separator does not occur at a position inside a group: its first character is matched
    by a group character, so has `P`, and may be counted to the group; in the end a character
    of the separator without `P` would have to match one with `P` -/
theorem no_occurrence (P : Char → Prop) (rest : Str) : ∀ sep t : Str, t ≠ [] → (∀ c ∈ t, P c) →
    (∃ c ∈ sep, ¬ P c) → ¬ sep <+: t ++ (sep ++ rest) := by
  intro sep
  induction sep with
  | nil => intro t _ _ ⟨c, hc, _⟩; cases hc
  | cons s sep ih =>
    intro t ht hP ⟨c, hc, hn⟩ h
    cases t with
    | nil => exact ht rfl
    | cons x t =>
      obtain ⟨rfl, h⟩ := List.cons_prefix_cons.1 h
      have hs := hP s List.mem_cons_self
      refine ih (t ++ [s]) (by simp) ?_ ⟨c, ?_, hn⟩ (by simpa using h)
      · intro c hc
        rcases List.mem_append.1 hc with hc | hc
        · exact hP c (List.mem_cons_of_mem _ hc)
        · rw [List.mem_singleton.1 hc]; exact hs
      · rcases List.mem_cons.1 hc with rfl | hc
        · exact absurd hs hn
        · exact hc

theorem splitGo_skip (sep : Str) : ∀ (pre rest : Str),
    splitGo sep pre.length (pre ++ rest) = splitGo sep 0 rest := by
  intro pre
  induction pre with
  | nil => intro rest; rfl
  | cons x xs ih =>
    intro rest
    simp only [List.length_cons, List.cons_append, splitGo]
    exact ih rest

theorem splitGo_group (P : Char → Prop) (sep tail p : Str) (ps : List Str)
    (hno : ∀ t, t ≠ [] → (∀ c ∈ t, P c) → ¬ sep <+: t ++ tail)
    (htail : splitGo sep 0 tail = p :: ps) :
    ∀ g : Str, (∀ c ∈ g, P c) → splitGo sep 0 (g ++ tail) = (g ++ p) :: ps := by
  intro g
  induction g with
  | nil => intro _; exact htail
  | cons x xs ih =>
    intro hg
    have hnp : sep.isPrefixOf (x :: (xs ++ tail)) = false :=
      Bool.eq_false_iff.2 fun hp => hno (x :: xs) (by simp) hg (List.isPrefixOf_iff_prefix.1 hp)
    simp only [List.cons_append, splitGo, hnp, Bool.false_eq_true, if_false,
      ih fun c hc => hg c (List.mem_cons_of_mem _ hc), consHead]

theorem split_eq_splitGo {sep : Str} (h : sep ≠ []) (s : Str) : split sep s = splitGo sep 0 s := by
  cases sep with
  | nil => exact absurd rfl h
  | cons _ _ => rfl

theorem split_notin (P : Char → Prop) (sep : Str) (hX : ∃ c ∈ sep, ¬ P c) (g : Str)
    (hg : ∀ c ∈ g, P c) : split sep g = [g] := by
  obtain ⟨c, hc, hn⟩ := hX
  have := splitGo_group P sep [] [] []
    (fun t _ hP h => hn (hP c (by simpa using h.subset hc))) rfl g hg
  simpa [split_eq_splitGo (List.ne_nil_of_mem hc)] using this

theorem split_append (P : Char → Prop) (sep : Str) (hX : ∃ c ∈ sep, ¬ P c) (g rest : Str)
    (hg : ∀ c ∈ g, P c) : split sep (g ++ (sep ++ rest)) = g :: split sep rest := by
  have hne : sep ≠ [] := hX.elim fun _ h => List.ne_nil_of_mem h.1
  have htail : splitGo sep 0 (sep ++ rest) = [] :: splitGo sep 0 rest := by
    cases sep with
    | nil => exact absurd rfl hne
    | cons s sep =>
      have hp : (s :: sep).isPrefixOf (s :: (sep ++ rest)) = true :=
        List.isPrefixOf_iff_prefix.2 ⟨rest, rfl⟩
      simp only [List.cons_append, splitGo, hp, if_true, List.length_cons, Nat.add_sub_cancel]
      rw [splitGo_skip]
  have := splitGo_group P sep _ _ _ (fun t ht hP => no_occurrence P rest sep t ht hP hX) htail g hg
  simpa [split_eq_splitGo hne] using this

/-! ### a single separator character

The groups are the strings without it; conversely the parts `strings.Split` returns contain no
separator and are what lies between the separators of the string. -/

theorem split_single_notin (c : Char) (s : Str) (h : c ∉ s) : split [c] s = [s] :=
  split_notin (· ≠ c) [c] ⟨c, List.mem_singleton_self c, fun h => h rfl⟩ s
    (fun _ hx e => h (e ▸ hx))

theorem split_single_append (c : Char) (a rest : Str) (h : c ∉ a) :
    split [c] (a ++ c :: rest) = a :: split [c] rest :=
  split_append (· ≠ c) [c] ⟨c, List.mem_singleton_self c, fun h => h rfl⟩ a rest
    (fun _ hx e => h (e ▸ hx))

/-- the parts, each with the separator put in front again, make up the separator followed by
    the string: they are the string cut at its separators (and there is at least one part) -/
theorem split_single_spec (c : Char) (s : Str) :
    ((split [c] s).map (c :: ·)).flatten = c :: s ∧ ∀ p ∈ split [c] s, c ∉ p := by
  simp only [split]
  induction s with
  | nil => simp [splitGo]
  | cons x xs ih =>
    obtain ⟨hj, hall⟩ := ih
    by_cases hx : c = x
    · subst hx
      simpa [splitGo, List.isPrefixOf, hj] using hall
    · cases hs : splitGo [c] 0 xs with
      | nil => simp [hs] at hj
      | cons q qs =>
        simp only [hs, List.map_cons, List.flatten_cons, List.cons_append, List.cons.injEq,
          true_and, List.mem_cons, forall_eq_or_imp] at hj hall
        simpa [splitGo, List.isPrefixOf, hx, hs, consHead, hj, hall.1] using hall.2

/-! ### `strings.IndexByte`, `strings.LastIndexByte` -/

theorem splitFirst_append (c : Char) (a b : Str) (h : c ∉ a) :
    splitFirst c (a ++ c :: b) = some (a, b) := by
  induction a with
  | nil => simp [splitFirst]
  | cons x xs ih =>
    simp only [List.mem_cons, not_or] at h
    simp [splitFirst, Ne.symm h.1, ih h.2]

theorem firstIndex_append (c : Char) (a b : Str) (h : c ∉ a) :
    firstIndex c (a ++ c :: b) = some a.length := by
  induction a with
  | nil => simp [firstIndex]
  | cons x xs ih =>
    simp only [List.mem_cons, not_or] at h
    simp [firstIndex, Ne.symm h.1, ih h.2]

theorem lastIndex_none (c : Char) (s : Str) (h : c ∉ s) : lastIndex c s = none := by
  induction s with
  | nil => rfl
  | cons x xs ih =>
    simp only [List.mem_cons, not_or] at h
    simp [lastIndex, Ne.symm h.1, ih h.2]

theorem lastIndex_append (c : Char) (a b : Str) (h : c ∉ b) :
    lastIndex c (a ++ c :: b) = some a.length := by
  induction a with
  | nil => simp [lastIndex, lastIndex_none c b h]
  | cons x xs ih => simp [lastIndex, ih]

/-- `net.SplitHostPort` on `[host]:port` -/
theorem splitHostPort_bracket (A P : Str) (hA : '[' ∉ A ∧ ']' ∉ A)
    (hP : ':' ∉ P ∧ '[' ∉ P ∧ ']' ∉ P) :
    splitHostPort ('[' :: (A ++ ']' :: ':' :: P)) = some (A, P) := by
  have hlast : lastIndex ':' ('[' :: (A ++ ']' :: ':' :: P)) = some (A.length + 2) := by
    simpa using lastIndex_append ':' ('[' :: A ++ [']']) P hP.1
  have hfirst : firstIndex ']' ('[' :: (A ++ ']' :: ':' :: P)) = some (A.length + 1) := by
    simpa [hA.2] using firstIndex_append ']' ('[' :: A) (':' :: P)
  simp [splitHostPort, hlast, hfirst, hA.1, hP.2.1, hP.2.2]

end Scion.Addr
