import Scion.Proofs.RevCache
import Scion.Gen.StoresFacts
/-!
# C31 — The revocation cache keeps the newest live revocation per interface

Property theorems only.  `Scion.Model.RevCache` mirrors `memRevCache.Insert/Get/GetAll/
DeleteExpired` over the `zcache` item map (lazy expiry, explicit clean-up); it is tied to
`private/revcache/memrevcache` by `harness/cmd/revcache` (random histories against the real cache
with the real wall clock).  `Reachable` = produced from the empty cache by any op sequence.
-/
namespace Scion.C31
open Scion.RevCache

def Reachable (s : State) : Prop := ∃ ops, s = (run empty ops).1

theorem reachable_wf {s : State} (h : Reachable s) : WF s := by
  obtain ⟨ops, rfl⟩ := h
  exact wf_run ops empty wf_empty

/-- **acceptance rule** (any state, any clock value): a revocation is accepted iff it is
    unexpired and there is no live revocation for its interface or the live one is strictly
    older. -/
theorem insert_accept_iff (s : State) (now : Nat) (r : Rev) :
    (insert s now r).2 = true ↔
      now < expMs r ∧
        (getLive s now r.key = none ∨ ∃ v, getLive s now r.key = some v ∧ v.ts < r.ts) :=
  RevCache.insert_snd_iff s now r

/-- an accepted revocation is what lookups of its interface return exactly until it expires … -/
theorem insert_accepted_effect (s : State) (now t : Nat) (r : Rev)
    (h : (insert s now r).2 = true) :
    getLive (insert s now r).1 t r.key = if t ≤ expMs r then some r else none := by
  rcases insert_cases s now r with ⟨_, he⟩ | ⟨_, he⟩ <;> rw [he] at h ⊢
  · rw [getLive_set, if_pos rfl, live_until]; rfl
  · cases h

/-- … other interfaces are untouched, and a rejected insertion changes nothing at all -/
theorem insert_other_key (s : State) (now t : Nat) (r : Rev) (k : Key) (hk : k ≠ r.key) :
    getLive (insert s now r).1 t k = getLive s t k := by
  rcases insert_cases s now r with ⟨_, he⟩ | ⟨_, he⟩ <;> rw [he]
  rw [getLive_set, if_neg (fun e => hk e.symm)]

theorem insert_rejected_noop (s : State) (now : Nat) (r : Rev)
    (h : (insert s now r).2 = false) : (insert s now r).1 = s := by
  rcases insert_cases s now r with ⟨_, he⟩ | ⟨_, he⟩ <;> rw [he] at h ⊢
  cases h

/-- **expired revocations are never returned**, in any reachable state, at any clock value -/
theorem never_returns_expired {s : State} (hs : Reachable s) (now : Nat) (k : Key) (r : Rev)
    (h : getLive s now k = some r) : r.key = k ∧ now ≤ expMs r := by
  obtain ⟨it, hl, hexp, rfl⟩ := (getLive_eq_some_iff s now k r).mp h
  obtain ⟨hk, he⟩ := wf_lookup s k it (reachable_wf hs) hl
  simp only [Item.expired, decide_eq_false_iff_not] at hexp
  exact ⟨hk, by omega⟩

/-- the same for the enumeration: `GetAll` lists only unexpired revocations -/
theorem getAll_unexpired {s : State} (hs : Reachable s) (now : Nat) (r : Rev)
    (h : r ∈ getAll s now) : now ≤ expMs r := by
  have hwf := reachable_wf hs
  unfold getAll at h
  obtain ⟨p, hp, rfl⟩ := List.mem_map.mp h
  obtain ⟨hmem, hq⟩ := List.mem_filter.mp hp
  have := (hwf.2 p hmem).2
  simp only [Item.expired, Bool.not_eq_true', decide_eq_false_iff_not] at hq
  omega

/-- **an older (or equally old) revocation never replaces a newer live one**: it is rejected and
    the cache is unchanged -/
theorem older_never_replaces_newer_live (s : State) (now : Nat) (r v : Rev)
    (hv : getLive s now r.key = some v) (hold : r.ts ≤ v.ts) :
    insert s now r = (s, false) := by
  rcases insert_cases s now r with ⟨⟨_, hn | ⟨w, hw, hlt⟩⟩, _⟩ | ⟨_, he⟩
  · rw [hv] at hn; cases hn
  · rw [hv] at hw; cases hw; omega
  · exact he

/-- consequently the timestamp of the live revocation of an interface never decreases across
    any single operation: what is live before the step and still there after it is at least as
    new -/
theorem live_timestamp_monotone (s : State) (op : Op) (k : Key) (v v' : Rev)
    (hs : WF s) (hv : getLive s op.time k = some v)
    (hv' : getLive (step s op).1 op.time k = some v') : v.ts ≤ v'.ts := by
  have keep : getLive s op.time k = some v' → v.ts ≤ v'.ts := fun h => by
    cases hv.symm.trans h; exact Nat.le_refl _
  cases op with
  | delExp now => exact keep (getLive_deleteExpired s now now k hs (Nat.le_refl _) ▸ hv')
  | insert now r =>
    simp only [step, Op.time] at hv hv' keep
    rcases insert_cases s now r with ⟨⟨_, hA⟩, he⟩ | ⟨_, he⟩ <;> rw [he] at hv'
    · rw [getLive_set] at hv'
      by_cases hk : r.key = k
      · -- `v'` is `r`, which was accepted over the live `v`
        subst hk
        rw [if_pos rfl] at hv'
        rcases hA with hn | ⟨w, hw, hlt⟩
        · rw [hv] at hn; cases hn
        · rw [hv] at hw; cases hw
          split at hv' <;> cases hv'
          exact Nat.le_of_lt hlt
      · rw [if_neg hk] at hv'; exact keep hv'
    · exact keep hv'
  | _ => exact keep hv'

/-- **lookup specification over all histories.**  For every history with a non-decreasing
    clock, the cache — with its lazy expiry and explicit clean-ups at arbitrary points — answers
    every insertion and every lookup exactly like the abstract store of the statement: a map
    that remembers per interface the last accepted revocation, accepts iff "unexpired and newer
    than the live stored one", and returns the stored revocation as long as it is unexpired and
    nothing otherwise. -/
theorem get_spec (ops : List Op) (hm : Mono 0 ops) :
    Agree (run empty ops).2 (Spec.run (fun _ => none) ops).2 :=
  (refines_run ops 0 empty _ refines_empty hm).1

/-- … and the state reached keeps answering like the abstract store at every later instant -/
theorem get_spec_after (ops : List Op) (hm : Mono 0 ops) :
    ∃ hi, Mono 0 (ops ++ [.getAll hi]) ∧ ∀ k t, hi ≤ t →
      getLive (run empty ops).1 t k = (Spec.run (fun _ => none) ops).1.get t k := by
  obtain ⟨_, hi, _, hR, hM⟩ := refines_run ops 0 empty _ refines_empty hm
  exact ⟨hi, hM [.getAll hi] ⟨Nat.le_refl _, trivial⟩, hR.2⟩

/-- clean-up removes exactly the expired entries: the count is the number of expired items, and
    no lookup at or after the clean-up instant can tell that it happened -/
theorem cleanup_exact {s : State} (hs : Reachable s) (now : Nat) :
    (deleteExpired s now).2 = (s.filter (fun p => p.2.expired now)).length ∧
      (∀ p ∈ (deleteExpired s now).1, p ∈ s ∧ p.2.expired now = false) ∧
      ∀ k t, now ≤ t → getLive (deleteExpired s now).1 t k = getLive s t k := by
  refine ⟨?_, ?_, ?_⟩
  · simp [deleteExpired, List.countP_eq_length_filter]
  · intro p hp
    have := List.mem_filter.mp hp
    exact ⟨this.1, by simpa using this.2⟩
  · intro k t ht
    exact getLive_deleteExpired s now t k (reachable_wf hs) ht

/-- **enumeration = lookups**: in every reachable state `GetAll` lists exactly the revocations that
    a `Get` of their own interface returns at the same instant -/
theorem mem_getAll_iff {s : State} (hr : Reachable s) (now : Nat) (r : Rev) :
    r ∈ getAll s now ↔ getLive s now r.key = some r := by
  have hs := reachable_wf hr
  rw [getLive_eq_some_iff]
  simp only [getAll, List.mem_map, List.mem_filter, Bool.not_eq_true']
  constructor
  · rintro ⟨p, ⟨hmem, hq⟩, rfl⟩
    exact ⟨p.2, (hs.2 p hmem).1 ▸ lookup_of_mem s p hs.1 hmem, hq, rfl⟩
  · rintro ⟨it, hl, hq, rfl⟩
    exact ⟨(_, it), ⟨lookup_mem s _ it hl, hq⟩, rfl⟩

/-- … and lists at most one revocation per interface -/
theorem getAll_keys_distinct {s : State} (hr : Reachable s) (now : Nat) :
    (getAll s now).Pairwise (fun a b => a.key ≠ b.key) := by
  have hs := reachable_wf hr
  unfold getAll
  rw [List.pairwise_map]
  refine (noDup_filter s _ hs.1).imp_of_mem fun {a b} ha hb hab => ?_
  rwa [← (hs.2 a (List.mem_filter.mp ha).1).1, ← (hs.2 b (List.mem_filter.mp hb).1).1]

private theorem run_snoc (s : State) (ops : List Op) (op : Op) :
    (run s (ops ++ [op])).1 = (step (run s ops).1 op).1 := by
  induction ops generalizing s with
  | nil => simp [run]
  | cons o rest ih => simp only [List.cons_append, run]; exact ih _

theorem reachable_step {s : State} (hr : Reachable s) (op : Op) : Reachable (step s op).1 := by
  obtain ⟨ops, rfl⟩ := hr
  exact ⟨ops ++ [op], (run_snoc empty ops op).symm⟩

/-- an accepted revocation is listed by every enumeration until it expires, and once it has
    expired by none -/
theorem accepted_listed_iff {s : State} (hr : Reachable s) (now t : Nat) (r : Rev)
    (h : (insert s now r).2 = true) :
    r ∈ getAll (insert s now r).1 t ↔ t ≤ expMs r := by
  have hr' : Reachable (insert s now r).1 := reachable_step hr (.insert now r)
  rw [mem_getAll_iff hr' t r, insert_accepted_effect s now t r h]
  by_cases ht : t ≤ expMs r <;> simp [ht]

/-- T3: the decisions of `memRevCache.Insert` as they stand in the source (regenerated on every
    run) are the three the model transcribes, in this order: reject when the remaining lifetime
    is not positive, store when nothing live is cached, replace only when strictly newer -/
theorem gen_insert_decisions :
    Scion.Gen.StoresFacts.revInsertConds =
      ["ttl <= 0", "!ok", "rev.Timestamp().After(val.Timestamp())"] := rfl

/-! ## Non-vacuity -/

private def k1 : Key := ⟨0x1ff0000000110, 5⟩
private def rA : Rev := ⟨k1, 1, 100, 20⟩   -- issued 100 s, expires 120 s
private def rB : Rev := ⟨k1, 1, 105, 60⟩   -- newer
private def rC : Rev := ⟨k1, 1, 90, 500⟩   -- older but long-lived

/-- accepted, replaced by a newer one, older one refused while the newer is live, and accepted
    once the newer one has expired; lookups follow -/
example :
    (run empty [.insert 101000 rA, .get 110000 k1, .insert 111000 rB, .insert 112000 rC,
                .insert 112500 rA, .get 113000 k1, .delExp 170000, .get 171000 k1,
                .insert 172000 rC, .get 173000 k1, .insert 600000 rC]).2 =
      [.accepted true, .got (some rA), .accepted true, .accepted false, .accepted false,
       .got (some rB), .deleted 1, .got none, .accepted true, .got (some rC),
       .accepted false] := by decide +kernel

example : Mono 0 [.insert 101000 rA, .get 110000 k1, .delExp 170000] := by
  simp [Mono, Op.time]

example : Reachable (insert empty 101000 rA).1 := ⟨[.insert 101000 rA], rfl⟩

/-- the enumeration of a two-interface cache: one entry per interface, expired one left out -/
example :
    (run empty [.insert 101000 rA, .insert 101500 ⟨⟨0x1ff0000000110, 6⟩, 1, 100, 300⟩,
                .getAll 102000, .getAll 130000]).2 =
      [.accepted true, .accepted true,
       .all [⟨⟨0x1ff0000000110, 6⟩, 1, 100, 300⟩, rA], .all [⟨⟨0x1ff0000000110, 6⟩, 1, 100, 300⟩]] := by
  decide +kernel

end Scion.C31
