import Scion.Proofs.Extend
import Scion.Gen.Beacon
/-!
# C23 — Beacon extension produces verifiable, correctly bounded AS entries

Model: `Scion.Model.Extend` (`DefaultExtender.Extend` and helpers,
`extractBeta`, `path.MACInput`, `ExpTimeToDuration/FromDuration`, `trust.LastExpiring`,
`PathSegment.Validate`, `associatedData`), tied to the code by `harness/cmd/extend` (real
`DefaultExtender` on chains of ASes; every theorem holds for **all** MAC functions `c.mac`).
-/
namespace Scion.C23
open Scion.Extend

/-! ### expiry encoding -/

/-- `ExpTimeFromDuration` is the floor: the encoded lifetime never exceeds the duration and is
less than one unit below it; the value fits 8 bits (the `uint8` conversion loses nothing). -/
theorem toDuration_fromDuration_le (d : Int) (e : Nat) (h : expTimeFromDuration d = some e) :
    expTimeToDuration e ≤ d ∧ d < expTimeToDuration e + expTimeUnit ∧ e ≤ 255 := by
  unfold expTimeFromDuration at h
  split at h
  · cases h
  · split at h
    · cases h
    · rename_i h1 h2
      cases h
      unfold expTimeToDuration expTimeUnit maxTTL at *
      omega

/-- and it is defined exactly on `[unit, MaxTTL]` -/
theorem fromDuration_defined_iff (d : Int) :
    (∃ e, expTimeFromDuration d = some e) ↔ expTimeUnit ≤ d ∧ d ≤ maxTTL := by
  unfold expTimeFromDuration
  constructor
  · rintro ⟨e, h⟩
    split at h
    · cases h
    · split at h
      · cases h
      · omega
  · rintro ⟨h1, h2⟩
    rw [if_neg (by omega), if_neg (by omega)]
    exact ⟨_, rfl⟩

/-- the relative expiry chosen by `Extend`: never above the configured maximum, and the hop
never outlives the signer -/
theorem hopExpTime_bounds (maxExp : Nat) (tsNs signerExp : Int) (e : Nat)
    (h : hopExpTime maxExp tsNs signerExp = some e) :
    e ≤ maxExp ∧ tsNs + expTimeToDuration e ≤ signerExp := by
  unfold hopExpTime at h
  split at h
  · rename_i hgt
    obtain ⟨h1, _, _⟩ := toDuration_fromDuration_le _ _ h
    refine ⟨?_, by omega⟩
    unfold expTimeToDuration expTimeUnit at *
    omega
  · cases h
    omega

/-! ### the produced entry -/

/-- **names the local AS and the neighbour behind the egress interface** (`0-0` iff the beacon
is terminated, i.e. egress = 0; a wildcard neighbour is refused) -/
theorem entry_ias (c : Cfg) (s : Seg) (ingress egress : Nat) (peers : List Nat)
    (signers : List Signer) (now : Int) (e : ASEntry) (s' : Seg) (sg : Signer)
    (h : extend c s ingress egress peers signers now = .ok e s' sg) :
    e.loc = c.ia ∧ e.mtu = c.mtu ∧
    (egress = 0 → e.next = IA.zero) ∧
    (egress ≠ 0 → ∃ i, (egress, i) ∈ c.ifs ∧ c.ifs.lookup egress = some i ∧ e.next = i.ia ∧
      i.ia.isWildcard = false) ∧
    s'.entries = s.entries ++ [e] ∧ s'.segID = s.segID ∧ s'.ts = s.ts := by
  obtain ⟨_, _, _, _, exp, inMtu, hop, next, _, _, _, hnext, he, hs', _⟩ :=
    extend_ok_inv c s ingress egress peers signers now e s' sg h
  subst he hs'
  refine ⟨rfl, rfl, ?_, ?_, rfl, rfl, rfl⟩
  · intro h0
    rcases remoteIA_eq_some hnext with ⟨_, hz⟩ | ⟨hne, _⟩
    · exact hz
    · exact absurd h0 hne
  · intro h0
    rcases remoteIA_eq_some hnext with ⟨hz, _⟩ | ⟨_, i, hl, hw, hi⟩
    · exact absurd hz h0
    · exact ⟨i, lookup_mem _ _ _ hl, hl, hi, hw⟩

/-- **hop field and peer hop fields carry MACs computed under the AS key with the accumulated
segment identifier**: the hop MAC is `mac(MACInput(β, ts, exp, ingress, egress))[:6]` with
`β = extractBeta` of the segment so far; every peer hop field has the same egress and expiry,
its ingress is one of the requested peer interfaces, which is described by the entry, and its
MAC uses `extractBeta` of the *extended* segment, i.e. `β ⊕ hopMAC[:2]` — the accumulator value
of the next AS (`extractBeta_step`).  (`0 ∉ peers`: interface id 0 is not an interface.) -/
theorem hop_mac_chain (c : Cfg) (s : Seg) (ingress egress : Nat) (peers : List Nat)
    (signers : List Signer) (now : Int) (e : ASEntry) (s' : Seg) (sg : Signer)
    (hp0 : 0 ∉ peers)
    (h : extend c s ingress egress peers signers now = .ok e s' sg) :
    e.hop.inIf = ingress ∧ e.hop.egIf = egress ∧
    e.hop.mac = (c.mac (macInput (extractBeta s) s.ts e.hop.expTime ingress egress)).take 6 ∧
    (∀ p ∈ e.peers,
      p.hop.egIf = egress ∧ p.hop.expTime = e.hop.expTime ∧ p.hop.inIf ∈ peers ∧
      p.hop.mac = (c.mac (macInput (extractBeta s') s.ts e.hop.expTime p.hop.inIf egress)).take 6 ∧
      ∃ i, c.ifs.lookup p.hop.inIf = some i ∧ p.peer = i.ia ∧ p.peerIf = i.remoteID ∧
        p.peerMtu = i.mtu ∧ i.remoteID ≠ 0 ∧ i.ia.isWildcard = false) := by
  obtain ⟨_, _, _, _, exp, inMtu, hop, next, _, _, hhop, _, he, hs', _⟩ :=
    extend_ok_inv c s ingress egress peers signers now e s' sg h
  obtain ⟨hx, hi, heg, hm⟩ := createHopF_spec _ _ _ _ _ _ _ hhop
  have hbeta : extractBeta s' = extractBeta s ^^^ sigma hop.mac := by
    rw [hs', extractBeta_append, he]
  subst he
  dsimp only at *
  refine ⟨hi, heg, by rw [hm, hx], ?_⟩
  intro p hp
  unfold createPeerEntries at hp
  rw [List.mem_filterMap] at hp
  obtain ⟨pi, hpi, hcp⟩ := hp
  have hpi0 : pi ≠ 0 := fun h0 => hp0 (h0 ▸ hpi)
  unfold createPeerEntry at hcp
  split at hcp
  · cases hcp
  · rename_i ia rid mtu hri
    split at hcp
    · cases hcp
    · rename_i ph hph
      cases hcp
      obtain ⟨px, pii, peg, pm⟩ := createHopF_spec _ _ _ _ _ _ _ hph
      dsimp only
      refine ⟨peg, by rw [px, hx], by rw [pii]; exact hpi, ?_, ?_⟩
      · rw [pm, hbeta, pii, hx]
      · obtain ⟨i, hl, hr, hw, hi⟩ := remoteInfo_eq_some hpi0 hri
        cases hi
        exact ⟨i, by rw [pii]; exact hl, rfl, rfl, rfl, hr, hw⟩

/-- the accumulator one AS further: what the next extender (and the routers) will use -/
theorem extractBeta_step (s : Seg) (e : ASEntry) :
    extractBeta { s with entries := s.entries ++ [e] } = extractBeta s ^^^ sigma e.hop.mac :=
  extractBeta_append s e

/-- **Hop expiry never exceeds the configured maximum or the expiry of the signer used**; the
signer used is one of the configured signers, covers `[segment timestamp, now]`, and is the
last-expiring such signer; peer hop fields carry the same expiry. -/
theorem expiry_bounds (c : Cfg) (s : Seg) (ingress egress : Nat) (peers : List Nat)
    (signers : List Signer) (now : Int) (e : ASEntry) (s' : Seg) (sg : Signer)
    (h : extend c s ingress egress peers signers now = .ok e s' sg) :
    e.hop.expTime ≤ c.maxExp ∧
    (s.ts : Int) * nsPerSec + expTimeToDuration e.hop.expTime ≤ sg.notAfter ∧
    sg ∈ signers ∧ sg.covers ((s.ts : Int) * nsPerSec) now = true ∧
    (∀ x ∈ signers, x.covers ((s.ts : Int) * nsPerSec) now = true → x.notAfter ≤ sg.notAfter) := by
  obtain ⟨_, _, _, hsg, exp, inMtu, hop, next, hexp, _, hhop, _, he, _, _⟩ :=
    extend_ok_inv c s ingress egress peers signers now e s' sg h
  obtain ⟨hx, _, _, _⟩ := createHopF_spec _ _ _ _ _ _ _ hhop
  obtain ⟨hb1, hb2⟩ := hopExpTime_bounds _ _ _ _ hexp
  obtain ⟨hm, hc, hall⟩ := lastExpiring_spec _ _ _ _ hsg
  subst he
  dsimp only
  rw [hx]
  exact ⟨hb1, hb2, hm, hc, hall⟩

/-- **extension fails when ingress/egress are inconsistent with the entry's position**: success
implies ingress = 0 exactly for the first entry, not both interfaces 0, an MTU is configured, and
the extended segment passes `Validate` (beacon rules if egress ≠ 0, terminated-segment rules
otherwise: in particular the previous entry's next AS is the local AS). -/
theorem position_errors (c : Cfg) (s : Seg) (ingress egress : Nat) (peers : List Nat)
    (signers : List Signer) (now : Int) (e : ASEntry) (s' : Seg) (sg : Signer)
    (h : extend c s ingress egress peers signers now = .ok e s' sg) :
    (ingress = 0 ↔ s.entries = []) ∧ ¬ (ingress = 0 ∧ egress = 0) ∧ c.mtu ≠ 0 ∧
    validate (egress != 0) s'.entries = true := by
  obtain ⟨hm, hi, hb, _, _, _, _, _, _, _, _, _, _, _, hv⟩ :=
    extend_ok_inv c s ingress egress peers signers now e s' sg h
  exact ⟨hi, hb, hm, hv⟩

/-- contrapositive form: the three position errors -/
theorem position_errors_fail (c : Cfg) (s : Seg) (ingress egress : Nat) (peers : List Nat)
    (signers : List Signer) (now : Int)
    (hbad : (ingress = 0 ∧ s.entries ≠ []) ∨ (ingress ≠ 0 ∧ s.entries = []) ∨
            (ingress = 0 ∧ egress = 0)) :
    ∀ e s' sg, extend c s ingress egress peers signers now ≠ .ok e s' sg := by
  intro e s' sg h
  obtain ⟨hi, hb, _, _⟩ := position_errors c s ingress egress peers signers now e s' sg h
  rcases hbad with ⟨h1, h2⟩ | ⟨h1, h2⟩ | h3
  · exact h2 (hi.1 h1)
  · exact h1 (hi.2 h2)
  · exact hb h3

/-! ### what is signed -/

/-- **signed over the segment information and all earlier entries and signatures**: the
associated data of entry `idx` determines the segment info and the body and signature of every
earlier entry (so, for a signature scheme that binds its input, none of them can be changed). -/
theorem associatedData_injective (info info' : Bytes) (es es' : List SignedEntry) (idx : Nat)
    (hl : idx ≤ es.length) (hl' : idx ≤ es'.length)
    (h : associatedData info es idx = associatedData info' es' idx) :
    info = info' ∧ es.take idx = es'.take idx := by
  unfold associatedData at h
  simp only [List.cons.injEq] at h
  refine ⟨h.1, ?_⟩
  have h2 := h.2
  clear h
  induction idx generalizing es es' with
  | zero => simp
  | succ n ih =>
    rcases es with _ | ⟨⟨b, g⟩, t⟩
    · simp at hl
    rcases es' with _ | ⟨⟨b', g'⟩, t'⟩
    · simp at hl'
    simp only [List.take_succ_cons, List.flatMap_cons, List.cons_append, List.nil_append,
      List.cons.injEq] at h2 ⊢
    exact ⟨by rw [h2.1, h2.2.1], ih t t' (by simpa using hl) (by simpa using hl') h2.2.2⟩

theorem associatedData_length (info : Bytes) (es : List SignedEntry) (idx : Nat)
    (hl : idx ≤ es.length) : (associatedData info es idx).length = 1 + 2 * idx := by
  unfold associatedData
  simp only [List.length_cons, List.length_flatMap, List.length_nil, List.map_const',
    List.sum_replicate_nat, List.length_take]
  omega

/-! ### regenerated facts (T3) -/

/-- the constants and the arithmetic of the expiry encoding and the MAC input layout, as they
stand in `pkg/slayers/path` now, are the ones the model uses: `MaxTTL = 24 h`,
`expTimeUnit = MaxTTL/256`, `(expTime+1)·unit`, guards `d < unit`, `d > MaxTTL`, value
`(d·256)/MaxTTL − 1`; 6-byte MACs over a 16-byte input laid out as in `macInput`. -/
theorem gen_consts :
    Scion.Gen.Beacon.MaxTTLExpr = "24 * time.Hour" ∧
    Scion.Gen.Beacon.expTimeUnitExpr = "MaxTTL / 256" ∧
    maxTTL = 24 * 3600 * 1000000000 ∧ expTimeUnit = maxTTL / 256 ∧
    Scion.Gen.Beacon.ExpTimeToDurationGuards = [] ∧
    Scion.Gen.Beacon.ExpTimeToDurationReturn = "return (time.Duration(expTime) + 1) * expTimeUnit" ∧
    Scion.Gen.Beacon.ExpTimeFromDurationGuards = ["d < expTimeUnit", "d > MaxTTL"] ∧
    Scion.Gen.Beacon.ExpTimeFromDurationReturn = "return uint8((d*256)/MaxTTL - 1), nil" ∧
    Scion.Gen.Beacon.MacLen = 6 ∧ Scion.Gen.Beacon.MACBufferSize = 16 ∧
    (macInput 0 0 0 0 0).length = Scion.Gen.Beacon.MACBufferSize ∧
    Scion.Gen.Beacon.MACInputBody =
      ["binary.BigEndian.PutUint16(buffer[0:2], 0)", "binary.BigEndian.PutUint16(buffer[2:4], segID)",
       "binary.BigEndian.PutUint32(buffer[4:8], timestamp)", "buffer[8] = 0", "buffer[9] = expTime",
       "binary.BigEndian.PutUint16(buffer[10:12], consIngress)",
       "binary.BigEndian.PutUint16(buffer[12:14], consEgress)",
       "binary.BigEndian.PutUint16(buffer[14:16], 0)"] :=
  ⟨rfl, rfl, rfl, rfl, rfl, rfl, rfl, rfl, rfl, rfl, rfl, rfl⟩

/-! ### non-vacuity -/

def exCfg : Cfg :=
  { ia := (1, 110), mtu := 1400, maxExp := 63,
    ifs := [(1, ⟨(1, 111), 5, 1500⟩), (2, ⟨(1, 120), 7, 1472⟩)],
    mac := fun x => x }

/-- origination on interface 1 with a peer on interface 2, signer expiring 1000 s after the
timestamp: the expiry is shortened from 63 to 1 (2·337.5 s ≤ 1000 s < 3·337.5 s) -/
example :
    (match extend exCfg ⟨7, 1000, []⟩ 0 1 [2] [⟨0, 2000 * nsPerSec⟩] (1500 * nsPerSec) with
     | .ok e _ _ => (e.loc, e.next, e.hop.expTime, e.peers.map (·.peer))
     | _ => ((0, 0), (0, 0), 0, [])) = ((1, 110), (1, 111), 1, [(1, 120)]) := by decide

example : expTimeFromDuration 1000000000000 = some 1 := by decide

end Scion.C23
