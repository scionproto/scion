import Scion.Proofs.Combinator
/-! Lemmas relating the graph model (`newDMG`, `getPaths`) of `Scion.Model.Combinator` to the
specification `allJoins` / `IsJoin` (used by `Props/C28.lean`, `Props/C29.lean`). -/
namespace Scion.Combinator

/-! ### walks, and the search as the walks over the graph -/

/-- a walk from `a` to `b` along the edges `es`: every step is in `S` and leaves the vertex the
previous one reached, every segment kind is admitted by `validNextSeg` after the previous one (`k`
before the first), every vertex between two steps satisfies `P`.  The search of graph.go explores
walks over the edges of the graph (`gStep`), the joins of the specification are walks over `GStep`. -/
def Walk (S : Vertex → Edge → Vertex → Prop) (P : Vertex → Prop) :
    Option Kind → Vertex → List Edge → Vertex → Prop
  | _, _, [], _ => False
  | k, a, [e], b => S a e b ∧ validNextSeg k e.kind = true
  | k, a, e :: f :: r, b => ∃ v, S a e v ∧ validNextSeg k e.kind = true ∧ P v ∧
      Walk S P (some e.kind) v (f :: r) b

def kindRank : Option Kind → Nat
  | none => 0
  | some .up => 1
  | some .core => 2
  | some .down => 3

theorem validNext_rank {k : Option Kind} {n : Kind} (h : validNextSeg k n = true) :
    kindRank k + 1 ≤ kindRank (some n) := by
  cases k with
  | none => cases n <;> simp [kindRank]
  | some k => cases k <;> cases n <;> simp_all [validNextSeg, kindRank]

theorem Walk.cons {S P k a e v es b} (hs : S a e v) (hk : validNextSeg k e.kind = true) (hv : P v)
    (h : Walk S P (some e.kind) v es b) : Walk S P k a (e :: es) b := by
  cases es with
  | nil => exact h.elim
  | cons f r => exact ⟨v, hs, hk, hv, h⟩

theorem Walk.mono {S S' : Vertex → Edge → Vertex → Prop} {P P' : Vertex → Prop}
    (hS : ∀ {a e b}, S a e b → S' a e b) (hP : ∀ {v}, P v → P' v) {k a es b}
    (h : Walk S P k a es b) : Walk S' P' k a es b := by
  induction es generalizing k a with
  | nil => exact h
  | cons e r ih =>
    cases r with
    | nil => exact ⟨hS h.1, h.2⟩
    | cons f r => obtain ⟨v, hs, hk, hv, h⟩ := h; exact ⟨v, hS hs, hk, hP hv, ih h⟩

theorem Walk.length_le {S P k a es b} (h : Walk S P k a es b) : es.length + kindRank k ≤ 3 := by
  induction es generalizing k a with
  | nil => exact h.elim
  | cons e r ih =>
    cases r with
    | nil =>
      have := validNext_rank h.2
      have : kindRank (some e.kind) ≤ 3 := by cases e.kind <;> simp [kindRank]
      simp; omega
    | cons f r =>
      obtain ⟨_, _, hk, _, h⟩ := h
      have := validNext_rank hk
      have := ih h
      simp at this ⊢; omega

/-- the edges of a graph as a step relation -/
def gStep (g : DMG) (a : Vertex) (e : Edge) (b : Vertex) : Prop :=
  ∃ x ∈ g, x.src = a ∧ x.e = e ∧ x.dst = b

/-- the search returns the walks over the graph that meet `dst` at their end and nowhere before -/
theorem mem_bfs_walk {g : DMG} {dst : Vertex} (n : Nat) (q : List Sol) (es : List Edge) :
    es ∈ bfs g dst n q ↔ ∃ s ∈ q, ∃ c : List Edge, c.length ≤ n ∧
      Walk (gStep g) (· ≠ dst) s.kind s.cur c dst ∧ es = s.edges ++ c := by
  induction n generalizing q with
  | zero =>
    simp only [bfs, List.not_mem_nil, false_iff]
    rintro ⟨s, _, c, hc, hw, _⟩
    cases c with
    | nil => exact hw
    | cons => simp at hc
  | succ n ih =>
    unfold bfs expand
    simp only [List.mem_append, List.mem_map, List.mem_filter, List.mem_flatMap, ih, beq_iff_eq,
      bne_iff_ne, Bool.and_eq_true]
    constructor
    · rintro (⟨s', ⟨⟨s, hs, x, ⟨hx, h1, h2⟩, rfl⟩, hd⟩, rfl⟩ |
        ⟨s', ⟨⟨s, hs, x, ⟨hx, h1, h2⟩, rfl⟩, hd⟩, c, hc, hw, rfl⟩)
      · exact ⟨s, hs, [x.e], by simp, ⟨⟨x, hx, h1, rfl, hd⟩, h2⟩, rfl⟩
      · exact ⟨s, hs, x.e :: c, by simp; omega, .cons ⟨x, hx, h1, rfl, rfl⟩ h2 hd hw, by simp⟩
    · rintro ⟨s, hs, c, hc, hw, rfl⟩
      match c, hw with
      | [_], ⟨⟨x, hx, h1, rfl, h3⟩, hk⟩ =>
        exact .inl ⟨_, ⟨⟨s, hs, x, ⟨hx, h1, hk⟩, rfl⟩, h3⟩, rfl⟩
      | _ :: f :: r, ⟨_, ⟨x, hx, h1, rfl, rfl⟩, hk, hp, hw⟩ =>
        exact .inr ⟨_, ⟨⟨s, hs, x, ⟨hx, h1, hk⟩, rfl⟩, hp⟩, _, by simp at hc ⊢; omega, hw, by simp⟩

theorem mem_bfs_of_fuel {g : DMG} {src dst n : Nat} (hn : 3 ≤ n) {es : List Edge} :
    es ∈ bfs g (vIA dst) n [⟨[], vIA src, none⟩] ↔
      Walk (gStep g) (· ≠ vIA dst) none (vIA src) es (vIA dst) := by
  rw [mem_bfs_walk]
  simp only [List.mem_singleton, exists_eq_left, List.nil_append]
  exact ⟨fun ⟨c, _, hw, he⟩ => he ▸ hw, fun hw => ⟨es, by have := hw.length_le; omega, hw, rfl⟩⟩

theorem mem_getPaths {g : DMG} {src dst : Nat} {es : List Edge} :
    es ∈ getPaths g src dst ↔ Walk (gStep g) (· ≠ vIA dst) none (vIA src) es (vIA dst) :=
  mem_bfs_of_fuel (Nat.le_succ 3)

/-- more fuel finds nothing new: four rounds exhaust the queue -/
theorem bfs_fuel {g : DMG} {src dst : Nat} (n : Nat) (es : List Edge) :
    es ∈ bfs g (vIA dst) (4 + n) [⟨[], vIA src, none⟩] ↔ es ∈ getPaths g src dst :=
  (mem_bfs_of_fuel (by omega)).trans mem_getPaths.symm

/-! ### the graph holds the edges handed to `AddEdge` -/

theorem traverseSegment_eq {g g' : DMG} {s kind i} (h : traverseSegment g s kind i = some g') :
    g' = (segTuples kind (i, s)).foldl addEdge g := by
  unfold traverseSegment at h
  unfold segTuples
  split at h
  · next l f hl hf =>
    simp only [hl, hf]
    split at h <;> cases h <;> simp [*]
  · cases h

theorem traverseAll_eq {kind} {g g' : DMG} {i ss} (h : traverseAll kind g i ss = some g') :
    g' = ((indexedFrom i ss).flatMap (segTuples kind)).foldl addEdge g := by
  induction ss generalizing g i with
  | nil => simp [traverseAll] at h; simp [indexedFrom, h]
  | cons s ss ih =>
    unfold traverseAll at h
    split at h
    · cases h
    · next g1 h1 =>
      rw [ih h, traverseSegment_eq h1]
      simp [indexedFrom, List.foldl_append]

theorem newDMG_eq {ups cores downs : List Seg} {g : DMG} (h : newDMG ups cores downs = some g) :
    g = (allTuples ups cores downs).foldl addEdge [] := by
  unfold newDMG at h
  split at h
  · cases h
  · next g1 h1 =>
    split at h
    · cases h
    · next g2 h2 =>
      rw [traverseAll_eq h, traverseAll_eq h2, traverseAll_eq h1]
      simp [allTuples, List.foldl_append]

theorem mem_foldl_addEdge {l g : DMG} {x : GEdge} (h : x ∈ l.foldl addEdge g) : x ∈ g ∨ x ∈ l := by
  induction l generalizing g with
  | nil => exact .inl h
  | cons y l ih =>
    rcases ih h with h | h
    · -- `addEdge g y` holds elements of `g` and `y`
      unfold addEdge at h
      split at h
      · obtain ⟨z, hz, rfl⟩ := List.mem_map.1 h
        split
        · exact .inr List.mem_cons_self
        · exact .inl hz
      · rcases List.mem_append.1 h with h | h
        · exact .inl h
        · exact .inr (List.mem_singleton.1 h ▸ List.mem_cons_self)
    · exact .inr (List.mem_cons_of_mem _ h)

theorem foldl_addEdge_noCollision {l g : DMG} (h : NoCollision (g ++ l)) :
    l.foldl addEdge g = g ++ l := by
  induction l generalizing g with
  | nil => simp
  | cons y l ih =>
    have hy : addEdge g y = g ++ [y] := by
      unfold addEdge
      have : g.any (·.sameKey y) = false := by
        rw [List.any_eq_false]
        intro z hz
        have := (List.pairwise_append.1 h).2.2 z hz y List.mem_cons_self
        simp [this]
      simp [this]
    simp only [List.foldl_cons, hy]
    rw [ih (by simpa using h)]
    simp

theorem dmg_sound {ups cores downs : List Seg} {g : DMG} (h : newDMG ups cores downs = some g)
    {x : GEdge} (hx : x ∈ g) : x ∈ allTuples ups cores downs := by
  rw [newDMG_eq h] at hx
  rcases mem_foldl_addEdge hx with h | h
  · cases h
  · exact h

theorem dmg_complete {ups cores downs : List Seg} {g : DMG} (h : newDMG ups cores downs = some g)
    (hn : NoCollision (allTuples ups cores downs)) : g = allTuples ups cores downs := by
  rw [newDMG_eq h, foldl_addEdge_noCollision (by simpa using hn)]
  simp

theorem combineDMG_eq_some {ups cores downs : List Seg} {src dst : Nat} {all : Bool}
    {ps : List Path} :
    combineDMG ups cores downs src dst all = some ps ↔ ∃ g, newDMG ups cores downs = some g ∧
      ps = (if all then filterLongPaths (sortByWeight (pathsOf (getPaths g src dst)))
        else filterDuplicates (filterLongPaths (sortByWeight (pathsOf (getPaths g src dst))))) := by
  unfold combineDMG
  cases newDMG ups cores downs <;> simp [eq_comm]

/-! ### the edges handed to `AddEdge` are the steps of the specification -/

theorem mem_segTuples {kind : Kind} (hk : kind ≠ .core) {i : Nat} {s : Seg} {x : GEdge} :
    x ∈ segTuples kind (i, s) ↔ ∃ l, lastIA s = some l ∧ ∃ k ent, s.ents[k]? = some ent ∧
      ∃ t ∈ exitTuples s.ents.length (k, ent), tupleEdge s kind i l k t = x := by
  unfold segTuples
  cases hl : lastIA s with
  | none => exact ⟨nofun, nofun⟩
  | some l =>
    obtain ⟨f, hf⟩ := firstIA_some_iff.2 (lastIA_some_iff.1 ⟨l, hl⟩)
    simp only [hf, hk, if_false, entryTuples_eq, List.mem_flatMap, List.mem_reverse, List.mem_map,
      Prod.exists, mem_indexedFrom_zero, Option.some.injEq, exists_eq_left']

theorem mem_segTuples_core {i : Nat} {c : Seg} {x : GEdge} :
    x ∈ segTuples .core (i, c) ↔
      ∃ l f, lastIA c = some l ∧ firstIA c = some f ∧ x = ⟨vIA l, vIA f, i, ⟨c, .core, 0, 0⟩⟩ := by
  unfold segTuples
  cases hl : lastIA c with
  | none => simp
  | some l =>
    obtain ⟨f, hf⟩ := firstIA_some_iff.2 (lastIA_some_iff.1 ⟨l, hl⟩)
    simp [hf]

/-- what an edge of the graph stands for: a way to leave an up segment that ends at AS `l`, a core
segment, or a way to enter a down segment that ends at AS `l` -/

def GStep (ups cores downs : List Seg) (a : Vertex) (e : Edge) (b : Vertex) : Prop :=
  (∃ l, a = vIA l ∧ UpFrom ups l e b) ∨ CoreOf cores a e b ∨ (∃ l, b = vIA l ∧ DownTo downs l a e)

theorem allTuples_step {ups cores downs : List Seg} {x : GEdge}
    (h : x ∈ allTuples ups cores downs) : GStep ups cores downs x.src x.e x.dst := by
  unfold allTuples at h
  simp only [List.mem_append, List.mem_flatMap] at h
  rcases h with (⟨ks, hk, hx⟩ | ⟨ks, hk, hx⟩) | ⟨ks, hk, hx⟩
  · obtain ⟨l, hl, _, ent, hent, t, ht, rfl⟩ := (mem_segTuples (by decide)).1 hx
    exact .inl ⟨l, rfl, _, mem_indexedFrom_snd hk, hl, rfl, rfl, ent, hent, mem_exitTuples.1 ht⟩
  · obtain ⟨l, f, hl, hf, rfl⟩ := mem_segTuples_core.1 hx
    exact .inr (.inl ⟨_, mem_indexedFrom_snd hk, rfl, l, f, hl, hf, rfl, rfl⟩)
  · obtain ⟨l, hl, _, ent, hent, t, ht, rfl⟩ := (mem_segTuples (by decide)).1 hx
    exact .inr (.inr ⟨l, rfl, _, mem_indexedFrom_snd hk, hl, rfl, rfl, ent, hent,
      (exitAt_reverse (v := t.1.reverse)).1 (mem_exitTuples.1 ht)⟩)

theorem step_in_tuples {ups cores downs : List Seg} {a b : Vertex} {e : Edge}
    (h : GStep ups cores downs a e b) :
    gStep (allTuples ups cores downs) a e b := by
  have idx : ∀ {n : Nat} {l : List Seg} {s : Seg}, s ∈ l → ∃ k, (k, s) ∈ indexedFrom n l := by
    intro n l s hs
    obtain ⟨i, hi⟩ := List.mem_iff_getElem?.1 hs
    exact ⟨n + i, (mem_indexedFrom ..).2 ⟨Nat.le_add_right .., by simpa using hi⟩⟩
  unfold gStep allTuples
  simp only [List.mem_append, List.mem_flatMap]
  rcases h with ⟨l, rfl, u, hu, hl, hex⟩ | ⟨c, hc, rfl, l, f, hl, hf, rfl, rfl⟩ |
    ⟨l, rfl, d, hd, hl, hex⟩
  · obtain ⟨k, hk⟩ := idx (n := 0) hu
    obtain ⟨rfl, hkind, ent, hent, hex⟩ := hex
    exact ⟨_, .inl (.inl ⟨_, hk, (mem_segTuples (by decide)).2
      ⟨l, hl, _, ent, hent, (b, e.peer), mem_exitTuples.2 hex, rfl⟩⟩), rfl, by cases e; cases hkind; rfl, rfl⟩
  · obtain ⟨k, hk⟩ := idx (n := ups.length) hc
    exact ⟨_, .inl (.inr ⟨_, hk, mem_segTuples_core.2 ⟨l, f, hl, hf, rfl⟩⟩), rfl, rfl, rfl⟩
  · obtain ⟨k, hk⟩ := idx (n := ups.length + cores.length) hd
    obtain ⟨rfl, hkind, ent, hent, hex⟩ := hex
    exact ⟨_, .inr ⟨_, hk, (mem_segTuples (by decide)).2 ⟨l, hl, _, ent, hent, (a.reverse, e.peer),
      mem_exitTuples.2 (exitAt_reverse.2 hex), rfl⟩⟩, rfl, by cases e; cases hkind; rfl, rfl⟩

theorem GStep.up {ups cores downs src e v} (h : UpFrom ups src e v) :
    GStep ups cores downs (vIA src) e v := .inl ⟨src, rfl, h⟩

theorem GStep.core {ups cores downs a e b} (h : CoreOf cores a e b) :
    GStep ups cores downs a e b := .inr (.inl h)

theorem GStep.down {ups cores downs dst v e} (h : DownTo downs dst v e) :
    GStep ups cores downs v e (vIA dst) := .inr (.inr ⟨dst, rfl, h⟩)

/-- `IsJoin` whose intermediate join points are not the destination vertex (the search of
graph.go does not extend a solution that has reached the destination) -/

def IsJoinStrict (ups cores downs : List Seg) (src dst : Nat) (es : List Edge) : Prop :=
  (∃ e, es = [e] ∧ UpFrom ups src e (vIA dst)) ∨
  (∃ c, es = [c] ∧ CoreOf cores (vIA src) c (vIA dst)) ∨
  (∃ d, es = [d] ∧ DownTo downs dst (vIA src) d) ∨
  (∃ e c v, es = [e, c] ∧ v ≠ vIA dst ∧ UpFrom ups src e v ∧ CoreOf cores v c (vIA dst)) ∨
  (∃ e d v, es = [e, d] ∧ v ≠ vIA dst ∧ UpFrom ups src e v ∧ DownTo downs dst v d) ∨
  (∃ c d v, es = [c, d] ∧ v ≠ vIA dst ∧ CoreOf cores (vIA src) c v ∧ DownTo downs dst v d) ∨
  (∃ e c d v w, es = [e, c, d] ∧ v ≠ vIA dst ∧ w ≠ vIA dst ∧ UpFrom ups src e v ∧
    CoreOf cores v c w ∧ DownTo downs dst w d)

theorem IsJoinStrict.isJoin {ups cores downs : List Seg} {src dst : Nat} {es : List Edge}
    (h : IsJoinStrict ups cores downs src dst es) : IsJoin ups cores downs src dst es := by
  refine h.imp id (Or.imp id (Or.imp id (Or.imp ?_ (Or.imp ?_ (Or.imp ?_ ?_)))))
  · rintro ⟨e, c, v, h, _, h2⟩; exact ⟨e, c, v, h, h2⟩
  · rintro ⟨e, d, v, h, _, h2⟩; exact ⟨e, d, v, h, h2⟩
  · rintro ⟨c, d, v, h, _, h2⟩; exact ⟨c, d, v, h, h2⟩
  · rintro ⟨e, c, d, v, w, h, _, _, h2⟩; exact ⟨e, c, d, v, w, h, h2⟩

theorem GStep.classify {ups cores downs : List Seg} {a b : Vertex} {e : Edge}
    (h : GStep ups cores downs a e b) :
    (e.kind = .up ∧ ∀ src, a = vIA src → UpFrom ups src e b) ∨
    (e.kind = .core ∧ CoreOf cores a e b) ∨
    (e.kind = .down ∧ ∀ dst, b = vIA dst → DownTo downs dst a e) := by
  rcases h with ⟨l, rfl, hu⟩ | hc | ⟨l, rfl, hd⟩
  · exact .inl ⟨hu.kind, fun src hs => vIA_inj hs ▸ hu⟩
  · exact .inr (.inl ⟨hc.kind, hc⟩)
  · exact .inr (.inr ⟨hd.kind, fun dst hs => vIA_inj hs ▸ hd⟩)

theorem gStep_allTuples {ups cores downs : List Seg} {a b : Vertex} {e : Edge} :
    gStep (allTuples ups cores downs) a e b ↔ GStep ups cores downs a e b :=
  ⟨fun ⟨_, hx, h1, h2, h3⟩ => h1 ▸ h2 ▸ h3 ▸ allTuples_step hx, step_in_tuples⟩

/-- a strict join is a walk over the steps of the specification that meets the destination vertex
at its end and nowhere before -/
theorem isJoinStrict_iff_walk {ups cores downs : List Seg} {src dst : Nat} {es : List Edge} :
    IsJoinStrict ups cores downs src dst es ↔
      Walk (GStep ups cores downs) (· ≠ vIA dst) none (vIA src) es (vIA dst) := by
  constructor
  · rintro (⟨e, rfl, hu⟩ | ⟨c, rfl, hc⟩ | ⟨d, rfl, hd⟩ | ⟨e, c, v, rfl, hv, hu, hc⟩ |
      ⟨e, d, v, rfl, hv, hu, hd⟩ | ⟨c, d, v, rfl, hv, hc, hd⟩ |
      ⟨e, c, d, v, w, rfl, hv, hw, hu, hc, hd⟩)
    · exact ⟨.up hu, rfl⟩
    · exact ⟨.core hc, rfl⟩
    · exact ⟨.down hd, rfl⟩
    · exact .cons (.up hu) rfl hv ⟨.core hc, by rw [hu.kind, hc.kind]; rfl⟩
    · exact .cons (.up hu) rfl hv ⟨.down hd, by rw [hu.kind, hd.kind]; rfl⟩
    · exact .cons (.core hc) rfl hv ⟨.down hd, by rw [hc.kind, hd.kind]; rfl⟩
    · exact .cons (.up hu) rfl hv (.cons (.core hc) (by rw [hu.kind, hc.kind]; rfl) hw
        ⟨.down hd, by rw [hc.kind, hd.kind]; rfl⟩)
  · -- each step is of one kind; `validNextSeg` leaves the seven sequences of `IsJoinStrict`
    intro h
    have h3 := h.length_le
    match es, h with
    | [x], ⟨hx, _⟩ =>
      rcases hx.classify with ⟨_, hu⟩ | ⟨_, hc⟩ | ⟨_, hd⟩
      · exact .inl ⟨x, rfl, hu src rfl⟩
      · exact .inr (.inl ⟨x, rfl, hc⟩)
      · exact .inr (.inr (.inl ⟨x, rfl, hd dst rfl⟩))
    | [x, y], ⟨_, hx, _, hv, hy, hk⟩ =>
      rcases hx.classify with ⟨k1, hu⟩ | ⟨k1, hc⟩ | ⟨k1, _⟩ <;>
        rcases hy.classify with ⟨k2, _⟩ | ⟨k2, hc2⟩ | ⟨k2, hd2⟩ <;>
        simp [k1, k2, validNextSeg] at hk
      · exact .inr (.inr (.inr (.inl ⟨x, y, _, rfl, hv, hu src rfl, hc2⟩)))
      · exact .inr (.inr (.inr (.inr (.inl ⟨x, y, _, rfl, hv, hu src rfl, hd2 dst rfl⟩))))
      · exact .inr (.inr (.inr (.inr (.inr (.inl ⟨x, y, _, rfl, hv, hc, hd2 dst rfl⟩)))))
    | [x, y, z], ⟨_, hx, _, hv, _, hy, hk, hw, hz, hk'⟩ =>
      rcases hx.classify with ⟨k1, hu⟩ | ⟨k1, _⟩ | ⟨k1, _⟩ <;>
        rcases hy.classify with ⟨k2, _⟩ | ⟨k2, hc2⟩ | ⟨k2, _⟩ <;>
        simp [k1, k2, validNextSeg] at hk <;>
        rcases hz.classify with ⟨k3, _⟩ | ⟨k3, _⟩ | ⟨k3, hd3⟩ <;>
        simp [k2, k3, validNextSeg] at hk'
      exact .inr (.inr (.inr (.inr (.inr (.inr ⟨x, y, z, _, _, rfl, hv, hw, hu src rfl, hc2,
        hd3 dst rfl⟩)))))
    | _ :: _ :: _ :: _ :: _, _ => simp [kindRank] at h3

/-- what the search finds in the graph built from the segments is a strict join -/
theorem getPaths_strict {ups cores downs : List Seg} {g : DMG} {src dst : Nat} {es : List Edge}
    (hg : newDMG ups cores downs = some g) (h : es ∈ getPaths g src dst) :
    IsJoinStrict ups cores downs src dst es :=
  isJoinStrict_iff_walk.2 ((mem_getPaths.1 h).mono
    (fun ⟨x, hx, h⟩ => gStep_allTuples.1 ⟨x, dmg_sound hg hx, h⟩) id)

/-! ### `Path` does not panic on a join -/

def EdgeOk (e : Edge) : Prop :=
  ∃ ent, e.seg.ents[e.sc]? = some ent ∧ (e.peer = 0 ∨ ∃ k p, e.peer = k + 1 ∧ ent.peers[k]? = some p)

theorem drop_of_getElem? {α : Type} {l : List α} {i : Nat} {a : α} (h : l[i]? = some a) :
    ∃ tl, l.drop i = a :: tl := by
  obtain ⟨hi, rfl⟩ := List.getElem?_eq_some_iff.1 h
  exact ⟨_, List.drop_eq_getElem_cons hi⟩

theorem edgeOut_ok {e : Edge} (h : EdgeOk e) (m : Nat) : ∃ s m', edgeOut m e = .ok (s, m') := by
  obtain ⟨ent, hent, hp⟩ := h
  obtain ⟨tl, htl⟩ := drop_of_getElem? hent
  obtain ⟨hf, hhf⟩ : ∃ hf, headHop ent e.peer = some hf := by
    rcases hp with hp | ⟨k, p, hk, hp⟩
    · exact ⟨_, by rw [hp]; rfl⟩
    · exact ⟨_, by rw [hk]; simp only [headHop, hp]; rfl⟩
  unfold edgeOut segLoop
  simp only [htl, iter_eq, hhf]
  split <;> exact ⟨_, _, rfl⟩

theorem pathLoop_ok {es : List Edge} (h : ∀ e ∈ es, EdgeOk e) (m : Nat) :
    ∃ segs m', pathLoop m es = .ok (segs, m') ∧ segs.length = es.length := by
  induction es generalizing m with
  | nil => exact ⟨[], m, rfl, rfl⟩
  | cons e es ih =>
    obtain ⟨s, m1, h1⟩ := edgeOut_ok (h e List.mem_cons_self) m
    obtain ⟨ss, m2, h2, hl⟩ := ih (fun x hx => h x (List.mem_cons_of_mem _ hx)) m1
    exact ⟨s :: ss, m2, by simp [pathLoop, h1, h2], by simp [hl]⟩

theorem pathOf_ok {es : List Edge} (h : ∀ e ∈ es, EdgeOk e) (hl : es.length ≤ 3) :
    ∃ p, pathOf es = .ok p := by
  obtain ⟨segs, m, h1, h2⟩ := pathLoop_ok h 65535
  unfold pathOf
  simp only [h1]
  have : ¬ segs.length > 3 := by omega
  simp [this]

theorem UpFrom.edgeOk {ups src e v} (h : UpFrom ups src e v) : EdgeOk e := by
  obtain ⟨_, _, _, rfl, _, ent, hent, hp | ⟨k, p, hk, hp, _⟩⟩ := h
  · exact ⟨ent, hent, .inl hp.1⟩
  · exact ⟨ent, hent, .inr ⟨k, p, hk, hp⟩⟩

theorem DownTo.edgeOk {downs dst v e} (h : DownTo downs dst v e) : EdgeOk e := by
  obtain ⟨_, _, _, rfl, _, ent, hent, hp | ⟨k, p, hk, hp, _⟩⟩ := h
  · exact ⟨ent, hent, .inl hp.1⟩
  · exact ⟨ent, hent, .inr ⟨k, p, hk, hp⟩⟩

theorem CoreOf.edgeOk {cores a e b} (h : CoreOf cores a e b) : EdgeOk e := by
  obtain ⟨c, _, rfl, _, f, _, hf, _, _⟩ := h
  obtain ⟨t, ht, _⟩ := firstIA_eq_some.1 hf
  exact ⟨t, ht, .inl rfl⟩

theorem IsJoin.spec {ups cores downs : List Seg} {src dst : Nat} {es : List Edge}
    (h : IsJoin ups cores downs src dst es) :
    es.map (·.kind) ∈ kindShapes ∧ es.length ≤ 3 ∧ ∀ e ∈ es, EdgeOk e := by
  rcases h with ⟨e, rfl, hu⟩ | ⟨c, rfl, hc⟩ | ⟨d, rfl, hd⟩ | ⟨e, c, v, rfl, hu, hc⟩ |
    ⟨e, d, v, rfl, hu, hd⟩ | ⟨c, d, v, rfl, hc, hd⟩ | ⟨e, c, d, v, w, rfl, hu, hc, hd⟩
  · simp [kindShapes, hu.kind, hu.edgeOk]
  · simp [kindShapes, hc.kind, hc.edgeOk]
  · simp [kindShapes, hd.kind, hd.edgeOk]
  · simp [kindShapes, hu.kind, hc.kind, hu.edgeOk, hc.edgeOk]
  · simp [kindShapes, hu.kind, hd.kind, hu.edgeOk, hd.edgeOk]
  · simp [kindShapes, hc.kind, hd.kind, hc.edgeOk, hd.edgeOk]
  · simp [kindShapes, hu.kind, hc.kind, hd.kind, hu.edgeOk, hc.edgeOk, hd.edgeOk]

theorem pathOf_ok_of_join {ups cores downs : List Seg} {src dst : Nat} {es : List Edge}
    (h : IsJoin ups cores downs src dst es) : ∃ p, pathOf es = .ok p :=
  pathOf_ok h.spec.2.2 h.spec.2.1

/-! ### `NoCollision` for well-formed segments -/

/-- a segment as beaconing produces it: no AS twice, no zero IA, every peering interface announced
once per AS entry -/

def SegWF (s : Seg) : Prop :=
  s.ents.Pairwise (fun a b => a.ia ≠ b.ia) ∧
  ∀ e ∈ s.ents, e.ia ≠ 0 ∧
    e.peers.Pairwise fun p q => ¬(p.hf.inIf = q.hf.inIf ∧ p.peer = q.peer ∧ p.peerIf = q.peerIf)

/-- the vertex of a tuple of entry `ent` mentions `ent.ia` -/

def vertexHas (v : Vertex) (ia : Nat) : Prop := v.ia = ia ∨ v.upIA = ia ∨ v.downIA = ia

theorem sameKey_eq_false_iff {a b : GEdge} :
    a.sameKey b = false ↔ a.src ≠ b.src ∨ a.dst ≠ b.dst ∨ a.segIdx ≠ b.segIdx := by
  simp only [GEdge.sameKey, Bool.and_eq_false_iff, beq_eq_false_iff_ne, ne_eq, or_assoc]

theorem tupleEdge_segIdx (s : Seg) (kind : Kind) (i l k : Nat) (t : Vertex × Nat) :
    (tupleEdge s kind i l k t).segIdx = i := by
  unfold tupleEdge; split <;> rfl

theorem tupleEdge_sameKey {s : Seg} {kind : Kind} {i l k k' : Nat} {t t' : Vertex × Nat}
    (h : t.1 ≠ t'.1) :
    (tupleEdge s kind i l k t).sameKey (tupleEdge s kind i l k' t') = false := by
  rw [sameKey_eq_false_iff]
  unfold tupleEdge
  split
  · exact .inl fun heq => h (congrArg Vertex.reverse heq)
  · exact .inr (.inl h)

/-- the vertex of a tuple names the AS of its entry: as `ia`, or as `upIA` of a peering vertex -/

theorem exitTuples_owner {len k : Nat} {ent : ASE} {t : Vertex × Nat} (h0 : ent.ia ≠ 0)
    (h : t ∈ exitTuples len (k, ent)) : (if t.1.ia ≠ 0 then t.1.ia else t.1.upIA) = ent.ia := by
  rcases mem_exitTuples.1 h with ⟨_, _, hv⟩ | ⟨_, _, _, _, hv⟩ <;> rw [hv] <;>
    simp [vIA, vPeering, h0]

theorem exitTuples_pairwise {len k : Nat} {ent : ASE} (h0 : ent.ia ≠ 0)
    (hp : ent.peers.Pairwise fun p q => ¬(p.hf.inIf = q.hf.inIf ∧ p.peer = q.peer ∧ p.peerIf = q.peerIf)) :
    (exitTuples len (k, ent)).Pairwise fun a b => a.1 ≠ b.1 := by
  unfold exitTuples
  rw [List.pairwise_append]
  refine ⟨by split <;> simp, ?_, ?_⟩
  · rw [List.pairwise_map]
    refine (indexedFrom_pairwise_snd hp 0).imp fun hab heq => hab ?_
    simpa [vPeering] using heq
  · intro a ha b hb
    split at ha
    · obtain ⟨kp, _, rfl⟩ := List.mem_map.1 hb
      cases List.mem_singleton.1 ha
      exact fun h => h0 (congrArg Vertex.ia h)
    · cases ha

theorem segTuples_idx {kind : Kind} {i : Nat} {s : Seg} {x : GEdge} (h : x ∈ segTuples kind (i, s)) :
    x.segIdx = i := by
  unfold segTuples at h
  split at h
  · split at h
    · simp at h; subst h; rfl
    · simp only [List.mem_flatMap, entryTuples_eq, List.mem_map] at h
      obtain ⟨_, _, t, _, rfl⟩ := h
      exact tupleEdge_segIdx ..
  · cases h

theorem segTuples_pairwise {kind : Kind} {i : Nat} {s : Seg} (hw : SegWF s) :
    (segTuples kind (i, s)).Pairwise fun a b => a.sameKey b = false := by
  unfold segTuples
  split
  · split
    · simp
    · rw [List.pairwise_flatMap]
      constructor
      · rintro ⟨k, ent⟩ ha
        have hm := hw.2 ent (mem_indexedFrom_snd (List.mem_reverse.1 ha))
        rw [entryTuples_eq, List.pairwise_map]
        exact (exitTuples_pairwise hm.1 hm.2).imp tupleEdge_sameKey
      · rw [List.pairwise_reverse]
        refine (List.Pairwise.and_mem.1 (indexedFrom_pairwise_snd hw.1 0)).imp ?_
        rintro ⟨k, e⟩ ⟨k', e'⟩ ⟨hm, hm', hne⟩ x hx y hy
        obtain ⟨t, ht, rfl⟩ := List.mem_map.1 hx
        obtain ⟨t', ht', rfl⟩ := List.mem_map.1 hy
        -- entries with different IAs have different tuple vertices
        refine tupleEdge_sameKey fun heq => hne ?_
        rw [← exitTuples_owner (hw.2 _ (mem_indexedFrom_snd hm)).1 ht',
          ← exitTuples_owner (hw.2 _ (mem_indexedFrom_snd hm')).1 ht, heq]
  · exact List.Pairwise.nil

theorem flatMap_segTuples_pairwise {kind : Kind} (n : Nat) (l : List Seg)
    (hw : ∀ s ∈ l, SegWF s) :
    ((indexedFrom n l).flatMap (segTuples kind)).Pairwise fun a b => a.sameKey b = false := by
  rw [List.pairwise_flatMap]
  constructor
  · rintro ⟨k, s⟩ hks
    exact segTuples_pairwise (hw s (mem_indexedFrom_snd hks))
  · refine (indexedFrom_pairwise l n).imp ?_
    rintro ⟨k, s⟩ ⟨k', s'⟩ hlt x hx y hy
    rw [sameKey_eq_false_iff, segTuples_idx hx, segTuples_idx hy]
    exact .inr (.inr (Nat.ne_of_lt hlt))

theorem flatMap_segTuples_idx {kind : Kind} {n : Nat} {l : List Seg} {x : GEdge}
    (h : x ∈ (indexedFrom n l).flatMap (segTuples kind)) : n ≤ x.segIdx ∧ x.segIdx < n + l.length := by
  simp only [List.mem_flatMap, Prod.exists] at h
  obtain ⟨k, s, hks, hx⟩ := h
  obtain ⟨hk, hs⟩ := (mem_indexedFrom ..).1 hks
  have := (List.getElem?_eq_some_iff.1 hs).1
  rw [segTuples_idx hx]
  omega

/-- segments as beaconing produces them never make `AddEdge` overwrite an edge -/

theorem noCollision_of_wf {ups cores downs : List Seg}
    (hw : ∀ s ∈ ups ++ cores ++ downs, SegWF s) : NoCollision (allTuples ups cores downs) := by
  unfold NoCollision allTuples
  rw [List.pairwise_append, List.pairwise_append]
  refine ⟨⟨flatMap_segTuples_pairwise _ _ (fun s hs => hw s (by simp [hs])),
    flatMap_segTuples_pairwise _ _ (fun s hs => hw s (by simp [hs])), ?_⟩,
    flatMap_segTuples_pairwise _ _ (fun s hs => hw s (by simp [hs])), ?_⟩
  · intro a ha b hb
    have := flatMap_segTuples_idx ha
    have := flatMap_segTuples_idx hb
    exact sameKey_eq_false_iff.2 (.inr (.inr (by omega)))
  · intro a ha b hb
    have := flatMap_segTuples_idx hb
    refine sameKey_eq_false_iff.2 (.inr (.inr ?_))
    rcases List.mem_append.1 ha with ha | ha <;> have := flatMap_segTuples_idx ha <;> omega

/-! ### joins through the destination vertex are long -/

/-- number of interface entries of AS `x` in an interface list (what `filterLongPaths` counts) -/

def cnt (x : Nat) (l : List Iface) : Nat := (l.map (·.ia)).count x

theorem cnt_append (x : Nat) (a b : List Iface) : cnt x (a ++ b) = cnt x a + cnt x b := by
  simp [cnt, List.count_append]

theorem isLong_of_cnt {x : Nat} {l : List Iface} (h : 3 ≤ cnt x l) : isLong l = true := by
  cases hl : isLong l with
  | true => rfl
  | false => have := (isLong_false_iff l).1 hl x; unfold cnt at h; omega

/-- non-zero interface ids where a link exists: the last entry has an ingress, every other entry an
egress, and a segment has at least two entries -/

def IfWF (s : Seg) : Prop :=
  2 ≤ s.ents.length ∧ (∀ t, s.ents.getLast? = some t → t.hf.inIf ≠ 0) ∧
  ∀ (i : Nat) (ent : ASE), s.ents[i]? = some ent → i + 1 ≠ s.ents.length → ent.hf.egIf ≠ 0

/-- an edge without peer entry leaving/entering at entry `ent` (not the last one): the AS of `ent`
is counted once (its egress), the last AS of the segment once (its ingress), separately -/

theorem edgeOut_cnt_ends {mtu : Nat} {e : Edge} {s : SegOut} {m : Nat} {ent : ASE} {l : Nat}
    (hw : IfWF e.seg) (ho : edgeOut mtu e = .ok (s, m)) (hp : e.peer = 0)
    (hent : e.seg.ents[e.sc]? = some ent) (hne : e.sc + 1 ≠ e.seg.ents.length)
    (hl : lastIA e.seg = some l) (x : Nat) :
    (if ent.ia = x then 1 else 0) + (if l = x then 1 else 0) ≤ cnt x s.intfs := by
  obtain ⟨last, hlast, rfl⟩ := lastIA_eq_some.1 hl
  obtain ⟨tl, hd⟩ := drop_of_getElem? hent
  have hlt : ¬ e.seg.ents.length ≤ e.sc + 1 := by
    have := (List.getElem?_eq_some_iff.1 hent).1; omega
  have htl : last ∈ tl := by
    have : e.seg.ents.drop (e.sc + 1) = tl := by rw [← List.drop_drop, hd]; rfl
    rw [← this]
    apply List.mem_of_getLast?
    rw [List.getLast?_drop, if_neg hlt, hlast]
  -- the interfaces in construction direction: (ingress of `ent`,) egress of `ent`, then `tl`
  have h1 := (edgeOut_spec ho).2.2.1
  simp only [consIfaces, hd, hp, headHop, Option.map_some, Option.some.injEq] at h1
  have hc : cnt x s.intfs = cnt x (if e.kind = .down then s.intfs else s.intfs.reverse) := by
    split <;> simp [cnt]
  rw [hc, ← h1, cnt_append, cnt_append]
  have h2 : (if ent.ia = x then 1 else 0) ≤ cnt x (nz ent.ia ent.hf.egIf) := by
    split
    · next hx => simp [cnt, nz, hw.2.2 _ _ hent hne, hx]
    · exact Nat.zero_le _
  have h3 : (if last.ia = x then 1 else 0) ≤
      cnt x (tl.flatMap fun t => nz t.ia t.hf.inIf ++ nz t.ia t.hf.egIf) := by
    split
    · next hx =>
      refine List.one_le_count_iff.2 (List.mem_map.2 ⟨⟨last.ia, last.hf.inIf⟩, ?_, hx⟩)
      exact List.mem_flatMap.2 ⟨last, htl, by simp [nz, hw.2.1 _ hlast]⟩
    · exact Nat.zero_le _
  omega

def CntGe (z : Nat) (e : Edge) (n : Nat) : Prop :=
  ∀ m s m', edgeOut m e = .ok (s, m') → n ≤ cnt z s.intfs

theorem GStep.cnt {ups cores downs : List Seg} (hw : ∀ s ∈ ups ++ cores ++ downs, SegWF s ∧ IfWF s)
    {a b : Vertex} {e : Edge} (h : GStep ups cores downs a e b) {x y : Nat} (ha : a = vIA x)
    (hb : b = vIA y) (z : Nat) :
    CntGe z e ((if x = z then 1 else 0) + (if y = z then 1 else 0)) := by
  intro m s m' ho
  rcases h with ⟨l, rfl, u, hu, hl, rfl, _, ent, hent, ⟨hp, hne, rfl⟩ | ⟨k, p, _, _, rfl⟩⟩ |
    ⟨c, hc, rfl, l, f, hl, hf, rfl, rfl⟩ |
    ⟨l, rfl, d, hd, hl, rfl, _, ent, hent, ⟨hp, hne, rfl⟩ | ⟨k, p, _, _, rfl⟩⟩
  · have := edgeOut_cnt_ends (hw _ (by simp [hu])).2 ho hp hent hne hl z
    rw [vIA_inj ha, vIA_inj hb] at this
    omega
  · exact absurd (congrArg Vertex.upIA hb) ((hw _ (by simp [hu])).1.2 _ (List.mem_of_getElem? hent)).1
  · obtain ⟨first, hfirst, hfia⟩ := firstIA_eq_some.1 hf
    have hwc := (hw c (by simp [hc])).2
    have := edgeOut_cnt_ends (e := ⟨c, .core, 0, 0⟩) hwc ho rfl hfirst
      (by have := hwc.1; show 0 + 1 ≠ c.ents.length; omega) hl z
    rw [hfia, vIA_inj ha, vIA_inj hb] at this
    omega
  · have := edgeOut_cnt_ends (hw _ (by simp [hd])).2 ho hp hent hne hl z
    rwa [vIA_inj ha, vIA_inj hb] at this
  · exact absurd (congrArg Vertex.downIA ha)
      ((hw _ (by simp [hd])).1.2 _ (List.mem_of_getElem? hent)).1

theorem pathOf_cnt {es : List Edge} {p : Path} (h : pathOf es = .ok p) {z : Nat} {ns : List Nat}
    (hb : Rel2 (CntGe z) es ns) : ns.sum ≤ cnt z p.intfs := by
  obtain ⟨segs, _, hl, -, rfl⟩ := pathOf_ok_iff.1 h
  have hr := (pathLoop_spec hl).1
  dsimp only
  clear hl h
  induction hr generalizing ns with
  | nil => cases hb; exact Nat.zero_le _
  | cons he _ ih =>
    obtain ⟨_, _, he⟩ := he
    cases hb with
    | cons h1 hb =>
      simp only [List.sum_cons, List.flatMap_cons, cnt_append]
      exact Nat.add_le_add (h1 _ _ _ he) (ih hb)

theorem CoreOf.ends {cores a e b} (h : CoreOf cores a e b) : ∃ l f, a = vIA l ∧ b = vIA f := by
  obtain ⟨_, _, _, l, f, _, _, ha, hb⟩ := h; exact ⟨l, f, ha, hb⟩

/-- a join either avoids the destination vertex at its intermediate join points, or its path has at
least three interface entries of the destination AS (it enters, leaves and re-enters it).
`hdst` is not used: `SegWF` already excludes the zero IA. -/

theorem join_strict_or_long {ups cores downs : List Seg} {src dst : Nat} {es : List Edge} {p : Path}
    (hdst : dst ≠ 0) (hw : ∀ s ∈ ups ++ cores ++ downs, SegWF s ∧ IfWF s)
    (hj : IsJoin ups cores downs src dst es) (hp : pathOf es = .ok p) :
    IsJoinStrict ups cores downs src dst es ∨ isLong p.intfs = true := by
  -- a segment between the AS vertices of `x`, `y` has `[x = dst] + [y = dst]` interfaces of `dst`
  have long : ∀ {ns}, Rel2 (CntGe dst) es ns → 3 ≤ ns.sum → isLong p.intfs = true :=
    fun hb h3 => isLong_of_cnt (Nat.le_trans h3 (pathOf_cnt hp hb))
  have up : ∀ {e y}, UpFrom ups src e (vIA y) → CntGe dst e _ :=
    fun h => (GStep.up h).cnt hw rfl rfl dst
  have co : ∀ {x c y}, CoreOf cores (vIA x) c (vIA y) → CntGe dst c _ :=
    fun h => (GStep.core h).cnt hw rfl rfl dst
  have dn : ∀ {x d}, DownTo downs dst (vIA x) d → CntGe dst d _ :=
    fun h => (GStep.down h).cnt hw rfl rfl dst
  rcases hj with h | h | h | ⟨e, c, v, rfl, hu, hc⟩ | ⟨e, d, v, rfl, hu, hd⟩ |
    ⟨c, d, v, rfl, hc, hd⟩ | ⟨e, c, d, v, w, rfl, hu, hc, hd⟩
  · exact .inl (.inl h)
  · exact .inl (.inr (.inl h))
  · exact .inl (.inr (.inr (.inl h)))
  · by_cases hv : v = vIA dst
    · subst hv
      exact .inr (long (.cons (up hu) (.cons (co hc) .nil)) (by simp))
    · exact .inl (.inr (.inr (.inr (.inl ⟨e, c, v, rfl, hv, hu, hc⟩))))
  · by_cases hv : v = vIA dst
    · subst hv
      exact .inr (long (.cons (up hu) (.cons (dn hd) .nil)) (by simp))
    · exact .inl (.inr (.inr (.inr (.inr (.inl ⟨e, d, v, rfl, hv, hu, hd⟩)))))
  · by_cases hv : v = vIA dst
    · subst hv
      exact .inr (long (.cons (co hc) (.cons (dn hd) .nil)) (by simp))
    · exact .inl (.inr (.inr (.inr (.inr (.inr (.inl ⟨c, d, v, rfl, hv, hc, hd⟩))))))
  · obtain ⟨l, f, rfl, rfl⟩ := hc.ends
    by_cases hv : vIA l = vIA dst
    · cases vIA_inj hv
      exact .inr (long (.cons (up hu) (.cons (co hc) (.cons (dn hd) .nil))) (by simp; omega))
    by_cases hw' : vIA f = vIA dst
    · cases vIA_inj hw'
      exact .inr (long (.cons (up hu) (.cons (co hc) (.cons (dn hd) .nil))) (by simp; omega))
    · exact .inl (.inr (.inr (.inr (.inr (.inr (.inr ⟨e, c, d, _, _, rfl, hv, hw', hu, hc, hd⟩))))))

end Scion.Combinator
