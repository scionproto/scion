import Scion.Proofs.Stores
import Scion.Gen.StoresFacts
/-!
# C27 — Beacon and path databases behave like their abstract stores

Property theorems only.  `Scion.Model.Stores` is the abstract store of the statement (a list of
records with distinct segment ids + a next-query map); the theorems below are facts about it for
**all** states / histories.  The SQLite implementations (`private/storage/path/sqlite`,
`private/storage/beacon/sqlite`) are tied to it by differential histories only
(`harness/cmd/stores`): SQL itself is not proved — the property is labelled *partial*.
-/
namespace Scion.C27
open Scion.Stores

/-! ## Path-segment store: reachable states -/

def PReachable (s : PathStore) : Prop := ∃ ops tick, s = (prun PathStore.empty tick ops).1

theorem pwf_step (s : PathStore) (tick : Nat) (op : POp) (h : PWF s.segs) :
    PWF (pstep s tick op).1.segs := by
  cases op with
  | insert x t g => exact pwf_insert s.segs x t g tick h
  | delExpired now => exact pwf_filter s.segs _ h
  | delSeg pre => exact pwf_filter s.segs _ h
  | _ => exact h

theorem pwf_run (ops : List POp) (s : PathStore) (tick : Nat) (h : PWF s.segs) :
    PWF (prun s tick ops).1.segs := by
  induction ops generalizing s tick with
  | nil => exact h
  | cons op rest ih => exact ih _ _ (pwf_step s tick op h)

/-- **the store is a map**: in every reachable state segment ids are pairwise distinct and
    every record carries at least one type and one group (so it is visible to queries) -/
theorem reachable_is_map {s : PathStore} (h : PReachable s) : PWF s.segs := by
  obtain ⟨ops, tick, rfl⟩ := h
  exact pwf_run ops _ tick ⟨List.Pairwise.nil, fun _ hr => nomatch hr⟩

/-! ## Insertion -/

/-- an unknown segment id is inserted with exactly its type and groups (group 0 when none) -/
theorem insert_new (segs : List SegRec) (x : SegIn) (type : Nat) (groups : List Nat) (tick : Nat)
    (h : findSeg segs x.id = none) :
    (insertSeg segs x type groups tick).2 = ⟨1, 0⟩ ∧
    findSeg (insertSeg segs x type groups tick).1 x.id = some (newRec x type groups tick) ∧
    (∀ id, id ≠ x.id → findSeg (insertSeg segs x type groups tick).1 id = findSeg segs id) ∧
    (∀ g, g ∈ (newRec x type groups tick).groups ↔ (if groups = [] then g = 0 else g ∈ groups)) := by
  unfold insertSeg
  simp only [h]
  refine ⟨trivial, ?_, ?_, ?_⟩
  · rw [findSeg_append, h]; simp [findSeg, newRec]
  · intro id hid
    rw [findSeg_append]
    simp [findSeg, newRec, hid.symm]
  · intro g
    simp only [newRec, mem_addAll]
    cases groups <;> simp

/-- **a strictly newer version replaces the stored one and adds its type and groups**; every
    other segment is untouched -/
theorem newer_replaces_and_accumulates (segs : List SegRec) (x : SegIn) (type : Nat)
    (groups : List Nat) (tick : Nat) (old : SegRec)
    (h : findSeg segs x.id = some old) (hnew : old.ver < x.ver) :
    (insertSeg segs x type groups tick).2 = ⟨0, 1⟩ ∧
    (∃ r, findSeg (insertSeg segs x type groups tick).1 x.id = some r ∧
      r.id = x.id ∧ r.full = x.full ∧ r.ver = x.ver ∧ r.maxExp = x.maxExp ∧ r.lu = tick ∧
      r.first = old.first ∧ r.last = old.last ∧
      r.intfs = (if x.full = old.full then old.intfs else x.intfs) ∧
      (∀ t, t ∈ r.types ↔ t ∈ old.types ∨ t = type) ∧
      (∀ g, g ∈ r.groups ↔ g ∈ old.groups ∨ g ∈ groups)) ∧
    (∀ id, id ≠ x.id → findSeg (insertSeg segs x type groups tick).1 id = findSeg segs id) := by
  unfold insertSeg
  have hnle : ¬ x.ver ≤ old.ver := by omega
  simp only [h, hnle, if_false]
  have hf : ∀ r : SegRec, (if r.id = x.id then updRec r x type groups tick else r).id = r.id := by
    intro r; split <;> simp [updRec]
  have hid : old.id = x.id := (findSeg_mem segs x.id old h).2
  refine ⟨trivial, ?_, ?_⟩
  · refine ⟨updRec old x type groups tick, ?_, ?_⟩
    · rw [findSeg_map segs _ hf, h]; simp [hid]
    · exact ⟨hid, rfl, rfl, rfl, rfl, rfl, rfl, rfl, fun t => mem_addOne _ _ _,
        fun g => mem_addAll _ _ _⟩
  · intro id hne
    rw [findSeg_map segs _ hf]
    cases hs : findSeg segs id with
    | none => rfl
    | some r => simp [(findSeg_mem segs id r hs).2, hne]

/-- **an equal or older version is ignored**: nothing changes, not even types or groups -/
theorem older_ignored (segs : List SegRec) (x : SegIn) (type : Nat) (groups : List Nat)
    (tick : Nat) (old : SegRec) (h : findSeg segs x.id = some old) (hold : x.ver ≤ old.ver) :
    insertSeg segs x type groups tick = (segs, ⟨0, 0⟩) := by
  unfold insertSeg
  simp [h, hold]

/-! ## Queries -/

theorem mem_selTypes (p : Params) (r : SegRec) (t : Nat) :
    t ∈ selTypes p r ↔ t ∈ r.types ∧ (p.segTypes = [] ∨ t ∈ p.segTypes) := by
  unfold selTypes
  cases hp : p.segTypes with
  | nil => simp
  | cons a l => simp

theorem mem_selGroups (p : Params) (r : SegRec) (g : Nat) :
    g ∈ selGroups p r ↔ g ∈ r.groups ∧ (p.groups = [] ∨ g ∈ p.groups) := by
  unfold selGroups
  cases hp : p.groups with
  | nil => simp
  | cons a l => simp

/-- the row-level filters, spelled out: each non-empty filter list must have a matching
    element (ids exactly, interfaces among the segment's interfaces, start/end ISD-AS with a
    zero AS acting as ISD wildcard) -/
theorem rowMatches_iff (p : Params) (r : SegRec) :
    rowMatches p r = true ↔
      (p.segIDs = [] ∨ r.id ∈ p.segIDs) ∧
      (p.intfs = [] ∨ ∃ i ∈ p.intfs, i ∈ r.intfs) ∧
      (p.startsAt = [] ∨ ∃ q ∈ p.startsAt, matchIA q r.first = true) ∧
      (p.endsAt = [] ∨ ∃ q ∈ p.endsAt, matchIA q r.last = true) := by
  simp [rowMatches, List.isEmpty_iff, List.any_eq_true, and_assoc]

theorem matchIA_iff (q a : IA) :
    matchIA q a = true ↔ (if q.as = 0 then q.isd = a.isd else q = a) := by
  unfold matchIA
  split <;> simp

/-- **queries return exactly the stored entries matching all filters**: an entry is returned
    iff it is the image of a stored record that passes the row filters, has at least one group
    passing the group filter, and of one of its types passing the type filter; the entry carries
    the record's current version and exactly the passing groups -/
theorem query_exact (segs : List SegRec) (p : Params) (e : Entry) :
    e ∈ getSegs segs p ↔
      ∃ r ∈ segs, rowMatches p r = true ∧ selGroups p r ≠ [] ∧ e.type ∈ selTypes p r ∧
        e = ⟨r.id, r.full, r.ver, r.maxExp, e.type, selGroups p r, r.lu⟩ := by
  unfold getSegs
  rw [List.mem_flatMap]
  constructor
  · rintro ⟨r, hr, he⟩
    unfold entriesOf at he
    split at he
    · rename_i hc
      simp only [Bool.and_eq_true, Bool.not_eq_true', List.isEmpty_eq_false_iff] at hc
      obtain ⟨t, ht, rfl⟩ := List.mem_map.mp he
      exact ⟨r, hr, hc.1, hc.2, ht, rfl⟩
    · cases he
  · rintro ⟨r, hr, hm, hg, ht, he⟩
    refine ⟨r, hr, ?_⟩
    unfold entriesOf
    have : (rowMatches p r && !(selGroups p r).isEmpty) = true := by
      simp [hm, hg]
    rw [if_pos this, he]
    exact List.mem_map.mpr ⟨e.type, ht, rfl⟩

/-- in a reachable store nothing is hidden from the unfiltered query: every stored record is
    returned once per type -/
theorem getAll_complete {s : PathStore} (h : PReachable s) (r : SegRec) (hr : r ∈ s.segs)
    (t : Nat) (ht : t ∈ r.types) :
    ⟨r.id, r.full, r.ver, r.maxExp, t, r.groups, r.lu⟩ ∈ getSegs s.segs Params.all := by
  rw [query_exact]
  have hwf := (reachable_is_map h).2 r hr
  refine ⟨r, hr, by simp [rowMatches, Params.all], ?_, ?_, ?_⟩
  · simpa [selGroups, Params.all] using hwf.2
  · simpa [selTypes, Params.all] using ht
  · simp [selGroups, Params.all]

/-! ## Clean-up and deletion -/

/-- **clean-up removes exactly the expired entries** (`MaxExpiry < now`) and reports their
    number -/
theorem cleanup_exact (segs : List SegRec) (now : Nat) :
    (∀ r, r ∈ (deleteExpiredSegs segs now).1 ↔ r ∈ segs ∧ now ≤ r.maxExp) ∧
    (deleteExpiredSegs segs now).2 = (segs.filter (fun r => decide (r.maxExp < now))).length ∧
    (deleteExpiredSegs segs now).2 + (deleteExpiredSegs segs now).1.length = segs.length := by
  refine ⟨?_, ?_, ?_⟩
  · intro r
    simp [deleteExpiredSegs, List.mem_filter]
  · simp [deleteExpiredSegs, List.countP_eq_length_filter]
  · rw [List.length_eq_countP_add_countP (fun r => decide (r.maxExp < now)) (l := segs)]
    -- without `Nat.not_lt` the complement stays `¬ maxExp < now`, as the filter has it
    simp [deleteExpiredSegs, List.countP_eq_length_filter, -Nat.not_lt]

theorem delete_exact (segs : List SegRec) (pre : ID) (r : SegRec) :
    r ∈ deleteSegs segs pre ↔ r ∈ segs ∧ hasPrefix pre r.id = false := by
  simp [deleteSegs, List.mem_filter]

/-! ## Next-query map -/

theorem insertNQ_spec (nq : List (NQKey × Nat)) (k : NQKey) (t : Nat) :
    ((insertNQ nq k t).2 = true ↔ (findNQ nq k = none ∨ ∃ old, findNQ nq k = some old ∧ old < t)) ∧
    findNQ (insertNQ nq k t).1 k = (if (insertNQ nq k t).2 then some t else findNQ nq k) ∧
    (∀ k', k' ≠ k → findNQ (insertNQ nq k t).1 k' = findNQ nq k') := by
  unfold insertNQ
  cases h : findNQ nq k with
  | none =>
    refine ⟨by simp, by simp [findNQ], ?_⟩
    intro k' hk
    simp [findNQ, hk.symm]
  | some old =>
    by_cases hlt : old < t
    · simp only [hlt, if_true]
      refine ⟨by simp [hlt], by simp [findNQ], ?_⟩
      intro k' hk
      simp [findNQ, hk.symm, findNQ_filter_ne nq k k' hk]
    · simp only [hlt, if_false]
      refine ⟨by simp [hlt], by simp [h], by simp⟩

theorem nextquery_step (s : PathStore) (tick : Nat) (op : POp) (k : NQKey) (t : Nat)
    (h : findNQ s.nq k = some t) : ∃ t', findNQ (pstep s tick op).1.nq k = some t' ∧ t ≤ t' := by
  cases op with
  | insertNQ k' t' =>
    simp only [pstep]
    obtain ⟨hacc, hself, hother⟩ := insertNQ_spec s.nq k' t'
    by_cases hk : k = k'
    · subst hk
      rw [hself]
      by_cases hb : (insertNQ s.nq k t').2 = true
      · rcases hacc.mp hb with hn | ⟨old, ho, hlt⟩
        · rw [h] at hn; cases hn
        · rw [h] at ho; cases ho
          exact ⟨t', by simp [hb], by omega⟩
      · exact ⟨t, by simp [hb, h], Nat.le_refl _⟩
    · exact ⟨t, by rw [hother k hk]; exact h, Nat.le_refl _⟩
  | _ => exact ⟨t, h, Nat.le_refl _⟩

/-- **a stored next-query time never decreases**, whatever history follows -/
theorem nextquery_monotone (ops : List POp) (s : PathStore) (tick : Nat) (k : NQKey) (t : Nat)
    (h : findNQ s.nq k = some t) :
    ∃ t', findNQ (prun s tick ops).1.nq k = some t' ∧ t ≤ t' := by
  induction ops generalizing s tick t with
  | nil => exact ⟨t, h, Nat.le_refl _⟩
  | cons op rest ih =>
    obtain ⟨t1, h1, hle1⟩ := nextquery_step s tick op k t h
    obtain ⟨t2, h2, hle2⟩ := ih _ (tick + 1) t1 h1
    exact ⟨t2, h2, Nat.le_trans hle1 hle2⟩

/-! ## Versions along histories -/

def isDelete : POp → Bool
  | .delExpired _ => true
  | .delSeg _ => true
  | _ => false

theorem version_step (s : PathStore) (tick : Nat) (op : POp) (hop : isDelete op = false)
    (r : SegRec) (h : findSeg s.segs r.id = some r) :
    ∃ r', findSeg (pstep s tick op).1.segs r.id = some r' ∧ r.ver ≤ r'.ver ∧
      (∀ t ∈ r.types, t ∈ r'.types) ∧ (∀ g ∈ r.groups, g ∈ r'.groups) := by
  have keep : ∃ r', findSeg s.segs r.id = some r' ∧ r.ver ≤ r'.ver ∧
      (∀ t ∈ r.types, t ∈ r'.types) ∧ (∀ g ∈ r.groups, g ∈ r'.groups) :=
    ⟨r, h, Nat.le_refl _, fun _ ht => ht, fun _ hg => hg⟩
  cases op with
  | delExpired now => cases hop
  | delSeg pre => cases hop
  | insert x ty g =>
    simp only [pstep]
    by_cases hid : r.id = x.id
    · rw [hid] at h ⊢
      by_cases hv : x.ver ≤ r.ver
      · rw [older_ignored s.segs x ty g tick r h hv]
        exact hid ▸ keep
      · obtain ⟨_, ⟨r', hr', _, _, hver, _, _, _, _, _, hty, hgr⟩, _⟩ :=
          newer_replaces_and_accumulates s.segs x ty g tick r h (by omega)
        exact ⟨r', hr', by omega, fun t ht => (hty t).mpr (Or.inl ht),
          fun g' hg' => (hgr g').mpr (Or.inl hg')⟩
    · cases hx : findSeg s.segs x.id with
      | none =>
        rw [(insert_new s.segs x ty g tick hx).2.2.1 r.id hid]
        exact keep
      | some old =>
        by_cases hv : x.ver ≤ old.ver
        · rw [older_ignored s.segs x ty g tick old hx hv]
          exact keep
        · rw [(newer_replaces_and_accumulates s.segs x ty g tick old hx (by omega)).2.2 r.id hid]
          exact keep
  | _ => exact keep

/-- **versions, types and groups only grow**: along any history without deletions the stored
    version of a segment never decreases and none of its types or groups is lost -/
theorem version_monotone (ops : List POp) (hops : ∀ op ∈ ops, isDelete op = false)
    (s : PathStore) (tick : Nat) (r : SegRec) (h : findSeg s.segs r.id = some r) :
    ∃ r', findSeg (prun s tick ops).1.segs r.id = some r' ∧ r.ver ≤ r'.ver ∧
      (∀ t ∈ r.types, t ∈ r'.types) ∧ (∀ g ∈ r.groups, g ∈ r'.groups) := by
  induction ops generalizing s tick r with
  | nil => exact ⟨r, h, Nat.le_refl _, fun _ ht => ht, fun _ hg => hg⟩
  | cons op rest ih =>
    obtain ⟨r1, h1, hv1, ht1, hg1⟩ :=
      version_step s tick op (hops op (by simp)) r h
    have hid : r1.id = r.id := (findSeg_mem _ _ _ h1).2
    rw [← hid] at h1
    obtain ⟨r2, h2, hv2, ht2, hg2⟩ :=
      ih (fun o ho => hops o (by simp [ho])) _ (tick + 1) r1 h1
    rw [hid] at h2
    exact ⟨r2, h2, Nat.le_trans hv1 hv2, fun t ht => ht2 t (ht1 t ht), fun g hg => hg2 g (hg1 g hg)⟩

/-! ## Beacon store -/

def BReachable (s : BeaconStore) : Prop := ∃ ops tick, s = (brun [] tick ops).1

theorem bdistinct_step (s : BeaconStore) (tick : Nat) (op : BOp) (h : BDistinct s) :
    BDistinct (bstep s tick op).1 := by
  cases op with
  | insert b i u => exact bdistinct_insert s b i u tick h
  | delExpired now => exact List.Pairwise.filter _ h
  | del pre => exact List.Pairwise.filter _ h
  | _ => exact h

/-- the beacon store is a map as well: ids are distinct in every reachable state -/
theorem beacon_reachable_is_map {s : BeaconStore} (h : BReachable s) : BDistinct s := by
  obtain ⟨ops, tick, rfl⟩ := h
  suffices ∀ s, BDistinct s → BDistinct (brun s tick ops).1 from this [] .nil
  induction ops generalizing tick with
  | nil => exact fun s h => h
  | cons op rest ih => exact fun s h => ih _ _ (bdistinct_step s tick op h)

theorem beacon_insert_new (s : BeaconStore) (b : BIn) (i u tick : Nat) (h : findB s b.id = none) :
    (insertBeacon s b i u tick).2 = ⟨1, 0⟩ ∧
    findB (insertBeacon s b i u tick).1 b.id = some (mkB b i u tick) ∧
    (∀ id, id ≠ b.id → findB (insertBeacon s b i u tick).1 id = findB s id) := by
  unfold insertBeacon
  simp only [h]
  refine ⟨trivial, ?_, ?_⟩
  · rw [findB_append, h]; simp [findB, mkB]
  · intro id hid
    rw [findB_append]
    simp [findB, mkB, hid.symm]

/-- a beacon with a strictly newer segment timestamp replaces the stored one (all columns:
    payload, ingress interface, length, expiry, usage) -/
theorem beacon_newer_replaces (s : BeaconStore) (b : BIn) (i u tick : Nat) (old : BRec)
    (h : findB s b.id = some old) (hnew : old.info < b.info) :
    (insertBeacon s b i u tick).2 = ⟨0, 1⟩ ∧
    findB (insertBeacon s b i u tick).1 b.id = some { mkB b i u tick with first := old.first } ∧
    (∀ id, id ≠ b.id → findB (insertBeacon s b i u tick).1 id = findB s id) := by
  unfold insertBeacon
  simp only [h, hnew, if_true]
  have hf : ∀ r : BRec,
      (if r.id = b.id then { mkB b i u tick with first := r.first } else r).id = r.id := by
    intro r; split
    · rename_i e; simp [mkB, e]
    · rfl
  have hid : old.id = b.id := (findB_mem s b.id old h).2
  refine ⟨trivial, ?_, ?_⟩
  · rw [findB_map s _ hf, h]; simp [hid]
  · intro id hne
    rw [findB_map s _ hf]
    cases hs : findB s id with
    | none => rfl
    | some r => simp [(findB_mem s id r hs).2, hne]

theorem beacon_older_ignored (s : BeaconStore) (b : BIn) (i u tick : Nat) (old : BRec)
    (h : findB s b.id = some old) (hold : b.info ≤ old.info) :
    insertBeacon s b i u tick = (s, ⟨0, 0⟩) := by
  unfold insertBeacon
  have : ¬ old.info < b.info := by omega
  simp [h, this]

/-- **candidate beacons come in non-decreasing length order, up to the requested count**, are
    stored beacons allowed for the usage (and source), as many as possible, and no matching
    beacon left out is shorter than one returned -/
theorem candidates_sorted_and_bounded (s : BeaconStore) (k usage : Nat) (src : IA) :
    (candidates s k usage src).Pairwise (fun a b => a.hops ≤ b.hops) ∧
    (candidates s k usage src).length = min k (s.filter (candMatches usage src)).length ∧
    (∀ r ∈ candidates s k usage src, r ∈ s ∧ candMatches usage src r = true) ∧
    (∀ x ∈ s, candMatches usage src x = true → x ∉ candidates s k usage src →
      ∀ r ∈ candidates s k usage src, r.hops ≤ x.hops) := by
  unfold candidates
  have hsorted := List.pairwise_mergeSort hopsLe_trans hopsLe_total (s.filter (candMatches usage src))
  have hperm := List.mergeSort_perm (s.filter (candMatches usage src)) hopsLe
  refine ⟨?_, ?_, ?_, ?_⟩
  · exact (List.Pairwise.sublist (List.take_sublist _ _) hsorted).imp of_decide_eq_true
  · rw [List.length_take, hperm.length_eq]
  · intro r hr
    have := hperm.mem_iff.mp (List.mem_of_mem_take hr)
    exact List.mem_filter.mp this
  · intro x hx hm hnot r hr
    have hxs : x ∈ (s.filter (candMatches usage src)).mergeSort hopsLe :=
      hperm.mem_iff.mpr (List.mem_filter.mpr ⟨hx, hm⟩)
    rw [← List.take_append_drop k ((s.filter (candMatches usage src)).mergeSort hopsLe)] at hxs hsorted
    rcases List.mem_append.mp hxs with h1 | h2
    · exact absurd h1 hnot
    · exact of_decide_eq_true ((List.pairwise_append.mp hsorted).2.2 r hr x h2)

theorem beacon_query_exact (s : BeaconStore) (p : BParams) (r : BRec) :
    r ∈ getBeacons s p ↔ r ∈ s ∧ bMatches p r = true := by
  simp [getBeacons, List.mem_filter]

theorem bMatches_iff (p : BParams) (r : BRec) :
    bMatches p r = true ↔
      (p.segIDs = [] ∨ ∃ pre ∈ p.segIDs, hasPrefix pre r.id = true) ∧
      ((∀ q ∈ p.startsAt, q.isZero = true) ∨
        ∃ q ∈ p.startsAt, q.isZero = false ∧ matchStart q r.first = true) ∧
      (p.inIfs = [] ∨ r.inIf ∈ p.inIfs) ∧
      ((∀ u ∈ p.usages, u = 0) ∨ ∃ u ∈ p.usages, 0 < u ∧ usageHas r.usage u = true) ∧
      (∀ t, p.validAt = some t → r.info ≤ t ∧ t ≤ r.exp) := by
  unfold bMatches
  cases p.validAt <;>
    simp [List.isEmpty_iff, List.any_eq_true, List.filter_eq_nil_iff, Nat.pos_iff_ne_zero, and_assoc]

theorem beacon_cleanup_exact (s : BeaconStore) (now : Nat) :
    (∀ r, r ∈ (deleteExpiredBeacons s now).1 ↔ r ∈ s ∧ now ≤ r.exp) ∧
    (deleteExpiredBeacons s now).2 = (s.filter (fun r => decide (r.exp < now))).length := by
  refine ⟨?_, ?_⟩
  · intro r; simp [deleteExpiredBeacons, List.mem_filter]
  · simp [deleteExpiredBeacons, List.countP_eq_length_filter]

/-! ## T3: the decisive comparisons as they stand in the source (regenerated on every run) -/

private def expectedNextQuerySQL : String :=
  "INSERT OR REPLACE INTO NextQuery (SrcIsdID, SrcAsID, DstIsdID, DstAsID, NextQuery) SELECT data.* FROM (SELECT ? AS SrcIsdID, ? AS SrcAsID, ? AS DstIsdID, ? AS DstAsID, ? AS lq) AS data LEFT JOIN NextQuery USING (SrcIsdID, SrcAsID, DstIsdID, DstAsID) WHERE data.lq > NextQuery.NextQuery OR NextQuery.DstIsdID IS NULL;"

private def expectedCandidatesSQL : String :=
  "SELECT b.Beacon, b.InIntfID FROM Beacons b WHERE ( b.Usage & ?1 ) == ?1 %s ORDER BY b.HopsLength ASC LIMIT ?2"

/-- version rule, interface refresh rule, expiry and next-query comparisons, candidate order:
    the operators the model transcribes are the ones in the source -/
theorem gen_store_decisions :
    Scion.Gen.StoresFacts.pathInsertConds = ["meta == nil", "newLastHopVersion <= oldLastHopVersion"] ∧
    Scion.Gen.StoresFacts.pathUpdateConds = ["!bytes.Equal(newFullID, meta.FullID)"] ∧
    Scion.Gen.StoresFacts.pathDeleteExpiredSQL = ["DELETE FROM Segments WHERE MaxExpiry < ?"] ∧
    Scion.Gen.StoresFacts.pathDeleteSegmentSQL = ["DELETE FROM Segments WHERE hex(SegID) LIKE ?"] ∧
    Scion.Gen.StoresFacts.pathInsertNextQuerySQL = [expectedNextQuerySQL] ∧
    Scion.Gen.StoresFacts.beaconInsertConds =
      ["meta != nil", "b.Segment.Info.Timestamp.After(meta.InfoTime)"] ∧
    Scion.Gen.StoresFacts.beaconCandidatesSQL =
      ["AND StartIsd == ?4 AND StartAs == ?5", expectedCandidatesSQL] ∧
    Scion.Gen.StoresFacts.beaconDeleteExpiredSQL = ["DELETE FROM Beacons WHERE ExpirationTime < ?"] :=
  ⟨rfl, rfl, rfl, rfl, rfl, rfl, rfl, rfl⟩

/-! ## Non-vacuity -/

private def iaA : IA := ⟨1, 0xff0000000110⟩
private def iaB : IA := ⟨1, 0xff0000000112⟩
private def sx (ver : Nat) (full : String) : SegIn :=
  ⟨"aa11".toList, full.toList, ver, 2000, iaA, iaB, [⟨iaA, 1⟩, ⟨iaB, 4⟩]⟩

/-- insert (up, group 7), older ignored, newer adds type down and group 9, group filter -/
example :
    (prun PathStore.empty 0
      [.insert (sx 10 "f1") 0 [7], .insert (sx 9 "f2") 1 [8], .insert (sx 11 "f3") 1 [9],
       .get ⟨[], [1], [9], [], [], [⟨1, 0⟩]⟩, .delExpired 2001, .get Params.all]).2 =
      [.stats ⟨1, 0⟩, .stats ⟨0, 0⟩, .stats ⟨0, 1⟩,
       .entries [⟨"aa11".toList, "f3".toList, 11, 2000, 1, [9], 2⟩], .count 1, .entries []] := by
  decide +kernel

example : PReachable (prun PathStore.empty 0 [.insert (sx 10 "f1") 0 [7]]).1 := ⟨_, 0, rfl⟩

end Scion.C27
