/-! Scans that keep a champion: a left fold whose state holds the best element met so far (`bestChain`, the two
`latest`, `lastExpiring`, `selectMostDiverse`, the gateway's `route`).  `Picked` says what such a scan returns, with the
position of the champion, so that the first and the last of equally good elements are told apart; `Best` is what is left
when the position does not matter.  One induction, `Picked.foldl`, shows that a scan meets it. -/
namespace Scion
variable {α σ : Type} {ok : α → Prop} {p le : α → α → Prop}

/-- `none` if no element of `l` qualifies, otherwise a qualifying element that every qualifying one is below -/
def Best (ok : α → Prop) (le : α → α → Prop) (l : List α) : Option α → Prop
  | none => ∀ c ∈ l, ¬ ok c
  | some b => b ∈ l ∧ ok b ∧ ∀ c ∈ l, ok c → le c b

theorem Best.eq_none_iff {l : List α} {o : Option α} (h : Best ok le l o) : o = none ↔ ∀ c ∈ l, ¬ ok c := by
  cases o with
  | none => exact ⟨fun _ => h, fun _ => rfl⟩
  | some b => exact ⟨nofun, fun hn => absurd h.2.1 (hn b h.1)⟩

/-- With `p c x` read as "`x` replaces the champion `c`": `none` if no element of `l` qualifies, otherwise a qualifying
`r` somewhere in `l` that replaced every qualifying element before it and that no qualifying element after it replaces -/
def Picked (ok : α → Prop) (p : α → α → Prop) (l : List α) : Option α → Prop
  | none => ∀ c ∈ l, ¬ ok c
  | some r => ok r ∧ ∃ pre post, l = pre ++ r :: post ∧ (∀ y ∈ pre, ok y → p y r) ∧ ∀ q ∈ post, ok q → ¬ p r q

/-- `step` is a scan on states `of champion`: it takes a qualifying element that replaces the champion, or any
qualifying element when there is no champion yet, and keeps its state otherwise. -/
def Scans (ok : α → Prop) (p : α → α → Prop) (of : Option α → σ) (step : σ → α → σ) : Prop :=
  ∀ acc x, (step (of acc) x = of (some x) ∧ ok x ∧ ∀ c, acc = some c → p c x) ∨
    (step (of acc) x = of acc ∧ (ok x → ∃ c, acc = some c ∧ ¬ p c x))

/-- `skip`: an element that was passed over loses to whatever replaces the champion it lost to. -/
theorem Picked.foldl {of : Option α → σ} {step : σ → α → σ} (hs : Scans ok p of step)
    (trans : ∀ {a b c}, p a b → p b c → p a c) (skip : ∀ {c x y}, ¬ p c x → p c y → p x y) (l : List α) :
    ∀ (pre : List α) (acc : Option α), Picked ok p pre acc →
      ∃ r, l.foldl step (of acc) = of r ∧ Picked ok p (pre ++ l) r := by
  induction l with
  | nil => exact fun pre acc h => ⟨acc, rfl, by simpa using h⟩
  | cons x l ih =>
    intro done acc h
    rw [List.foldl_cons, List.append_cons]
    rcases hs acc x with ⟨e, hx, hc⟩ | ⟨e, hx⟩ <;> rw [e] <;> refine ih _ _ ?_
    · -- `x` is the champion now, at the end of what has been scanned
      refine ⟨hx, done, [], rfl, fun y hy hok => ?_, nofun⟩
      cases acc with
      | none => exact absurd hok (h y hy)
      | some c =>
        obtain ⟨_, pre, post, rfl, hpre, hpost⟩ := h
        have hcx := hc c rfl
        rcases List.mem_append.1 hy with hy | hy
        · exact trans (hpre y hy hok) hcx
        · rcases List.mem_cons.1 hy with rfl | hy
          · exact hcx
          · exact skip (hpost y hy hok) hcx
    · cases acc with
      | none =>
        refine fun c hc hok => (List.mem_append.1 hc).elim (h c · hok) fun hc => ?_
        cases List.mem_singleton.1 hc
        obtain ⟨_, e, _⟩ := hx hok
        cases e
      | some c =>
        obtain ⟨hokc, pre, post, rfl, hpre, hpost⟩ := h
        refine ⟨hokc, pre, post ++ [x], by simp, hpre, fun q hq hok => ?_⟩
        rcases List.mem_append.1 hq with hq | hq
        · exact hpost q hq hok
        · cases List.mem_singleton.1 hq
          obtain ⟨_, e, hn⟩ := hx hok
          cases e; exact hn

/-- the scan over an optional champion, from none -/
theorem Picked.foldl_none {step : Option α → α → Option α} (hs : Scans ok p id step)
    (trans : ∀ {a b c}, p a b → p b c → p a c) (skip : ∀ {c x y}, ¬ p c x → p c y → p x y) (l : List α) :
    Picked ok p l (l.foldl step none) := by
  obtain ⟨r, e, h⟩ := Picked.foldl hs trans skip l [] none nofun
  exact e ▸ by simpa using h

/-- forgetting the position, for an order `le` that `p` refines -/
theorem Picked.best {l : List α} {o : Option α} (h : Picked ok p l o) (hrefl : ∀ a, le a a)
    (h1 : ∀ {a b}, p a b → le a b) (h2 : ∀ {a b}, ¬ p a b → le b a) : Best ok le l o := by
  cases o with
  | none => exact h
  | some r =>
    obtain ⟨hok, pre, post, rfl, hpre, hpost⟩ := h
    refine ⟨by simp, hok, fun c hc hc' => ?_⟩
    rcases List.mem_append.1 hc with hc | hc
    · exact h1 (hpre c hc hc')
    · rcases List.mem_cons.1 hc with rfl | hc
      · exact hrefl _
      · exact h2 (hpost c hc hc')

/-- the step of `ORDER BY … DESC LIMIT 1`: take the element if it is newer than the accumulator -/
def pickNewer (nw : α → α → Bool) : Option α → α → Option α
  | none, r => some r
  | some a, r => if nw r a then some r else some a

theorem scans_newer (nw : α → α → Bool) : Scans (fun _ => True) (fun c x => nw x c = true) id (pickNewer nw) := by
  intro acc r
  cases acc with
  | none => exact .inl ⟨rfl, trivial, nofun⟩
  | some a =>
    dsimp only [pickNewer, id]
    split
    · rename_i hn; exact .inl ⟨rfl, trivial, fun _ h => Option.some.inj h ▸ hn⟩
    · rename_i hn; exact .inr ⟨rfl, fun _ => ⟨a, rfl, hn⟩⟩

end Scion
