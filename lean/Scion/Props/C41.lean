import Scion.Proofs.GwFramesDec
import Scion.Gen.Gateway
/-!
# C41 — Gateway encapsulation reproduces the IP packet stream

Property theorems only; the proof development is in `Scion.Proofs.GwFrames*` (shape of the
sender's frames, the receiver's reassembly list in sync with the packet in progress).  The model
(`Scion.Model.GwFrames`) is tied to `gateway/dataplane` (`encoder`, `worker`, `reassemblyList`,
`frameBuf`) by `harness/cmd/gwframes`.

`encode mtu pkts sched`: all frames the sender produces for the packets `pkts` written to it;
`sched` is the oracle "the ring is momentarily empty" for the non-blocking reads, so frames may be
cut early wherever `encoder.Read` allows.  `decode fs`: everything the receiving worker writes to
the local network for the frame sequence `fs`.
-/
namespace Scion.C41
open Scion.GwFrames Scion.Util
open Scion.Proofs.GwFrames

/-- the sender's frames for one stream with the given epoch (stream id) -/
def encodeE (mtu ep : Nat) (pkts : List Bytes) (sched : List Bool) : List Frame :=
  encodeF mtu ep (totalLen pkts + 1) ⟨0, []⟩ pkts sched

theorem encode_eq (mtu : Nat) (pkts : List Bytes) (sched : List Bool) :
    encode mtu pkts sched = encodeE mtu 0 pkts sched := rfl

private theorem stream_trace (mtu ep : Nat) (pkts : List Bytes) (sched : List Bool)
    (hm : 57 ≤ mtu) (hM : mtu ≤ 65535) :
    ∃ tr : List Step, TraceOK mtu ep 0 none tr ∧ tr.map (·.f) = encodeE mtu ep pkts sched ∧
      (∀ s ∈ tr, ∀ x ∈ s.pre.pkt, x ∈ pkts.filter validPkt) ∧
      tr.flatMap Step.done = pkts.filter validPkt ∧ finalPost none tr = none := by
  obtain ⟨tr, h1, h2, h3, h4⟩ := encodeF_trace mtu ep (by unfold hdrLen; omega) hM (totalLen pkts + 1) ⟨0, []⟩
    pkts sched none ⟨trivial, rfl⟩
  obtain ⟨h5, h6⟩ := h4 (by simp)
  exact ⟨tr, h1, h2, fun s hs x hx => by simpa [Pend.pkt] using h3 s hs x hx,
    by simpa [Pend.pkt] using h5, h6⟩

/-- the loss-free clause for any stream id (stated for id 0 below) -/
theorem lossless_roundtrip_epoch (mtu ep : Nat) (pkts : List Bytes) (sched : List Bool)
    (hm : 57 ≤ mtu) (hM : mtu ≤ 65535)
    (hsz : ∀ p ∈ pkts, validPkt p = true → p.length ≤ 99 * (mtu - 16)) :
    decode (encodeE mtu ep pkts sched) = pkts.filter validPkt := by
  obtain ⟨tr, h1, h2, h3, h4, _⟩ := stream_trace mtu ep pkts sched hm hM
  rw [← h2, ← h4]
  apply decode_trace mtu ep tr 0 none [] h1 rfl
  intro st hst p c hpre
  have hp : p ∈ pkts.filter validPkt := h3 st hst p (by rw [hpre]; simp [Pend.pkt])
  rw [List.mem_filter] at hp
  exact hsz p hp.1 hp.2

/-- **Loss-free clause of C41.**  For every frame size from the minimum (57) upward, every packet
sequence and every read schedule: the frames, delivered in order and without loss, are
decapsulated into exactly the valid packets, in order — provided no valid packet needs more
frames than the receiver's reassembly list holds (`reassemblyListCap` = 100 frames, i.e.
`|p| ≤ 99 · (mtu − 16)`; for packets up to 9000 bytes this is every `mtu ≥ 107`).  Without that
proviso the statement is false for the code and the model alike: the list is evicted when it is
full, so a packet spread over more than 100 frames is never delivered (DESIGN §7a). -/
theorem lossless_roundtrip (mtu : Nat) (pkts : List Bytes) (sched : List Bool)
    (hm : 57 ≤ mtu) (hM : mtu ≤ 65535)
    (hsz : ∀ p ∈ pkts, validPkt p = true → p.length ≤ 99 * (mtu - 16)) :
    decode (encode mtu pkts sched) = pkts.filter validPkt :=
  lossless_roundtrip_epoch mtu 0 pkts sched hm hM hsz

/-- **Invalid packets are never encapsulated**: the frame payloads, concatenated, are exactly
the valid packets, concatenated (and every frame respects the frame size). -/
theorem invalid_never_encapsulated (mtu : Nat) (pkts : List Bytes) (sched : List Bool)
    (hm : 57 ≤ mtu) (hM : mtu ≤ 65535) :
    ((encode mtu pkts sched).map (·.payload)).flatten = (pkts.filter validPkt).flatten := by
  obtain ⟨tr, h1, h2, _, h4, h5⟩ := stream_trace mtu 0 pkts sched hm hM
  have := trace_bytes mtu 0 tr 0 none h1
  rw [h5, h4] at this
  simp only [carried, List.nil_append, List.append_nil] at this
  rw [encode_eq, ← h2, ← this]
  simp only [List.map_map]
  rfl

theorem frames_within_mtu (mtu : Nat) (pkts : List Bytes) (sched : List Bool) :
    ∀ f ∈ encode mtu pkts sched, hdrLen + f.payload.length ≤ max mtu hdrLen := by
  intro f hf
  have := encodeF_len mtu 0 _ _ _ _ f hf
  simp only [hdrLen] at *
  omega

/-- the sequence number of a frame is its position in the stream; hence the 64-bit counter of the
code (`e.seq++`, `lastFrame.seqNr+1`) cannot wrap unless one stream has 2^64 frames, and below
that bound the natural-number arithmetic of the model is the code's `uint64` arithmetic -/
theorem seq_is_position (mtu : Nat) (pkts : List Bytes) (sched : List Bool)
    (hm : 57 ≤ mtu) (hM : mtu ≤ 65535) (k : Nat) (f : Frame)
    (h : (encode mtu pkts sched)[k]? = some f) : f.seq = k := by
  obtain ⟨tr, h1, h2, _, _, _⟩ := stream_trace mtu 0 pkts sched hm hM
  rw [encode_eq, ← h2, List.getElem?_map] at h
  cases hk : tr[k]? with
  | none => rw [hk] at h; cases h
  | some st =>
    rw [hk] at h
    simp only [Option.map_some, Option.some.injEq] at h
    obtain ⟨hlt, hst⟩ := List.getElem?_eq_some_iff.1 hk
    have := (trace_get mtu 0 tr 0 none h1 k hlt).1
    rw [hst, h] at this
    omega

theorem seq_no_wrap (mtu : Nat) (pkts : List Bytes) (sched : List Bool)
    (hm : 57 ≤ mtu) (hM : mtu ≤ 65535) (hlen : (encode mtu pkts sched).length < 2 ^ 64) :
    ∀ f ∈ encode mtu pkts sched, f.seq + 1 < 2 ^ 64 := by
  intro f hf
  obtain ⟨k, hk, rfl⟩ := List.getElem_of_mem hf
  have := seq_is_position mtu pkts sched hm hM k _ (List.getElem?_eq_getElem hk)
  omega

/-- the validity test is the one of the statement: IPv4 (≥ 20 bytes, total length = length) or
IPv6 (≥ 40 bytes, payload length + 40 = length) -/
theorem validPkt_iff (p : Bytes) :
    validPkt p = true ↔
      ∃ b0, p[0]? = some b0 ∧
        ((b0.toNat / 16 = 4 ∧ 20 ≤ p.length ∧ ∃ x y, p[2]? = some x ∧ p[3]? = some y ∧
            be16 x y = p.length) ∨
         (b0.toNat / 16 = 6 ∧ 40 ≤ p.length ∧ ∃ x y, p[4]? = some x ∧ p[5]? = some y ∧
            40 + be16 x y = p.length)) :=
  Proofs.GwFrames.validPkt_iff p

/-! ## Loss, duplication, reordering, several streams -/

structure Sent where
  mtu : Nat
  ep : Nat
  pkts : List Bytes
  sched : List Bool
  hm : 57 ≤ mtu
  hM : mtu ≤ 65535

def Sent.frames (s : Sent) : List Frame := encodeE s.mtu s.ep s.pkts s.sched

/-- **Fault clause of C41, full statement**: whatever frames of whatever streams (pairwise
distinct stream ids) arrive at a worker, in whatever order and multiplicity, every packet the
worker writes is byte-identical to a valid packet that was handed to one of the senders. -/
def EmittedSubsetSent : Prop :=
  ∀ (streams : List Sent), (∀ s ∈ streams, ∀ s' ∈ streams, s.ep = s'.ep → s = s') →
    ∀ ds : List Frame, (∀ d ∈ ds, ∃ s ∈ streams, d ∈ s.frames) →
      ∀ x ∈ decode ds, ∃ s ∈ streams, x ∈ s.pkts ∧ validPkt x = true

/-- the full fault clause holds for the model.  What the model leaves out (and the evidence
therefore lists as assumptions): sequence numbers are natural numbers (the 64-bit counter does
not wrap), the time-driven clean-up of idle reassembly lists is not modelled, and two streams
with the *same* stream id towards one worker are excluded by the hypothesis. -/
theorem emitted_subset_sent : EmittedSubsetSent := by
  intro streams hdist ds hds x hx
  have htr := fun s : Sent => stream_trace s.mtu s.ep s.pkts s.sched s.hm s.hM
  obtain ⟨s, hs, hxs⟩ := decode_subset_multi Sent.mtu Sent.ep (fun s => (htr s).choose) streams
    (fun s _ => (htr s).choose_spec.1) hdist ds [] (fun _ _ => Or.inl rfl)
    (by
      intro d hd
      obtain ⟨s, hs, hdf⟩ := hds d hd
      rw [Sent.frames, ← (htr s).choose_spec.2.1] at hdf
      obtain ⟨st, hst, rfl⟩ := List.mem_map.1 hdf
      obtain ⟨k, hk, rfl⟩ := List.getElem_of_mem hst
      exact ⟨s, hs, k, hk, rfl⟩)
    x hx
  rw [(htr s).choose_spec.2.2.2.1, List.mem_filter] at hxs
  exact ⟨s, hs, hxs.1, hxs.2⟩

/-- single-stream reading: any loss / duplication / reordering pattern of one stream's frames -/
theorem emitted_subset_sent_one_stream (mtu : Nat) (pkts : List Bytes) (sched : List Bool)
    (hm : 57 ≤ mtu) (hM : mtu ≤ 65535) (ds : List Frame)
    (hds : ∀ d ∈ ds, d ∈ encode mtu pkts sched) :
    ∀ x ∈ decode ds, x ∈ pkts ∧ validPkt x = true := by
  intro x hx
  obtain ⟨s, hs, h⟩ := emitted_subset_sent [⟨mtu, 0, pkts, sched, hm, hM⟩]
    (by intro s hs s' hs' _; simp at hs hs'; rw [hs, hs'])
    ds (fun d hd => ⟨_, List.mem_singleton.2 rfl, hds d hd⟩) x hx
  cases List.mem_singleton.1 hs
  exact h

/-! ## Facts regenerated from the source -/

/-- the constants of the model are those of the source -/
theorem gen_consts :
    Scion.Gen.Gateway.hdrLen = hdrLen ∧ Scion.Gen.Gateway.sigHdrSize = hdrLen ∧
    Scion.Gen.Gateway.reassemblyListCap = listCap ∧ Scion.Gen.Gateway.minMTU = 57 ∧
    Scion.Gen.Gateway.indexPos = 2 ∧ Scion.Gen.Gateway.streamPos = 4 ∧ Scion.Gen.Gateway.seqPos = 8 ∧
    Scion.Gen.Gateway.encoderRoomGuard = "cap(e.frame)-pos < 40" := by decide

/-! ## Non-vacuity -/

/-- a 24-byte IPv4 packet -/
private def p4 : Bytes :=
  [0x45, 0, 0, 24, 0, 0, 0, 0, 64, 17, 0, 0, 10, 0, 0, 1, 10, 0, 0, 2, 1, 2, 3, 4]

example : validPkt p4 = true := by decide
example : validPkt (p4 ++ [0]) = false := by decide
example : validPkt [] = false := by decide
example : ∀ p ∈ [p4, [0x75, 1, 2], p4], validPkt p = true → p.length ≤ 99 * (57 - 16) := by
  intro p hp _
  simp only [List.mem_cons, List.not_mem_nil, or_false] at hp
  rcases hp with rfl | rfl | rfl <;> decide

end Scion.C41
