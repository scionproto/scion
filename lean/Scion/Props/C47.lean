import Scion.Proofs.SeqCompile
import Scion.Gen.PathSeq
/-!
# C47 — Path-policy sequences match exactly the paths their expression describes

Property theorems, with the helpers of the ACL part, which speak of this file's `ACLWF` and `aclAccept`;
lemmas about the model alone are in `Scion.Proofs.Rx`, `RxSubst`, `SeqCompile`.  The model (`Scion.Model.Seq`) is tied to `private/path/pathpol` by
`harness/cmd/pathseq` (T1): the real `NewSequence(expr).Eval(paths)` (ANTLR parser, listener,
Go regexp) against `seqAccept` (meaning over the hop list) and against `seqAcceptRe` (model of
the compiled regular expression on the textual hop list), `ACL.Eval` and `Policy.Filter`.
-/
namespace Scion.C47
open Scion.Seq Scion.Seq.Rx

/-! ## Hop predicates: wildcards and numeric comparison -/

theorem numPred_ok (p : NumPred) (v : Nat) :
    p.ok v = true ↔ p = .wild ∨ p = .lit v := by
  cases p <;> simp [NumPred.ok]

theorem asPred_ok (p : ASPred) (v : Nat) :
    p.ok v = true ↔ p = .wild ∨ p = .lit v := by
  cases p <;> simp [ASPred.ok]

/-- `isd`, `isd-as`: interfaces unconstrained; `isd-as#if`: the interface in either direction;
    `isd-as#in,out`: both positions; wildcards match anything -/
theorem ifPred_ok (p : IfPred) (i o : Nat) :
    p.ok i o = true ↔
      match p with
      | .any => True
      | .either q => q.ok i = true ∨ q.ok o = true
      | .both qi qo => qi.ok i = true ∧ qo.ok o = true := by
  cases p <;> simp [IfPred.ok, or_comm]

theorem hopPred_ok (p : HopPred) (h : Hop) :
    p.ok h = true ↔ p.isd.ok h.isd = true ∧ p.as.ok h.as = true ∧ p.ifs.ok h.inIf h.outIf = true := by
  simp [HopPred.ok, and_assoc]

/-- an AS literal means its number, whatever its spelling: every text `addr.ParseAS` accepts
    yields the predicate "AS = parsed value" -/
theorem asPredOfText_numeric (t : Scion.Addr.Str) (v : Nat)
    (h : Scion.Addr.parseAS [':'] t = .ok v) : asPredOfText t = .lit v := by
  simp [asPredOfText, h]

theorem asPredOfText_spelling (t₁ t₂ : Scion.Addr.Str)
    (h : Scion.Addr.parseAS [':'] t₁ = Scion.Addr.parseAS [':'] t₂) :
    asPredOfText t₁ = asPredOfText t₂ := by
  simp [asPredOfText, h]

/-! ## Regular-expression meaning of `?`, `+`, `*`, `|` and juxtaposition -/

theorem accepts_hop (p : HopPred) (hs : List Hop) :
    Expr.accepts (.atom p) hs = true ↔ ∃ h, hs = [h] ∧ p.ok h = true :=
  accepts_atom HopPred.ok p hs

theorem accepts_alt (a b : Expr) (hs : List Hop) :
    Expr.accepts (.alt a b) hs = (a.accepts hs || b.accepts hs) :=
  Rx.accepts_alt HopPred.ok a b hs

theorem accepts_cat (a b : Expr) (hs : List Hop) :
    Expr.accepts (.cat a b) hs = true ↔
      ∃ u v, hs = u ++ v ∧ a.accepts u = true ∧ b.accepts v = true :=
  Rx.accepts_cat HopPred.ok a b hs

theorem accepts_opt (a : Expr) (hs : List Hop) :
    Expr.accepts (.opt a) hs = (hs.isEmpty || a.accepts hs) :=
  Rx.accepts_opt HopPred.ok a hs

theorem accepts_star_unfold (a : Expr) (hs : List Hop) :
    Expr.accepts (.star a) hs = true ↔
      hs = [] ∨ ∃ u v, u ≠ [] ∧ hs = u ++ v ∧ a.accepts u = true ∧
        Expr.accepts (.star a) v = true := by
  cases hs with
  | nil => simp [Expr.accepts, Rx.accepts_nil, Rx.nullable]
  | cons x xs =>
    simp only [Expr.accepts, reduceCtorEq, false_or]
    rw [Rx.accepts_star_cons]
    constructor
    · rintro ⟨u, v, h, hu, hv⟩
      exact ⟨x :: u, v, by simp, by simp [h], hu, hv⟩
    · rintro ⟨u, v, hne, h, hu, hv⟩
      cases u with
      | nil => exact absurd rfl hne
      | cons y ys =>
        simp only [List.cons_append, List.cons.injEq] at h
        obtain ⟨rfl, rfl⟩ := h
        exact ⟨ys, v, rfl, hu, hv⟩

theorem accepts_star (a : Expr) (hs : List Hop) :
    Expr.accepts (.star a) hs = true ↔
      ∃ ws : List (List Hop), hs = ws.flatten ∧ ∀ u ∈ ws, a.accepts u = true :=
  Rx.accepts_star_iff HopPred.ok a hs

theorem accepts_plus (a : Expr) (hs : List Hop) :
    Expr.accepts (.plus a) hs = true ↔
      ∃ ws : List (List Hop), ws ≠ [] ∧ hs = ws.flatten ∧ ∀ u ∈ ws, a.accepts u = true :=
  Rx.accepts_plus_iff HopPred.ok a hs

/-- **the sequence matcher decides membership of the hop list in the language of the
    expression** (the usual denotation `Rx.Lang`) -/
theorem accepts_iff_lang (e : Expr) (hs : List Hop) :
    e.accepts hs = true ↔ Lang HopPred.ok e hs :=
  Rx.accepts_iff_lang HopPred.ok e hs

/-! ## `GetSequence`: the hop list of a path -/

/-- paths with an odd number of interfaces have no hop list (and are skipped by `Eval`) -/
theorem hopsOf_none_iff (p : Path) : hopsOf p = none ↔ p.length % 2 = 1 := by
  cases p with
  | nil => simp [hopsOf]
  | cons f rest =>
    rw [List.length_cons, show (rest.length + 1) % 2 = 1 ↔ rest.length % 2 = 0 by omega,
      ← midHops_none_iff, hopsOf]
    cases midHops rest <;> simp

/-- the source AS has ingress 0, the destination AS egress 0, a transit AS its interface pair -/
theorem hopsOf_two (a b : PIf) :
    hopsOf [a, b] = some [⟨a.isd, a.as, 0, a.id⟩, ⟨b.isd, b.as, b.id, 0⟩] := rfl

theorem hopsOf_four (a b c d : PIf) :
    hopsOf [a, b, c, d] =
      some [⟨a.isd, a.as, 0, a.id⟩, ⟨b.isd, b.as, b.id, c.id⟩, ⟨d.isd, d.as, d.id, 0⟩] := rfl

/-! ## Filters return, in input order, exactly the input paths they accept -/

/-- `Sequence.Eval` -/
theorem seqEval_spec (s : Option Expr) (paths : List Path) :
    seqEval s paths = paths.filter (seqAccept s) ∧
    (seqEval s paths).Sublist paths ∧
    ∀ p, p ∈ seqEval s paths ↔ p ∈ paths ∧ seqAccept s p = true := by
  refine ⟨rfl, List.filter_sublist, ?_⟩
  intro p; simp [seqEval, List.mem_filter]

theorem seqAccept_iff (e : Expr) (p : Path) :
    seqAccept (some e) p = true ↔ ∃ hs, hopsOf p = some hs ∧ Lang HopPred.ok e hs := by
  simp only [seqAccept]
  cases h : hopsOf p with
  | none => simp
  | some hs => simp [accepts_iff_lang]

/-- invariant established by `HopPredicateFromString`: a wildcard AS has only zero interfaces -/
def AclPred.WF (r : AclPred) : Prop := r.as = 0 → r.if0 = 0 ∧ (r.if1 = none ∨ r.if1 = some 0)

def ACLWF (a : ACL) : Prop := ∀ e ∈ a, ∀ r, e.rule = some r → AclPred.WF r

/-- what `ACL.Eval` decides for one path -/
def aclAccept (a : ACL) (p : Path) : Bool := a.isEmpty || evalPath a p == some true

theorem matchesAll_ifMatch (e : AclEntry) (r : AclPred) (hr : e.rule = some r) (hw : AclPred.WF r)
    (hm : e.matchesAll = true) (pi : PIf) (ing : Bool) : r.ifMatch pi ing = true := by
  simp only [AclEntry.matchesAll, hr, Bool.and_eq_true, beq_iff_eq] at hm
  obtain ⟨h0, h1⟩ := hw hm.2
  unfold AclPred.ifMatch
  rcases h1 with h1 | h1 <;> simp [hm.1, hm.2, h0, h1]

theorem evalInterface_cons (e : AclEntry) (es : ACL) (pi : PIf) (ing : Bool) :
    evalInterface (e :: es) pi ing =
      match e.rule with
      | none => some e.allow
      | some r => if r.ifMatch pi ing then some e.allow else evalInterface es pi ing := rfl

/-- a validated ACL decides every interface (the Go code does not panic) -/
theorem evalInterface_total : ∀ (a : ACL), validACL a = true → ACLWF a →
    ∀ pi ing, ∃ b, evalInterface a pi ing = some b
  | [], hv, _, _, _ => by simp [validACL] at hv
  | [e], hv, hw, pi, ing => by
    simp only [validACL] at hv
    simp only [evalInterface]
    cases hr : e.rule with
    | none => exact ⟨_, rfl⟩
    | some r =>
      have := matchesAll_ifMatch e r hr (hw e (by simp) r hr) hv pi ing
      exact ⟨e.allow, by simp [this]⟩
  | e :: e' :: es, hv, hw, pi, ing => by
    simp only [validACL, Bool.and_eq_true] at hv
    have ih := evalInterface_total (e' :: es) hv.2
      (fun x hx r hr => hw x (by simp [hx]) r hr) pi ing
    rw [evalInterface_cons]
    cases hr : e.rule with
    | none => exact ⟨_, rfl⟩
    | some r =>
      by_cases hm : r.ifMatch pi ing = true
      · exact ⟨e.allow, by simp [hm]⟩
      · simp only [hm, Bool.false_eq_true, if_false]; exact ih

theorem evalPathFrom_total (a : ACL) (hv : validACL a = true) (hw : ACLWF a) :
    ∀ (p : Path) (i : Nat), ∃ b, evalPathFrom a i p = some b
  | [], _ => ⟨true, rfl⟩
  | pi :: rest, i => by
    obtain ⟨b, hb⟩ := evalInterface_total a hv hw pi (i % 2 != 0)
    simp only [evalPathFrom, hb]
    cases b with
    | false => exact ⟨false, rfl⟩
    | true => exact evalPathFrom_total a hv hw rest (i + 1)

theorem aclEvalGo_spec (a : ACL) (hv : validACL a = true) (hw : ACLWF a) :
    ∀ paths : List Path, aclEvalGo a paths = some (paths.filter (fun p => evalPath a p == some true))
  | [] => rfl
  | p :: ps => by
    obtain ⟨b, hb⟩ := evalPathFrom_total a hv hw p 0
    have hb' : evalPath a p = some b := hb
    simp only [aclEvalGo, hb', aclEvalGo_spec a hv hw ps, List.filter_cons]
    cases b <;> simp

/-- `ACL.Eval` (`filter_spec`): for a validated ACL the result is, in input order, exactly the
    input paths every interface of which is allowed by its first matching entry; the empty ACL
    keeps everything -/
theorem aclEval_spec (a : ACL) (hv : a = [] ∨ validACL a = true) (hw : ACLWF a)
    (paths : List Path) :
    aclEval a paths = some (paths.filter (aclAccept a)) := by
  cases a with
  | nil =>
    have : aclAccept [] = fun _ => true := by funext p; simp [aclAccept]
    simp only [aclEval, this]
    congr 1
    induction paths with
    | nil => rfl
    | cons p ps ih => simp only [List.filter_cons, if_true]; rw [← ih]
  | cons e es =>
    have hv' : validACL (e :: es) = true := by
      rcases hv with h | h
      · cases h
      · exact h
    have : aclAccept (e :: es) = fun p => evalPath (e :: es) p == some true := by
      funext p; simp [aclAccept]
    simp only [aclEval, aclEvalGo_spec (e :: es) hv' hw paths, this]

/-- the first matching entry decides an interface -/
theorem evalInterface_first_match (pre : ACL) (e : AclEntry) (post : ACL) (pi : PIf) (ing : Bool)
    (hpre : ∀ x ∈ pre, ∃ r, x.rule = some r ∧ r.ifMatch pi ing = false)
    (he : e.rule = none ∨ ∃ r, e.rule = some r ∧ r.ifMatch pi ing = true) :
    evalInterface (pre ++ e :: post) pi ing = some e.allow := by
  induction pre with
  | nil =>
    rcases he with h | ⟨r, h, hm⟩ <;> simp [evalInterface, *]
  | cons x xs ih =>
    obtain ⟨r, hr, hm⟩ := hpre x (by simp)
    simp only [List.cons_append, evalInterface, hr, hm, Bool.false_eq_true, if_false]
    exact ih (fun y hy => hpre y (by simp [hy]))

/-- `Policy.Filter` (`filter_spec`): ACL, then sequence; in input order exactly the accepted
    paths -/
theorem policyFilter_spec (a : ACL) (hv : a = [] ∨ validACL a = true) (hw : ACLWF a)
    (s : Option Expr) (paths : List Path) :
    policyFilter a s paths = some (paths.filter (fun p => aclAccept a p && seqAccept s p)) ∧
    ∀ r, policyFilter a s paths = some r →
      r.Sublist paths ∧ ∀ p, p ∈ r ↔ p ∈ paths ∧ aclAccept a p = true ∧ seqAccept s p = true := by
  have h1 : policyFilter a s paths =
      some (paths.filter (fun p => aclAccept a p && seqAccept s p)) := by
    simp only [policyFilter, aclEval_spec a hv hw paths, seqEval, List.filter_filter]
    congr 2
    funext p
    exact Bool.and_comm _ _
  refine ⟨h1, ?_⟩
  intro r hr
  rw [h1] at hr
  cases hr
  refine ⟨List.filter_sublist, ?_⟩
  intro p
  simp [List.mem_filter]

/-! ## The compiled regular expression

The listener compiles the expression to a regular expression over characters which `Eval`
matches against the textual hop list.  `compile`/`render` model both (the engine compares the
real answers with `seqAcceptRe` on every case). -/

/-- what the parser's output satisfies: AS literals are AS numbers -/
theorem asPredOfText_WF (t : Scion.Addr.Str) : (asPredOfText t).WF := by
  unfold asPredOfText
  cases h : Scion.Addr.parseAS [':'] t with
  | ok v => exact Scion.Addr.parseAS_lt _ _ _ h
  | error e => trivial

/-- **compile_correct**: on every hop list (AS numbers below 2^48) the compiled regular
    expression accepts the text `isd-as#in,out isd-as#in,out … ` iff the expression accepts the
    hop list.  Hypothesis on the expression: its AS literals are AS numbers (`asPredOfText_WF`:
    always the case for literals normalised by `addr.ParseAS`; a literal that `ParseAS` rejects
    is `ASPred.bad`, which the model compiles to the empty language). -/
theorem compile_correct (e : Expr) (he : ExprWF e) (hs : List Hop)
    (hh : ∀ h ∈ hs, h.as < 2 ^ 48) :
    (compile e).accepts (render hs) = e.accepts hs := by
  apply Bool.eq_iff_iff.2
  unfold Re.accepts Expr.accepts
  rw [Rx.accepts_iff_lang, Rx.accepts_iff_lang]
  exact compile_correct_lang e he hs hh

theorem hopsOf_as (p : Path) (hs : List Hop) (h : hopsOf p = some hs) :
    ∀ x ∈ hs, ∃ i ∈ p, x.as = i.as := by
  cases p with
  | nil =>
    simp only [hopsOf, Option.some.injEq] at h
    subst h; simp
  | cons f rest =>
    simp only [hopsOf] at h
    cases hr : midHops rest with
    | none => simp [hr] at h
    | some hs' =>
      simp only [hr, Option.some.injEq] at h
      subst h
      exact List.forall_mem_cons.2 ⟨⟨f, by simp, rfl⟩, fun x hx =>
        (midHops_as rest hs' hr x hx).imp fun i hi => ⟨by simp [hi.1], hi.2⟩⟩

/-- `Sequence.Eval` as the code computes it (regular expression against text) keeps exactly the
    paths whose hop list is in the language of the expression -/
theorem seqAcceptRe_eq (s : Option Expr) (hs : ∀ e, s = some e → ExprWF e) (p : Path)
    (hp : ∀ i ∈ p, i.as < 2 ^ 48) : seqAcceptRe s p = seqAccept s p := by
  cases s with
  | none => rfl
  | some e =>
    simp only [seqAcceptRe, seqAccept]
    cases h : hopsOf p with
    | none => rfl
    | some hl =>
      simp only
      apply compile_correct e (hs e rfl) hl
      intro x hx
      obtain ⟨i, hi, e'⟩ := hopsOf_as p hl h x hx
      rw [e']; exact hp i hi

/-! ## Non-vacuity -/

section Examples
def ia110 : Nat := 0xff0000000110
-- the repaired defect: upper-case and colon spellings denote the same AS
example : asPredOfText "FF00:0:110".toList = .lit ia110 ∧ asPredOfText "ff00:0:110".toList = .lit ia110 ∧
    asPredOfText "0:0:5".toList = .lit 5 ∧ asPredOfText "5".toList = .lit 5 ∧
    asPredOfText "4294967296".toList = .bad := by decide +kernel

def hop1 : HopPred := ⟨.lit 1, .lit ia110, .either (.lit 2)⟩
def anyHop : HopPred := ⟨.wild, .wild, .any⟩
def e1 : Expr := .cat (.star (.atom anyHop)) (.cat (.atom hop1) (.opt (.atom anyHop)))
def pth : Path := [⟨1, 5, 7⟩, ⟨1, ia110, 2⟩, ⟨1, ia110, 3⟩, ⟨2, 9, 4⟩]
example : hopsOf pth = some [⟨1, 5, 0, 7⟩, ⟨1, ia110, 2, 3⟩, ⟨2, 9, 4, 0⟩] := by decide
theorem e1_wf : ExprWF e1 := by
  intro p hp
  simp only [e1, Rx.atoms, List.mem_append, List.mem_singleton] at hp
  rcases hp with rfl | rfl | rfl <;> simp [HopPred.WF, ASPred.WF, anyHop, hop1, ia110]
example : seqAccept (some e1) pth = true ∧ seqAcceptRe (some e1) pth = true := by
  have h : seqAccept (some e1) pth = true := by decide
  exact ⟨h, (seqAcceptRe_eq _ (fun _ e => Option.some.inj e ▸ e1_wf) pth (by decide)).trans h⟩
-- here the compiled regular expression itself is run on the text of the path
example : seqAccept (some (.atom hop1)) pth = false ∧ seqAcceptRe (some (.atom hop1)) pth = false := by
  decide +kernel
example : ExprWF e1 := e1_wf
example : render [⟨1, ia110, 2, 3⟩] = "1-ff00:0:110#2,3 ".toList := by decide +kernel
def acl1 : ACL := [⟨false, some ⟨1, 5, 7, none⟩⟩, ⟨true, some ⟨0, 0, 0, none⟩⟩]
example : validACL acl1 = true ∧ aclAccept acl1 pth = false ∧ aclAccept acl1 (pth.drop 1) = true := by
  decide
example : ACLWF acl1 := by
  intro e he r hr
  simp only [acl1, List.mem_cons, List.not_mem_nil, or_false] at he
  rcases he with rfl | rfl <;> (cases hr; simp [AclPred.WF])
end Examples

end Scion.C47

/-! The shapes the listener pastes together, regenerated from `sequence.go` (T3), are the ones
`Scion.Seq.compile`, `hopRe`, `asRe`, `hopText` were written for: `?`, `+`, `*` wrap the operand in
a group; `|` and juxtaposition are grouped as a whole; a hop is `isd-as#in,out` followed by
` +`; `#if` is `(any,if)|(if,any)`; the three wildcards; the whole expression is anchored; AS
literals go through `normalizeAS` (the repaired defect). -/
namespace Scion.C47
open Scion.Gen.PathSeq in
theorem gen_listener :
    isdWildcard = "([0-9]+)" ∧ ifWildcard = "([0-9]+)" ∧
    asWildcard = "(([0-9]+)|([0-9a-fA-F]+:[0-9a-fA-F]+:[0-9a-fA-F]+))" ∧
    sequenceListener_ExitQuestionMark = ["(%s)?|l.pop()"] ∧
    sequenceListener_ExitPlus = ["(%s)+|l.pop()"] ∧
    sequenceListener_ExitAsterisk = ["(%s)*|l.pop()"] ∧
    sequenceListener_ExitOr = ["(%s|%s)|left,right"] ∧
    sequenceListener_ExitConcatenation = ["(%s%s)|left,right"] ∧
    sequenceListener_ExitParentheses = [] ∧
    sequenceListener_ExitHop = ["(%s +)|l.pop()"] ∧
    sequenceListener_ExitISDHop = ["(%s-%s#%s,%s)|isd,asWildcard,ifWildcard,ifWildcard"] ∧
    sequenceListener_ExitISDASHop = ["(%s-%s#%s,%s)|isd,as,ifWildcard,ifWildcard"] ∧
    sequenceListener_ExitISDASIFHop =
      ["(%s-%s#((%s,%s)|(%s,%s)))|isd,as,ifWildcard,iface,iface,ifWildcard"] ∧
    sequenceListener_ExitISDASIFIFHop = ["(%s-%s#%s,%s)|isd,as,ifin,ifout"] ∧
    NewSequence = ["^%s$|listener.stack[0]"] ∧ hop = ["%s#%d,%d|ia,ingress,egress"] ∧
    ExitAS_normalizes = true ∧ ExitLegacyAS_normalizes = true :=
  ⟨rfl, rfl, rfl, rfl, rfl, rfl, rfl, rfl, rfl, rfl, rfl, rfl, rfl, rfl, rfl, rfl, rfl, rfl⟩
end Scion.C47
