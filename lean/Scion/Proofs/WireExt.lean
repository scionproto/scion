import Scion.Model.WireExt
import Scion.Proofs.WireBasics
/-! Lemmas about `Scion.WireExt`: extension headers and their TLV options, with and without `fixLengths`. -/
namespace Scion.WireExt
open Scion.Util Scion.Wire

theorem length_encOpt_pos (o : Opt) : 0 < (encOpt o).length := by
  unfold encOpt; split <;> simp

theorem encOpt_wf (o : Opt) (h : o.WF) :
    encOpt o = if o.typ = 0 then [0] else UInt8.ofNat o.typ :: UInt8.ofNat o.data.length :: o.data := by
  obtain ⟨_, h2, h3, _, _, _⟩ := h
  unfold encOpt
  split
  · rfl
  · rw [h2, Nat.mod_eq_of_lt h3, fit_eq _ _ rfl]

theorem decOpts_encOpts (os : List Opt) (hw : ∀ o ∈ os, o.WF) (f : Nat)
    (hf : (encOpts os).length ≤ f) : decOpts f (encOpts os) = .ok os := by
  induction os generalizing f with
  | nil => cases f <;> simp [encOpts, decOpts]
  | cons o os ih =>
    rw [List.forall_mem_cons] at hw
    obtain ⟨⟨h1, h2, h3, h4, h5, h6⟩, hos⟩ := hw
    obtain ⟨t, dl, d, ax, ay⟩ := o
    simp only at h1 h2 h3 h4 h5 h6
    subst h2 h5 h6
    have hlen : (encOpt ⟨t, d.length, d, 0, 0⟩).length + (encOpts os).length ≤ f := by
      simpa [encOpts] using hf
    have hpos := length_encOpt_pos ⟨t, d.length, d, 0, 0⟩
    cases f with
    | zero => omega
    | succ f =>
      show decOpts (f + 1) (encOpt _ ++ encOpts os) = _
      unfold encOpt at hlen ⊢
      by_cases ht : t = 0
      · subst ht
        cases h4 rfl
        simp only [if_true, List.cons_append, List.nil_append, decOpts, List.length_cons,
          List.length_nil] at hlen ⊢
        rw [ih hos f (by omega)]
      · have hne : UInt8.ofNat t ≠ 0 := fun hc => ht (ofNat_inj h1 (by decide) hc)
        simp only [if_neg ht, Nat.mod_eq_of_lt h3, fit_eq _ _ rfl, List.length_cons] at hlen ⊢
        simp only [List.cons_append, decOpts, if_neg hne, UInt8.toNat_ofNat', Nat.mod_eq_of_lt h3,
          Nat.mod_eq_of_lt h1, List.length_append, Nat.not_lt.mpr (Nat.le_add_right _ _), if_false,
          takeN_append, ih hos f (by omega)]

/-- exact (options have no reserved bits) -/
theorem encOpts_decOpts (f : Nat) (body : Bytes) (os : List Opt) (h : decOpts f body = .ok os) :
    encOpts os = body ∧ ∀ o ∈ os, o.WF := by
  induction f generalizing body os with
  | zero =>
    cases body with
    | nil => cases h; exact ⟨rfl, nofun⟩
    | cons a r => cases h
  | succ f ih =>
    cases body with
    | nil => cases h; exact ⟨rfl, nofun⟩
    | cons t rest =>
      simp only [decOpts] at h
      split at h
      · rename_i ht
        split at h
        · rename_i os' hos
          cases h
          obtain ⟨e, w⟩ := ih rest os' hos
          subst ht
          exact ⟨congrArg (0 :: ·) e, List.forall_mem_cons.2 ⟨by simp [Opt.WF], w⟩⟩
        · cases h
      · rename_i ht
        split at h
        · cases h
        · rename_i l rest2
          split at h
          · cases h
          · split at h
            · cases h
            · rename_i d r htk
              obtain ⟨rfl, l1⟩ := takeN_eq_some htk
              split at h
              · rename_i os' hos
                cases h
                obtain ⟨e, w⟩ := ih r os' hos
                have hne : t.toNat ≠ 0 := fun hc => ht (UInt8.toNat_inj.mp hc)
                refine ⟨?_, List.forall_mem_cons.2
                  ⟨⟨t.toNat_lt, l1.symm, l1 ▸ l.toNat_lt, fun hc => absurd hc hne, rfl, rfl⟩, w⟩⟩
                show encOpt _ ++ encOpts os' = _
                rw [e, encOpt, if_neg hne, Nat.mod_eq_of_lt l.toNat_lt, fit_eq _ _ l1]
                simp
              · cases h

theorem decOpts_ne_panic (f : Nat) (body : Bytes) (hf : body.length ≤ f) :
    decOpts f body ≠ .error .panic := by
  induction f generalizing body with
  | zero =>
    cases body with
    | nil => simp [decOpts]
    | cons a r => simp at hf
  | succ f ih =>
    cases body with
    | nil => simp [decOpts]
    | cons t rest =>
      simp only [List.length_cons] at hf
      simp only [decOpts]
      split
      · have := ih rest (by omega)
        split
        · simp
        · rename_i e he; intro hc; cases hc; exact this he
      · split
        · simp
        · rename_i l rest2
          split
          · simp
          · rename_i hlen
            split
            · rename_i htk; exact absurd htk (takeN_ne_none (by omega))
            · rename_i d r htk
              obtain ⟨rfl, -⟩ := takeN_eq_some htk
              have := ih r (by simp only [List.length_cons, List.length_append] at hf; omega)
              split
              · simp
              · rename_i e he; intro hc; cases hc; exact this he

theorem decExtBase_ok {data : Bytes} {b : ExtBase} {body payload : Bytes}
    (h : decExtBase data = .ok (b, body, payload)) :
    data = UInt8.ofNat b.nextHdr :: UInt8.ofNat b.extLen :: (body ++ payload) ∧
      body.length + 2 = (b.extLen + 1) * 4 ∧ b.nextHdr < 256 ∧ b.extLen < 256 := by
  unfold decExtBase at h
  split at h
  · rename_i nh el rest
    split at h
    · cases h
    · split at h
      · cases h
      · rename_i bd pl htk
        obtain ⟨e1, l1⟩ := takeN_eq_some htk
        cases h
        refine ⟨?_, ?_, nh.toNat_lt, el.toNat_lt⟩
        · simp [e1]
        · simp only; omega
  · cases h

theorem decExtBase_enc (nh el : Nat) (body payload : Bytes) (h1 : nh < 256) (h2 : el < 256)
    (hl : body.length + 2 = (el + 1) * 4) :
    decExtBase (UInt8.ofNat nh :: UInt8.ofNat el :: (body ++ payload)) = .ok (⟨nh, el⟩, body, payload) := by
  unfold decExtBase
  simp only [UInt8.toNat_ofNat', Nat.mod_eq_of_lt h1, Nat.mod_eq_of_lt h2, List.length_cons,
    List.length_append]
  rw [if_neg (by omega)]
  have : (el + 1) * 4 - 2 = body.length := by omega
  rw [this, takeN_append]

theorem decExtBase_ne_panic (data : Bytes) : decExtBase data ≠ .error .panic := by
  unfold decExtBase
  split
  · rename_i nh el rest
    split
    · simp
    · rename_i hlen
      simp only [List.length_cons] at hlen
      split
      · rename_i htk; exact absurd htk (takeN_ne_none (by omega))
      · simp
  · simp

theorem encOpts_append (a b : List Opt) : encOpts (a ++ b) = encOpts a ++ encOpts b := by
  simp [encOpts]

/-- the padding the serializer inserts is the plain serialization of padding options -/
theorem padBytes_eq (n : Nat) (hn : n ≤ 257) :
    ∃ ps, padBytes n = encOpts ps ∧ (∀ p ∈ ps, p.WF) ∧ contents ps = [] ∧
      (padBytes n).length = n := by
  unfold padBytes
  split
  · rename_i h0; subst h0; exact ⟨[], rfl, by simp, rfl, rfl⟩
  · split
    · rename_i h1; subst h1
      exact ⟨[⟨0, 0, [], 0, 0⟩], rfl, by simp [Opt.WF], rfl, rfl⟩
    · have hm : (n - 2) % 256 = n - 2 := Nat.mod_eq_of_lt (by omega)
      refine ⟨[⟨1, n - 2, List.replicate (n - 2) 0, 0, 0⟩], ?_, ?_, rfl, ?_⟩
      · simp [encOpts, encOpt, hm, fit_eq]
      · simp [Opt.WF]; omega
      · simp [hm]; omega

/-- one option as the `fixLengths` serializer writes it is the plain serialization of the same
option without its alignment request -/
theorem optBytes_eq (o : Opt) (h : o.FixWF) :
    ∃ p, optBytes o = encOpts [p] ∧ p.WF ∧ contents [p] = contents [o] := by
  obtain ⟨h1, h2, h3, _⟩ := h
  refine ⟨⟨o.typ, o.data.length, o.data, 0, 0⟩, ?_, ⟨h1, rfl, h2, h3, rfl, rfl⟩, ?_⟩
  · simp [optBytes, encOpts, encOpt, Nat.mod_eq_of_lt h2, fit_eq]
  · simp only [contents, List.filter_cons, Opt.isPad]
    split <;> rfl

theorem contents_append (a b : List Opt) : contents (a ++ b) = contents a ++ contents b := by
  simp [contents]

theorem pad_lt (len x y : Nat) (hx : x ≠ 0) (hy : y < x) {pad : Nat}
    (hp : pad = (if x * (len / x) + y < len then x * (len / x) + y + x else x * (len / x) + y) - len) :
    pad < x ∧ (len + pad) % x = y := by
  have h1 := Nat.div_add_mod len x
  have h2 := Nat.mod_lt len (Nat.pos_of_ne_zero hx)
  subst hp
  split
  · refine ⟨by omega, ?_⟩
    rw [show len + (x * (len / x) + y + x - len) = x * (len / x + 1) + y by rw [Nat.mul_add]; omega,
      Nat.mul_add_mod, Nat.mod_eq_of_lt hy]
  · refine ⟨by omega, ?_⟩
    rw [show len + (x * (len / x) + y - len) = x * (len / x) + y by omega, Nat.mul_add_mod,
      Nat.mod_eq_of_lt hy]

/-- one turn of the `fixLengths` loop: alignment padding to `x·n + y` (at most 257 bytes, what one
`PadN` option holds: 2 + 255), the option, the rest -/
theorem encOptsFix_cons (len : Nat) (o : Opt) (os : List Opt) (h : o.FixWF) :
    ∃ pad, encOptsFix len (o :: os) =
        padBytes pad ++ optBytes o ++ encOptsFix (len + pad + (optBytes o).length) os ∧
      pad ≤ 257 ∧ (o.alignX ≠ 0 → (len + pad) % o.alignX = o.alignY) := by
  refine ⟨_, rfl, ?_⟩
  rcases h.2.2.2 with h4 | ⟨h4, h5⟩
  · simp [h4]
  · have hx : o.alignX ≠ 0 := by omega
    have := pad_lt len o.alignX o.alignY hx h4 rfl
    simp only [if_pos hx]
    exact ⟨by omega, fun _ => this.2⟩

/-- **FixLengths serialization of an option list**: it is the plain serialization of the list with
padding options inserted, and `len` + bytes is a multiple of 4. -/
theorem encOptsFix_eq (os : List Opt) (hw : ∀ o ∈ os, o.FixWF) (len : Nat) :
    ∃ ds, encOptsFix len os = encOpts ds ∧ (∀ d ∈ ds, d.WF) ∧ contents ds = contents os ∧
      (len + (encOptsFix len os).length) % 4 = 0 := by
  induction os generalizing len with
  | nil =>
    simp only [encOptsFix]
    split
    · obtain ⟨ps, hp, hpw, hc, hl⟩ := padBytes_eq (4 - len % 4) (by omega)
      exact ⟨ps, hp, hpw, hc, by rw [hl]; omega⟩
    · exact ⟨[], rfl, by simp, rfl, by simp; omega⟩
  | cons o os ih =>
    rw [List.forall_mem_cons] at hw
    obtain ⟨pad, he, hpl, _⟩ := encOptsFix_cons len o os hw.1
    obtain ⟨ps, hp, hpw, hpc, hpl'⟩ := padBytes_eq pad hpl
    obtain ⟨p, hpo, hpw', hpoc⟩ := optBytes_eq o hw.1
    obtain ⟨ds, hd, hdw, hdc, hdl⟩ := ih hw.2 (len + pad + (optBytes o).length)
    refine ⟨ps ++ [p] ++ ds, ?_, ?_, ?_, ?_⟩
    · rw [he, encOpts_append, encOpts_append, ← hp, ← hpo, ← hd]
    · simpa [or_imp, forall_and] using ⟨hpw, hpw', hdw⟩
    · rw [contents_append, contents_append, hpc, hpoc, hdc]
      exact (contents_append [o] os).symm
    · rw [he]
      simp only [List.length_append, hpl', ← Nat.add_assoc]
      exact hdl

/-- **Alignment invariant of `serializeTLVOptions(fixLengths)`**: every option of the list is
found in the serialized bytes at an offset (counted from the start of the extension header, i.e.
`len` = 2 for the first) that satisfies its alignment request `offset ≡ y (mod x)`. -/
theorem encOptsFix_aligned (os : List Opt) (hw : ∀ o ∈ os, o.FixWF) (len : Nat) (i : Nat)
    (hi : i < os.length) :
    ∃ pre post, encOptsFix len os = pre ++ optBytes os[i] ++ post ∧
      (os[i].alignX ≠ 0 → (len + pre.length) % os[i].alignX = os[i].alignY) := by
  induction os generalizing len i with
  | nil => simp at hi
  | cons o os ih =>
    rw [List.forall_mem_cons] at hw
    obtain ⟨pad, he, hpl⟩ := encOptsFix_cons len o os hw.1
    rw [he]
    obtain ⟨_, _, _, _, hplen⟩ := padBytes_eq pad hpl.1
    cases i with
    | zero => exact ⟨padBytes pad, _, rfl, by rw [hplen]; exact hpl.2⟩
    | succ j =>
      obtain ⟨pre, post, he', ha⟩ :=
        ih hw.2 (len + pad + (optBytes o).length) j (Nat.lt_of_succ_lt_succ hi)
      refine ⟨padBytes pad ++ optBytes o ++ pre, post, by rw [he']; simp, ?_⟩
      simpa only [List.getElem_cons_succ, List.length_append, hplen, ← Nat.add_assoc] using ha

end Scion.WireExt
