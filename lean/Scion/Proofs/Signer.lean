import Scion.Model.Signer
import Scion.Proofs.Best
/-! Helper lemmas about `Scion.Model.Signer` (loop invariants of `bestChain`, `collect`,
`lastExpiring`).  Used by `Scion.Props.C36`. -/
namespace Scion.Signer
open Scion.Chain

theorem bestStep_scans (ok : ChainInfo → Bool) :
    Scans (ok · = true) (fun c x => ¬ x.notAfter < c.notAfter) id (bestStep ok) := by
  intro acc x
  dsimp only [bestStep, id]
  cases hx : ok x
  · exact .inr ⟨rfl, nofun⟩
  · cases acc with
    | none => exact .inl ⟨rfl, rfl, nofun⟩
    | some a =>
      by_cases hlt : x.notAfter < a.notAfter
      · exact .inr ⟨if_pos hlt, fun _ => ⟨a, rfl, not_not_intro hlt⟩⟩
      · exact .inl ⟨if_neg hlt, rfl, fun _ h => Option.some.inj h ▸ hlt⟩

theorem bestChain_best (ok : ChainInfo → Bool) (cs : List ChainInfo) :
    Best (ok · = true) (fun a b => a.notAfter ≤ b.notAfter) cs (bestChain ok cs) :=
  (Picked.foldl_none (bestStep_scans ok) (by omega) (by omega) cs).best (fun _ => Int.le_refl _)
    (by omega) (by omega)

theorem bestChain_some (ok : ChainInfo → Bool) (cs : List ChainInfo) (b : ChainInfo)
    (h : bestChain ok cs = some b) :
    b ∈ cs ∧ ok b = true ∧ ∀ c ∈ cs, ok c = true → c.notAfter ≤ b.notAfter := by
  have := bestChain_best ok cs
  rwa [h] at this

theorem bestChain_none (ok : ChainInfo → Bool) (cs : List ChainInfo) :
    bestChain ok cs = none ↔ ∀ c ∈ cs, ok c = false := by
  simpa using (bestChain_best ok cs).eq_none_iff

theorem bestOne_skip_iff (cs : List ChainInfo) (t : TrcInfo) :
    bestOne cs t = .skip ↔ ∀ c ∈ cs, c.okLatest = false := by
  rw [← bestChain_none, bestOne]
  cases bestChain (·.okLatest) cs <;> simp

theorem bestTwo_skip_iff (cs : List ChainInfo) (t g : TrcInfo) (z : Int) :
    bestTwo cs t g z = .skip ↔ ∀ c ∈ cs, c.okLatest = false ∧ c.okPred = false := by
  simp only [forall_and, ← bestChain_none, bestTwo]
  cases bestChain (·.okLatest) cs <;> cases bestChain (·.okPred) cs <;> simp

theorem minT_le_left (a b : Int) : minT a b ≤ a := by unfold minT; split <;> omega
theorem minT_le_right (a b : Int) : minT a b ≤ b := by unfold minT; split <;> omega
theorem minT_eq (a b : Int) : minT a b = a ∨ minT a b = b := by unfold minT; split <;> simp
theorem le_minT (a b c : Int) (h1 : c ≤ a) (h2 : c ≤ b) : c ≤ minT a b := by
  unfold minT; split <;> omega

theorem collect_mem (act : ActiveRes) (want : Nat) (z : Int) (ks : List KeyIn)
    (l : List SignerOut) (h : collect act want z ks = .ok l) :
    ∀ s ∈ l, ∃ k ∈ ks, bestForKey act want z k = .signer s := by
  induction ks generalizing l with
  | nil => simp [collect] at h; subst h; simp
  | cons k r ih =>
    unfold collect at h
    split at h
    · cases h
    · cases h
    · intro s hs
      obtain ⟨k', hk', hb⟩ := ih l h s hs
      exact ⟨k', List.mem_cons_of_mem _ hk', hb⟩
    · rename_i s0 hs0
      split at h
      · rename_i l' hl'
        injection h with h; subst h
        intro s hs
        rcases List.mem_cons.1 hs with rfl | hs
        · exact ⟨k, by simp, hs0⟩
        · obtain ⟨k', hk', hb⟩ := ih l' hl' s hs
          exact ⟨k', List.mem_cons_of_mem _ hk', hb⟩
      · cases h

/-- `LastExpiring`'s loop as a scan over an optional champion -/
theorem lastStep_scans :
    Scans (fun _ => True) (fun c s : Int × Int => s.2 > c.2) id fun o s => some (o.elim s (lastStep · s)) := by
  intro acc s
  cases acc with
  | none => exact .inl ⟨rfl, trivial, nofun⟩
  | some c =>
    simp only [Option.elim_some, lastStep, id]
    split
    · rename_i h; exact .inl ⟨rfl, trivial, fun _ e => Option.some.inj e ▸ h⟩
    · rename_i h; exact .inr ⟨rfl, fun _ => ⟨c, rfl, h⟩⟩

theorem lastExpiring_best (signers : List (Int × Int)) (nb na : Int) :
    Best (fun _ => True) (fun a b => a.2 ≤ b.2) (signers.filter fun s => covers s.1 s.2 nb na)
      (lastExpiring signers nb na) := by
  have := (Picked.foldl_none lastStep_scans (by omega) (by omega)
    (signers.filter fun s => covers s.1 s.2 nb na)).best (le := fun a b => a.2 ≤ b.2) (fun _ => Int.le_refl _)
    (by omega) (by omega)
  unfold lastExpiring
  split <;> rename_i hf <;> rw [hf] at this ⊢
  · exact this
  · rwa [List.foldl_cons, List.foldl_hom some (g₁ := lastStep) fun _ _ => rfl] at this

end Scion.Signer
