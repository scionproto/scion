import Scion.Model.Pool
import Scion.Proofs.PairwiseKey
import Scion.Proofs.Progress
/-! Lemmas for C14: every event moves buffers, never copies or drops them. Core Lean only. -/
namespace Scion.Pool

def bufs (h : List (Loc × Buf)) : List Buf := h.map (·.2)

theorem eq_of_nodup_snd (h : List (Loc × Buf)) (hn : (bufs h).Nodup) (p q : Loc × Buf)
    (hp : p ∈ h) (hq : q ∈ h) (he : p.2 = q.2) : p = q :=
  eq_of_mem_of_key_eq (List.pairwise_map.1 hn) hp hq he

theorem moveOne_eq_some {h h' : List (Loc × Buf)} {src dst : Loc} {b : Buf} :
    moveOne h src dst b = some h' ↔ (src, b) ∈ h ∧ h' = h.erase (src, b) ++ [(dst, b)] := by
  unfold moveOne
  split
  · rename_i hin
    rw [Option.some.injEq, eq_comm]
    exact ⟨fun e => ⟨hin, e⟩, fun e => e.2⟩
  · rename_i hin
    exact ⟨fun e => (nomatch e), fun e => absurd e.1 hin⟩

theorem isRun_moveAll (src dst : Loc) :
    IsRun (fun h b => moveOne h src dst b) (fun h bs => moveAll h src dst bs) :=
  ⟨fun _ => rfl, fun h b bs => by simp only [moveAll]; cases moveOne h src dst b <;> rfl⟩

theorem moveAll_cons_some {h h' : List (Loc × Buf)} {src dst : Loc} {b : Buf} {bs : List Buf}
    (hm : moveAll h src dst (b :: bs) = some h') :
    (src, b) ∈ h ∧ moveAll (h.erase (src, b) ++ [(dst, b)]) src dst bs = some h' := by
  obtain ⟨h1, hb, hm⟩ := (isRun_moveAll src dst).cons_iff.1 hm
  obtain ⟨hin, rfl⟩ := moveOne_eq_some.1 hb
  exact ⟨hin, hm⟩

/-- what each single move of a batch preserves, the batch preserves -/
theorem moveAll_preserves {P : List (Loc × Buf) → Prop} {src dst : Loc}
    (hmove : ∀ h b, (src, b) ∈ h → P h → P (h.erase (src, b) ++ [(dst, b)])) {bs : List Buf}
    {h h' : List (Loc × Buf)} (hm : moveAll h src dst bs = some h') : P h → P h' :=
  (isRun_moveAll src dst).preserves (fun h b h1 hb hP => by
    obtain ⟨hin, rfl⟩ := moveOne_eq_some.1 hb
    exact hmove h b hin hP) hm

theorem step_moveAll (s s' : State) (e : Ev) (hs : step s e = some s') :
    moveAll s.holdings e.move.1 e.move.2.1 e.move.2.2 = some s'.holdings := by
  unfold step at hs
  dsimp only at hs
  split at hs
  · cases hs
  · split at hs
    · split at hs
      · cases hm : moveAll s.holdings (Ev.rxRead _ _).move.1 (Ev.rxRead _ _).move.2.1
            (Ev.rxRead _ _).move.2.2 with
        | none => rw [hm] at hs; cases hs
        | some h' => rw [hm] at hs; cases hs; rfl
      · cases hs
    · cases hm : moveAll s.holdings e.move.1 e.move.2.1 e.move.2.2 with
      | none => rw [hm] at hs; cases hs
      | some h' => rw [hm] at hs; cases hs; rfl

theorem isRun_run : IsRun step run :=
  ⟨fun _ => rfl, fun s e es => by simp only [run]; cases step s e <;> rfl⟩

theorem bufs_move (h : List (Loc × Buf)) (src dst : Loc) (b : Buf) (hin : (src, b) ∈ h) :
    (bufs (h.erase (src, b) ++ [(dst, b)])).Perm (bufs h) := by
  have h1 : (bufs h).Perm (b :: bufs (h.erase (src, b))) :=
    (List.perm_cons_erase hin).map (fun p : Loc × Buf => p.2)
  have h2 : (bufs (h.erase (src, b) ++ [(dst, b)])).Perm (b :: bufs (h.erase (src, b))) := by
    simp only [bufs, List.map_append, List.map_cons, List.map_nil]
    exact List.perm_append_comm
  exact h2.trans h1.symm

theorem step_perm (s s' : State) (e : Ev) (hs : step s e = some s') :
    (bufs s'.holdings).Perm (bufs s.holdings) :=
  moveAll_preserves (P := fun x => (bufs x).Perm (bufs s.holdings))
    (fun x b hin hP => (bufs_move x _ _ b hin).trans hP) (step_moveAll s s' e hs)
    (List.Perm.refl _)

theorem run_perm (es : List Ev) (s s' : State) (h : run s es = some s') :
    (bufs s'.holdings).Perm (bufs s.holdings) :=
  isRun_run.preserves (P := fun x => (bufs x.holdings).Perm (bufs s.holdings))
    (fun x e x' hs hP => (step_perm x x' e hs).trans hP) h (List.Perm.refl _)

theorem bufs_init (n : Nat) : bufs (init n).holdings = List.range n := by
  simp only [bufs, init, List.map_map]
  have : ((fun x : Loc × Buf => x.2) ∘ fun b => (Loc.pool, b)) = id := rfl
  rw [this, List.map_id]

/-! ### Nothing is lost unless `bfdSend.Send` fails to serialise -/

def NoLost (h : List (Loc × Buf)) : Prop := ∀ p ∈ h, p.1 ≠ Loc.lost

theorem dst_ne_lost (e : Ev) (he : e.isSerializeError = false) : e.move.2.1 ≠ .lost := by
  cases e <;> simp [Ev.move] <;> simp [Ev.isSerializeError] at he

theorem step_noLost (s s' : State) (e : Ev) (he : e.isSerializeError = false)
    (hs : step s e = some s') (hn : NoLost s.holdings) : NoLost s'.holdings := by
  refine moveAll_preserves (fun h b _ hn p hp => ?_) (step_moveAll s s' e hs) hn
  rcases List.mem_append.mp hp with h1 | h1
  · exact hn p (List.mem_of_mem_erase h1)
  · rw [List.mem_singleton.mp h1]; exact dst_ne_lost e he

theorem run_noLost : ∀ (es : List Ev) (s s' : State), run s es = some s' →
    (∀ e ∈ es, e.isSerializeError = false) → NoLost s.holdings → NoLost s'.holdings := by
  refine isRun_run.induction (fun _ _ hn => hn) ?_
  intro s e s1 es s' hs ih hser hn
  exact ih (fun x hx => hser x (List.mem_cons_of_mem _ hx))
    (step_noLost s s1 e (hser e List.mem_cons_self) hs hn)

theorem noLost_init (n : Nat) : NoLost (init n).holdings := by
  intro p hp
  simp only [init, List.mem_map] at hp
  obtain ⟨b, _, rfl⟩ := hp
  intro h; cases h

end Scion.Pool
