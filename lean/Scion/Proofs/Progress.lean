/-! Runs of a step function. Under a schedule, `tr (n + 1) = step (tr n) (sched n)`: what is related
step by step is related along the run, and the UNITY rule "`P` ensures `Q`" under a schedule that
takes the helpful action again and again. Over a list, for a partial step (`IsRun`): induction over
the successful runs. Core Lean only. -/
namespace Scion

theorem rel_of_le {β : Type} {R : β → β → Prop} (hrefl : ∀ x, R x x)
    (htrans : ∀ x y z, R x y → R y z → R x z) {g : Nat → β} (h : ∀ n, R (g n) (g (n + 1)))
    {n m : Nat} (hnm : n ≤ m) : R (g n) (g m) := by
  induction hnm with
  | refl => exact hrefl _
  | step _ ih => exact htrans _ _ _ ih (h _)

/-- "`P` ensures `Q`" along a run `tr` of `step` under `sched` inside an invariant `I`: every step
keeps `P` until `Q` holds, and the step `act`, which is taken again and again, cannot keep `P`
without establishing `Q`. -/
theorem ensures {σ α : Type} {step : σ → α → σ} {sched : Nat → α} {tr : Nat → σ}
    {I P Q : σ → Prop} {act : α} (htr : ∀ n, tr (n + 1) = step (tr n) (sched n))
    (hI : ∀ n, I (tr n)) (hf : ∀ n, ∃ m, n ≤ m ∧ sched m = act)
    (hstab : ∀ c x, I c → P c → P (step c x) ∨ Q (step c x))
    (hact : ∀ c, I c → P c → P (step c act) → Q (step c act)) :
    ∀ n, P (tr n) → ∃ m, n ≤ m ∧ Q (tr m) := by
  intro n hp
  obtain ⟨m, hm, hs⟩ := hf n
  obtain ⟨k, rfl⟩ : ∃ k, m = n + k := ⟨m - n, by omega⟩
  clear hm
  -- induction on the distance to the next occurrence of `act`
  induction k generalizing n with
  | zero =>
    refine ⟨n + 1, by omega, ?_⟩
    have hs : sched n = act := hs
    rw [htr, hs]
    exact (hstab _ act (hI n) hp).elim (hact _ (hI n) hp) id
  | succ k ih =>
    rcases hstab _ (sched n) (hI n) hp with hp' | hq
    · rw [← htr] at hp'
      obtain ⟨m, hm, hq⟩ := ih (n + 1) hp' (by rw [← hs]; congr 1; omega)
      exact ⟨m, by omega, hq⟩
    · rw [← htr] at hq
      exact ⟨n + 1, by omega, hq⟩

/-- `run` iterates the partial function `step` over a list and is stuck (`none`) as soon as a step
is -/
structure IsRun {σ α : Type} (step : σ → α → Option σ) (run : σ → List α → Option σ) : Prop where
  nil : ∀ s, run s [] = some s
  cons : ∀ s a as, run s (a :: as) = (step s a).bind fun s1 => run s1 as

namespace IsRun
variable {σ α : Type} {step : σ → α → Option σ} {run : σ → List α → Option σ} (hr : IsRun step run)
include hr

theorem cons_iff {s s' : σ} {a : α} {as : List α} :
    run s (a :: as) = some s' ↔ ∃ s1, step s a = some s1 ∧ run s1 as = some s' := by
  rw [hr.cons, Option.bind_eq_some_iff]

theorem induction {M : σ → List α → σ → Prop} (nil : ∀ s, M s [] s)
    (cons : ∀ s a s1 as s', step s a = some s1 → M s1 as s' → M s (a :: as) s') :
    ∀ as s s', run s as = some s' → M s as s' := by
  intro as
  induction as with
  | nil => intro s s' h; rw [hr.nil] at h; cases h; exact nil s
  | cons a as ih =>
    intro s s' h
    obtain ⟨s1, hs, h1⟩ := hr.cons_iff.1 h
    exact cons s a s1 as s' hs (ih s1 s' h1)

/-- what every step preserves, a run preserves -/
theorem preserves {P : σ → Prop} (hstep : ∀ s a s', step s a = some s' → P s → P s')
    {as : List α} {s s' : σ} (h : run s as = some s') : P s → P s' :=
  hr.induction (M := fun s _ s' => P s → P s') (fun _ hP => hP)
    (fun s a s1 _ _ hs ih hP => ih (hstep s a s1 hs hP)) as s s' h

end IsRun

end Scion
