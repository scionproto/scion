import Scion.Util.Hex
/-! A byte string of known length written out, so that decoders defined by patterns on list literals compute. -/
namespace Scion.Util

theorem list4_of_length {l : Bytes} (h : l.length = 4) : ∃ a b c d, l = [a, b, c, d] := by
  match l, h with
  | [a, b, c, d], _ => exact ⟨a, b, c, d, rfl⟩

theorem list8_of_length {l : Bytes} (h : l.length = 8) :
    ∃ a b c d e f g k, l = [a, b, c, d, e, f, g, k] := by
  match l, h with
  | [a, b, c, d, e, f, g, k], _ => exact ⟨a, b, c, d, e, f, g, k, rfl⟩

theorem list12_of_length {l : Bytes} (h : l.length = 12) :
    ∃ a b c d e f g k x y z w, l = [a, b, c, d, e, f, g, k, x, y, z, w] := by
  match l, h with
  | [a, b, c, d, e, f, g, k, x, y, z, w], _ => exact ⟨a, b, c, d, e, f, g, k, x, y, z, w, rfl⟩

end Scion.Util
