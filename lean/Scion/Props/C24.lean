import Scion.Props.C38
import Scion.Proofs.SegBinding
import Scion.Proofs.SegVerify
import Scion.Gen.SegVerify
/-!
# C24 — Segment verification detects any alteration of signed content

Model: `Scion.Model.SegVerify` on top of `Scion.Model.Signed` (tied to
`pkg/segment`, `private/segment/segverifier`, `private/trust/verifier.go` by
`harness/cmd/segverify`).  Signatures are symbolic: the hypotheses `C38.Ideal` / `C38.Complete`
(and, for the mutation theorem, `SigPrefixFree`) are about the primitive, everything else is proved.
-/
namespace Scion.C24
open Scion.Signed Scion.SegVerify Scion.Util Scion.C38

/-! ## What the loop of `VerifySegment` computes -/

theorem verifyFrom_none_iff {SK PK : Type} (P : Parsers) (S : Scheme SK PK) (certs : List (Cert PK))
    (info : Bytes) (ts : Int) (es : List RawEntry) : ∀ earlier : List RawEntry,
    verifyFrom P S certs info ts earlier es = none ↔
      ∀ a e b, es = a ++ e :: b → verifyEntry P S certs info ts (earlier ++ a) e = true := by
  induction es with
  | nil =>
    intro earlier
    simp [verifyFrom]
  | cons x t ih =>
    intro earlier
    rw [verifyFrom]
    by_cases hx : verifyEntry P S certs info ts earlier x = true
    · rw [if_pos hx, ih]
      constructor
      · intro h a e b hsplit
        cases a with
        | nil => cases hsplit; simpa using hx
        | cons y a' => cases hsplit; simpa using h a' e b rfl
      · intro h a e b hsplit
        simpa using h (x :: a) e b (by rw [hsplit]; rfl)
    · rw [if_neg hx]
      exact iff_of_false (by simp) fun h => hx (by simpa using h [] x t rfl)

/-- the failing index reported is the first entry that does not verify -/
theorem verifyFrom_some {SK PK : Type} (P : Parsers) (S : Scheme SK PK) (certs : List (Cert PK))
    (info : Bytes) (ts : Int) (es : List RawEntry) : ∀ (earlier : List RawEntry) (i : Nat),
    verifyFrom P S certs info ts earlier es = some i →
      ∃ a e b, es = a ++ e :: b ∧ i = earlier.length + a.length ∧
        verifyEntry P S certs info ts (earlier ++ a) e = false ∧
        verifyFrom P S certs info ts earlier a = none := by
  induction es with
  | nil => intro earlier i h; simp [verifyFrom] at h
  | cons x t ih =>
    intro earlier i h
    simp only [verifyFrom] at h
    split at h
    · rename_i hx
      obtain ⟨a, e, b, hs, hi, hf, hp⟩ := ih (earlier ++ [x]) i h
      refine ⟨x :: a, e, b, by simp [hs], by simp [hi]; omega, by simpa [List.append_assoc] using hf, ?_⟩
      simp only [verifyFrom, hx, if_true]
      exact hp
    · rename_i hx
      cases h
      exact ⟨[], x, t, rfl, by simp, by simpa using hx, by simp [verifyFrom]⟩

/-- **`verifySegment_iff` (decision logic).**  A segment verifies iff its info and all entries
parse and every AS entry `e` passes `Verifier.Verify` bound to that entry's ISD-AS and to the
validity `[ts, ts + lifetime(exp)]`, with the associated data `info, hb₀, sig₀, …` of all earlier
entries. -/
theorem verifySegment_iff {SK PK : Type} (P : Parsers) (S : Scheme SK PK) (certs : List (Cert PK))
    (seg : RawSeg) :
    verifySegment P S certs seg = .ok ↔
      ∃ ts, P.info seg.info = some ts ∧ (∀ e ∈ seg.entries, (entryView P e).isSome = true) ∧
        ∀ a e b, seg.entries = a ++ e :: b → verifyEntry P S certs seg.info ts a e = true := by
  unfold verifySegment
  cases hi : P.info seg.info with
  | none => simp
  | some ts =>
    have key := verifyFrom_none_iff P S certs seg.info ts seg.entries []
    simp only [List.nil_append] at key
    simp only [Option.some.injEq, exists_eq_left', ← key, List.all_eq_true]
    split
    · next hall => cases verifyFrom P S certs seg.info ts [] seg.entries <;> simp <;> exact hall
    · next hall => simp [hall]

/-- what the verifier establishes for one entry: the guards of `Verifier.Verify` and of
`signed.Verify` -/
theorem verifyEntry_true {SK PK : Type} (P : Parsers) (S : Scheme SK PK) (certs : List (Cert PK))
    (info : Bytes) (ts : Int) (earlier : List RawEntry) (e : RawEntry)
    (hv : verifyEntry P S certs info ts earlier e = true) :
    ∃ h b ia exp k c, extract P.F e.hb = some (h, b) ∧ P.body b = some (ia, exp) ∧
      P.keyId h.keyId = some k ∧ k.skid ≠ [] ∧ (ia = 0 ∨ k.ia = ia) ∧ isWildcard k.ia = false ∧
      c ∈ certs ∧ c.ia = k.ia ∧ c.skid = k.skid ∧
      c.nb ≤ ts * 1000000000 ∧ ts * 1000000000 + expDur exp ≤ c.na ∧
      verifyMsg P.F S e.msg (some c.pk) (assocData info earlier) = .ok (h, b) := by
  unfold verifyEntry at hv
  split at hv
  · cases hv
  rename_i ia exp hview
  obtain ⟨h, b, k, c, hx, hk, hsk, hbound, hw, hc, hok⟩ := (verifierVerify_eq_true_iff ..).1 hv
  have hx' : extract P.F e.hb = some (h, b) := hx
  simp only [entryView, hx'] at hview
  obtain ⟨hmem, hia, hskid, hnb, hna⟩ := mem_chains.1 hc
  refine ⟨h, b, ia, exp, k, c, hx, hview, hk, hsk, hbound, hw, hmem, hia, hskid, hnb, hna, ?_⟩
  -- `signed.Verify` returns the header and body `extract` sees
  cases hr : verifyMsg P.F S e.msg (some c.pk) (assocData info earlier) with
  | error err => rw [hr] at hok; cases hok
  | ok v =>
    obtain ⟨e', u', po, ph, _⟩ := verifyMsg_ok P.F S _ c.pk _ v.1 v.2 hr
    have := extract_eq_some.2 ⟨e', u', po, ph⟩
    rw [hx] at this
    cases this
    rfl

/-- `ASEntryFromPB` rejects wildcard (in particular zero) local ISD-AS values: an assumption on
the parser (checked by the engine on every parsed entry) -/
def BodyNoWildcard (P : Parsers) : Prop :=
  ∀ b ia exp, P.body b = some (ia, exp) → isWildcard ia = false

theorem isWildcard_zero : isWildcard 0 = true := by decide

/-- **`verifySegment_sound` — the "only if" of the statement.**  Under ideal signatures, if a
segment verifies then every AS entry was signed — by the private key of a certificate in the trust
DB that is issued for exactly the ISD-AS named in that (signed) entry and whose validity covers
`[ts, ts + lifetime(exp)]` of that entry's hop field — over exactly: the entry (header `h`, body
`b`), the segment info, and all earlier entries' `HeaderAndBody ‖ Signature`. -/
theorem verifySegment_sound {SK PK : Type} (P : Parsers) (S : Scheme SK PK) (certs : List (Cert PK))
    (hist : List (Call SK)) (hE : EmptyHdrUnknown P.F) (hF : ∀ c ∈ hist, SoundFor P.F c.h c.body)
    (hI : Ideal S hist) (hW : BodyNoWildcard P) (seg : RawSeg)
    (hv : verifySegment P S certs seg = .ok) :
    ∃ ts, P.info seg.info = some ts ∧
      ∀ a e b, seg.entries = a ++ e :: b →
        ∃ h body ia exp c, e.hb = enc h body ∧ P.body body = some (ia, exp) ∧
          c ∈ certs ∧ c.ia = ia ∧ c.nb ≤ ts * 1000000000 ∧ ts * 1000000000 + expDur exp ≤ c.na ∧
          SignedBy S hist c.pk h body (assocData seg.info a).flatten := by
  obtain ⟨ts, hts, _, hall⟩ := (verifySegment_iff P S certs seg).mp hv
  refine ⟨ts, hts, ?_⟩
  intro a e b hsplit
  obtain ⟨h, body, ia, exp, k, c, _, hbody, _, _, hbound, _, hc, hcia, _, hnb, hna, hmsg⟩ :=
    verifyEntry_true P S certs seg.info ts a e (hall a e b hsplit)
  obtain ⟨hsigned, hhb⟩ := verify_returns_signed P.F S hist hE hF hI e.msg c.pk _ h body hmsg
  have hia : k.ia = ia := by
    rcases hbound with h0 | h1
    · have := hW body ia exp hbody
      rw [h0, isWildcard_zero] at this; cases this
    · exact h1
  exact ⟨h, body, ia, exp, c, hhb, hbody, hc, by rw [hcia, hia], hnb, hna, hsigned⟩

/-- **`prefix_verifies`.**  Dropping trailing entries leaves a verifiable prefix. -/
theorem prefix_verifies {SK PK : Type} (P : Parsers) (S : Scheme SK PK) (certs : List (Cert PK))
    (info : Bytes) (es : List RawEntry) (n : Nat)
    (hv : verifySegment P S certs ⟨info, es⟩ = .ok) :
    verifySegment P S certs ⟨info, es.take n⟩ = .ok := by
  obtain ⟨ts, hts, hparse, hall⟩ := (verifySegment_iff P S certs ⟨info, es⟩).mp hv
  apply (verifySegment_iff P S certs ⟨info, es.take n⟩).mpr
  refine ⟨ts, hts, fun e he => hparse e (List.mem_of_mem_take he), ?_⟩
  intro a e b hsplit
  apply hall a e (b ++ es.drop n)
  have : es = es.take n ++ es.drop n := (List.take_append_drop n es).symm
  simp only at hsplit
  rw [hsplit] at this
  simpa [List.append_assoc] using this

/-! ## Honestly built segments and the mutation clauses -/

/-- `PathSegment.AddASEntry` repeated: the `i`-th call signs with the associated data of the entries
added so far, and entry `i` is its result.  `earlier` are the entries already in the segment. -/
def BuiltFrom {SK PK : Type} (S : Scheme SK PK) (info : Bytes) :
    List RawEntry → List (Call SK) → List RawEntry → Prop
  | _, [], [] => True
  | earlier, c :: cs, e :: es =>
    c.ad = assocData info earlier ∧ c.run S = .ok e.msg ∧ BuiltFrom S info (earlier ++ [e]) cs es
  | _, _, _ => False

theorem built_spec {SK PK : Type} (S : Scheme SK PK) (info : Bytes) (earlier : List RawEntry)
    (cs : List (Call SK)) (es : List RawEntry) (hb : BuiltFrom S info earlier cs es) :
    (∀ c ∈ cs, ∃ a e b, es = a ++ e :: b ∧ c.ad = assocData info (earlier ++ a) ∧
      c.run S = .ok e.msg) ∧
    ∀ a e b, es = a ++ e :: b →
      ∃ c ∈ cs, c.ad = assocData info (earlier ++ a) ∧ c.run S = .ok e.msg := by
  induction earlier, cs, es using BuiltFrom.induct with
  | case1 => exact ⟨fun _ hc => (nomatch hc), fun a e b hs => by simp at hs⟩
  | case2 earlier c0 cs e0 es ih =>
    obtain ⟨h1, h2, h3⟩ := hb
    obtain ⟨ihc, ihs⟩ := ih h3
    constructor
    · intro c hc
      rcases List.mem_cons.mp hc with rfl | hc'
      · exact ⟨[], e0, es, rfl, by simpa using h1, h2⟩
      · obtain ⟨a, e, b, hs, had, hrun⟩ := ihc c hc'
        exact ⟨e0 :: a, e, b, by simp [hs], by simpa [List.append_assoc] using had, hrun⟩
    · intro a e b hs
      cases a with
      | nil => cases hs; exact ⟨c0, by simp, by simpa using h1, h2⟩
      | cons y a' =>
        cases hs
        obtain ⟨c, hc, had, hrun⟩ := ihs a' e b rfl
        exact ⟨c, by simp [hc], by simpa [List.append_assoc] using had, hrun⟩
  | case3 => simp [BuiltFrom] at hb

theorem built_entry {SK PK : Type} (S : Scheme SK PK) (info : Bytes) (cs : List (Call SK))
    (es earlier : List RawEntry) (hb : BuiltFrom S info earlier cs es) :
    ∀ e ∈ es, ∃ c ∈ cs, c.run S = .ok e.msg := by
  intro e he
  obtain ⟨a, b, hs⟩ := List.append_of_mem he
  obtain ⟨c, hc, _, hrun⟩ := (built_spec S info earlier cs es hb).2 a e b hs
  exact ⟨c, hc, hrun⟩

/-- what makes a signing call acceptable to the verifier: its key id names a certificate in the
trust DB for the ISD-AS in the signed body, covering the hop field's lifetime, with the signer's
public key -/
def Certified {SK PK : Type} (P : Parsers) (S : Scheme SK PK) (certs : List (Cert PK)) (ts : Int)
    (c : Call SK) : Prop :=
  ∃ k ia exp cert, P.keyId c.h.keyId = some k ∧ k.skid ≠ [] ∧ P.body c.body = some (ia, exp) ∧
    k.ia = ia ∧ isWildcard ia = false ∧ cert ∈ certs ∧ cert.ia = ia ∧ cert.skid = k.skid ∧
    cert.nb ≤ ts * 1000000000 ∧ ts * 1000000000 + expDur exp ≤ cert.na ∧ cert.pk = S.pub c.sk

/-- **`verifySegment_complete` — the "if" of the statement.**  A segment built by `AddASEntry`
calls whose signers are certified for the entry's ISD-AS with a covering certificate verifies. -/
theorem verifySegment_complete {SK PK : Type} (P : Parsers) (S : Scheme SK PK)
    (certs : List (Cert PK)) (cs : List (Call SK)) (info : Bytes) (es : List RawEntry) (ts : Int)
    (hbuilt : BuiltFrom S info [] cs es) (hF : ∀ c ∈ cs, SoundFor P.F c.h c.body)
    (hC : Complete S cs) (hts : P.info info = some ts)
    (hcert : ∀ c ∈ cs, Certified P S certs ts c) :
    verifySegment P S certs ⟨info, es⟩ = .ok := by
  apply (verifySegment_iff P S certs ⟨info, es⟩).mpr
  have key : ∀ a e b, es = a ++ e :: b →
      (entryView P e).isSome = true ∧ verifyEntry P S certs info ts a e = true := by
    intro a e b hs
    obtain ⟨c, hc, had, hrun⟩ := (built_spec S info [] cs es hbuilt).2 a e b hs
    simp only [List.nil_append] at had
    obtain ⟨k, ia, exp, cert, hk, hsk, hbody, hkia, hw, hmem, hcia, hcsk, hnb, hna, hpk⟩ := hcert c hc
    obtain ⟨hhb, _⟩ := signMsg_ok S c.h c.body c.sk c.rnd c.ad e.msg hrun
    have hhb' : e.hb = enc c.h c.body := hhb
    have hex : extract P.F e.hb = some (c.h, c.body) := by
      simp [extract, hhb', (hF c hc).outer, (hF c hc).hdr]
    have hview : entryView P e = some (ia, exp) := by simp [entryView, hex, hbody]
    have hmsg := sign_then_verify P.F S cs hC c hc (hF c hc) e.msg hrun (assocData info a)
      (by rw [had])
    refine ⟨by simp [hview], ?_⟩
    simp only [verifyEntry, hview]
    refine (verifierVerify_eq_true_iff ..).2 ⟨c.h, c.body, k, cert, hex, hk, hsk, .inr hkia,
      hkia ▸ hw, mem_chains.2 ⟨hmem, hcia.trans hkia.symm, hcsk, hnb, hna⟩, ?_⟩
    rw [hpk, hmsg]
    rfl
  refine ⟨ts, hts, ?_, fun a e b hs => (key a e b hs).2⟩
  intro e he
  obtain ⟨a, b, hs⟩ := List.append_of_mem he
  exact (key a e b hs).1

theorem enc_ne_nil (h : Header) (b : Bytes) (hk : algoKnown h.algo = true) : enc h b ≠ [] := by
  have := encHeader_ne_nil h hk
  simp [enc, encHdrAndBody, lenDelim_of_ne_nil _ this]

theorem built_hb_ne_nil {SK PK : Type} (S : Scheme SK PK) (info : Bytes) (cs : List (Call SK))
    (es : List RawEntry) (hbuilt : BuiltFrom S info [] cs es) : ∀ x ∈ es, x.hb ≠ [] := by
  intro x hx
  obtain ⟨c, _, hrun⟩ := built_entry S info cs es [] hbuilt x hx
  obtain ⟨hhb, _, _, hk, _⟩ := signMsg_ok S c.h c.body c.sk c.rnd c.ad x.msg hrun
  rw [show x.hb = enc c.h c.body from hhb]
  exact enc_ne_nil _ _ hk

/-- DER-encoded ECDSA signatures are self-delimiting (`ecdsa.VerifyASN1` rejects trailing bytes):
an accepted signature is never a proper prefix of another accepted signature.  An assumption on the
primitive, like `Ideal`. -/
def SigPrefixFree {SK PK : Type} (S : Scheme SK PK) : Prop :=
  ∀ pk a m σ pk' a' m' x, S.verify pk a m σ = true → S.verify pk' a' m' (σ ++ x) = true → x = []

/-- **The mutation theorem.**  Let `(info, es)` be a segment built honestly by the calls `cs`, and
let these be all the signatures the key holders ever made (ideal signatures).  If ANY segment
`(info', es')` verifies, then `es'` is a contiguous run of `es` — same entries in the same order,
nothing altered, removed from the middle, inserted or reordered, every signature but the last one
identical — and `info'` is `info` followed by the bytes of the entries before the run. -/
theorem verified_is_run_of_signed {SK PK : Type} (P : Parsers) (S : Scheme SK PK)
    (certs : List (Cert PK)) (cs : List (Call SK)) (info : Bytes) (es : List RawEntry)
    (hbuilt : BuiltFrom S info [] cs es)
    (hE : EmptyHdrUnknown P.F) (hF : ∀ c ∈ cs, SoundFor P.F c.h c.body)
    (hI : Ideal S cs) (hC : Complete S cs) (hPF : SigPrefixFree S)
    (info' : Bytes) (es' : List RawEntry) (hne' : es' ≠ [])
    (hv : verifySegment P S certs ⟨info', es'⟩ = .ok) :
    ∃ a m b, es = a ++ m ++ b ∧ info' = info ++ flatE a ∧ Agree es' m := by
  let V : Bytes → Prop := fun σ => ∃ pk algo m, S.verify pk algo m σ = true
  have PF : ∀ σ x, V σ → V (σ ++ x) → x = [] := by
    rintro σ x ⟨pk, a, m, h1⟩ ⟨pk', a', m', h2⟩
    exact hPF pk a m σ pk' a' m' x h1 h2
  have hne := built_hb_ne_nil S info cs es hbuilt
  have hV : ∀ x ∈ es, V x.sig := by
    intro x hx
    obtain ⟨c, hc, hrun⟩ := built_entry S info cs es [] hbuilt x hx
    exact ⟨_, _, _, hC c hc x.msg hrun⟩
  obtain ⟨ts, _, _, hall⟩ := (verifySegment_iff P S certs ⟨info', es'⟩).mp hv
  have hB : Bound V info es info' es' := by
    intro a' e' b' hsplit
    obtain ⟨h, body, _, _, _, c, _, _, _, _, _, _, _, _, _, _, _, hmsg⟩ :=
      verifyEntry_true P S certs info' ts a' e' (hall a' e' b' hsplit)
    obtain ⟨_, _, _, _, _, _, _, _, hsig⟩ := verifyMsg_ok P.F S e'.msg c.pk _ h body hmsg
    refine ⟨⟨_, _, _, hsig⟩, ?_⟩
    obtain ⟨⟨call, hcall, msg, _, hh, hb, had, hrun⟩, hhb⟩ :=
      verify_returns_signed P.F S cs hE hF hI e'.msg c.pk _ h body hmsg
    obtain ⟨a, e, b, hs, hcad, hrun'⟩ := (built_spec S info [] cs es hbuilt).1 call hcall
    obtain ⟨hehb, _⟩ := signMsg_ok S call.h call.body call.sk call.rnd call.ad e.msg hrun'
    refine ⟨a, e, b, hs, ?_, ?_⟩
    · have h1 : e'.hb = enc h body := hhb
      have h2 : e.hb = enc call.h call.body := hehb
      rw [h1, h2, hh, hb]
    · rw [hcad] at had
      simp only [List.nil_append, assocData_flatten] at had
      exact had.symm
  exact bound_is_run PF hne hV es' info' hne' hB

/-- **Same segment info ⇒ a prefix.**  With the segment info untouched, whatever verifies is a
prefix of the signed segment: the signed `HeaderAndBody` of the entries form a prefix of the
original ones, and all entries but the last (signatures included) are the original entries.
Hence altering, reordering, removing (other than trailing) or inserting an entry, or altering an
earlier signature, makes verification fail. -/
theorem verified_same_info_is_prefix {SK PK : Type} (P : Parsers) (S : Scheme SK PK)
    (certs : List (Cert PK)) (cs : List (Call SK)) (info : Bytes) (es : List RawEntry)
    (hbuilt : BuiltFrom S info [] cs es)
    (hE : EmptyHdrUnknown P.F) (hF : ∀ c ∈ cs, SoundFor P.F c.h c.body)
    (hI : Ideal S cs) (hC : Complete S cs) (hPF : SigPrefixFree S)
    (es' : List RawEntry) (hv : verifySegment P S certs ⟨info, es'⟩ = .ok) :
    es'.map (·.hb) <+: es.map (·.hb) ∧ es'.dropLast <+: es := by
  by_cases hne' : es' = []
  · subst hne'; simp
  obtain ⟨a, m, b, hes, hinfo, hag⟩ := verified_is_run_of_signed P S certs cs info es hbuilt hE hF hI
    hC hPF info es' hne' hv
  have hne := built_hb_ne_nil S info cs es hbuilt
  have ha := flatE_eq_nil (fun x hx => hne x (by rw [hes]; simp [hx]))
    (List.self_eq_append_right.1 hinfo)
  subst ha
  obtain ⟨h1, h2⟩ := hag.map_hb
  simp only [List.nil_append] at hes
  constructor
  · rw [h1, hes, List.map_append]; exact List.prefix_append _ _
  · rw [h2, hes]
    exact (List.dropLast_prefix m).trans (List.prefix_append _ _)

/-- **Altering an entry is detected**: if the candidate has the original info and, at some
position, an entry whose signed bytes differ from the original entry at that position, it does not
verify. -/
theorem altered_entry_rejected {SK PK : Type} (P : Parsers) (S : Scheme SK PK)
    (certs : List (Cert PK)) (cs : List (Call SK)) (info : Bytes) (es : List RawEntry)
    (hbuilt : BuiltFrom S info [] cs es)
    (hE : EmptyHdrUnknown P.F) (hF : ∀ c ∈ cs, SoundFor P.F c.h c.body)
    (hI : Ideal S cs) (hC : Complete S cs) (hPF : SigPrefixFree S)
    (a : List RawEntry) (x x' : RawEntry) (b b' : List RawEntry) (hes : es = a ++ x :: b)
    (halt : x'.hb ≠ x.hb) :
    verifySegment P S certs ⟨info, a ++ x' :: b'⟩ ≠ .ok := by
  intro hv
  obtain ⟨hp, _⟩ := verified_same_info_is_prefix P S certs cs info es hbuilt hE hF hI hC hPF _ hv
  rw [hes] at hp
  simp only [List.map_append, List.map_cons] at hp
  have := (List.prefix_append_right_inj _).mp hp
  exact halt (List.cons_prefix_cons.mp this).1

/-- **Altering an earlier signature is detected**: same signed bytes, but a different signature on
an entry that is followed by at least one more entry. -/
theorem altered_earlier_signature_rejected {SK PK : Type} (P : Parsers) (S : Scheme SK PK)
    (certs : List (Cert PK)) (cs : List (Call SK)) (info : Bytes) (es : List RawEntry)
    (hbuilt : BuiltFrom S info [] cs es)
    (hE : EmptyHdrUnknown P.F) (hF : ∀ c ∈ cs, SoundFor P.F c.h c.body)
    (hI : Ideal S cs) (hC : Complete S cs) (hPF : SigPrefixFree S)
    (a : List RawEntry) (x x' y : RawEntry) (b b' : List RawEntry) (hes : es = a ++ x :: b)
    (halt : x' ≠ x) :
    verifySegment P S certs ⟨info, a ++ x' :: y :: b'⟩ ≠ .ok := by
  intro hv
  obtain ⟨_, hp⟩ := verified_same_info_is_prefix P S certs cs info es hbuilt hE hF hI hC hPF _ hv
  have hdl : (a ++ x' :: y :: b').dropLast = a ++ x' :: (y :: b').dropLast := by
    rw [List.dropLast_append_of_ne_nil (by simp)]
    simp
  rw [hdl, hes] at hp
  have := (List.prefix_append_right_inj _).mp hp
  exact halt (List.cons_prefix_cons.mp this).1

/-- **Altering the segment information is detected** (any change that does not extend the info by
exactly the bytes of leading entries — in particular any change of the timestamp or segment id in
place, or any shorter or equally long info). -/
theorem altered_info_rejected {SK PK : Type} (P : Parsers) (S : Scheme SK PK)
    (certs : List (Cert PK)) (cs : List (Call SK)) (info : Bytes) (es : List RawEntry)
    (hbuilt : BuiltFrom S info [] cs es)
    (hE : EmptyHdrUnknown P.F) (hF : ∀ c ∈ cs, SoundFor P.F c.h c.body)
    (hI : Ideal S cs) (hC : Complete S cs) (hPF : SigPrefixFree S)
    (info' : Bytes) (es' : List RawEntry) (hne' : es' ≠ []) (halt : info' ≠ info)
    (hlen : info'.length ≤ info.length) :
    verifySegment P S certs ⟨info', es'⟩ ≠ .ok := by
  intro hv
  obtain ⟨a, m, b, _, hinfo, _⟩ := verified_is_run_of_signed P S certs cs info es hbuilt hE hF hI
    hC hPF info' es' hne' hv
  have hl := congrArg List.length hinfo
  simp only [List.length_append] at hl
  have : flatE a = [] := List.eq_nil_of_length_eq_zero (by omega)
  rw [this, List.append_nil] at hinfo
  exact halt hinfo

/-! ## Non-vacuity: a two-entry segment that meets every hypothesis above -/

namespace Toy

def ia0 : Nat := 2^48 + 1
def ia1 : Nat := 2^48 + 2
def info : Bytes := [0x08, 0x05]
def b0 : Bytes := [0xaa]
def b1 : Bytes := [0xbb]
def h0 : Header := ⟨1, [1], zeroSec, 0, [], ((assocData info []).flatten.length : Int)⟩
def e0 : RawEntry := ⟨enc h0 b0, [1]⟩
def h1 : Header := ⟨2, [2], zeroSec, 0, [], ((assocData info [e0]).flatten.length : Int)⟩
def e1 : RawEntry := ⟨enc h1 b1, [2]⟩
def c0 : Call Nat := ⟨1, 0, h0, b0, assocData info []⟩
def c1 : Call Nat := ⟨2, 0, h1, b1, assocData info [e0]⟩

/-- key `k` signs with the one-byte signature `[k]`; the primitive accepts exactly the two
signatures that were made -/
def S : Scheme Nat Nat :=
  { pub := id, kind := fun _ => .ecdsa, sign := fun sk _ _ _ => [UInt8.ofNat sk]
    verify := fun pk algo m σ =>
      (pk == 1 && algo == 1 && m == preimage e0.hb c0.ad && σ == [1]) ||
      (pk == 2 && algo == 2 && m == preimage e1.hb c1.ad && σ == [2]) }

theorem varint_one : varint 1 = [1] := by rw [varint]; simp
theorem varint_two : varint 2 = [2] := by rw [varint]; simp

theorem hdr_ne : encHeader h0 ≠ encHeader h1 := by
  simp [encHeader, varField, algoToPB, h0, h1, varint_one, varint_two]

theorem enc_ne : enc h0 b0 ≠ enc h1 b1 := by
  intro h
  have k0 : encHeader h0 ≠ [] := encHeader_ne_nil h0 (by decide)
  have k1 : encHeader h1 ≠ [] := encHeader_ne_nil h1 (by decide)
  have := frame_PR (r := lenDelim 0x12 b0) (r' := lenDelim 0x12 b1) k0 k1
    (Or.inl (by unfold enc encHdrAndBody at h; rw [h]; exact List.prefix_refl _))
  exact hdr_ne this.1

def F : Framing :=
  { parseHdr := fun e => if e = encHeader h0 then some h0 else if e = encHeader h1 then some h1 else none
    parseOuter := fun x =>
      if x = enc h0 b0 then some (encHeader h0, b0, [])
      else if x = enc h1 b1 then some (encHeader h1, b1, []) else none }

def P : Parsers :=
  { F := F
    keyId := fun k => if k = [1] then some ⟨ia0, [7]⟩ else if k = [2] then some ⟨ia1, [8]⟩ else none
    body := fun b => if b = b0 then some (ia0, 63) else if b = b1 then some (ia1, 63) else none
    info := fun _ => some 1700000000 }

def certs : List (Cert Nat) :=
  [⟨ia0, [7], 0, 10^19, 1⟩, ⟨ia1, [8], 0, 10^19, 2⟩]

theorem run_eq (c : Call Nat) (hk : algoKnown c.h.algo = true)
    (hl : (c.ad.flatten.length : Int) = c.h.adLen) :
    c.run S = .ok ⟨enc c.h c.body, [UInt8.ofNat c.sk]⟩ := by
  rw [← adLenOf_eq_length_flatten] at hl
  simp [Call.run, signMsg, signInput, hl, checkPubKeyAlgo, hk, S]

theorem run0 : c0.run S = .ok e0.msg := run_eq c0 rfl rfl

theorem run1 : c1.run S = .ok e1.msg := run_eq c1 rfl rfl

theorem built : BuiltFrom S info [] [c0, c1] [e0, e1] :=
  ⟨rfl, run0, rfl, run1, trivial⟩

theorem forall_pair {α : Type} {p : α → Prop} {a b : α} (ha : p a) (hb : p b) :
    ∀ x ∈ [a, b], p x := by
  simp [ha, hb]

theorem sound : ∀ c ∈ [c0, c1], SoundFor P.F c.h c.body :=
  forall_pair ⟨by simp [P, F, c0], by simp [P, F, c0]⟩
    ⟨by simp [P, F, c1, enc_ne.symm], by simp [P, F, c1, hdr_ne.symm]⟩

theorem emptyUnknown : EmptyHdrUnknown P.F := by
  intro h hh
  have k0 : ([] : Bytes) ≠ encHeader h0 := fun e => encHeader_ne_nil h0 (by decide) e.symm
  have k1 : ([] : Bytes) ≠ encHeader h1 := fun e => encHeader_ne_nil h1 (by decide) e.symm
  simp [P, F, k0, k1] at hh

theorem ideal : Ideal S [c0, c1] := by
  intro pk algo m σ hv
  simp only [S, Bool.or_eq_true, Bool.and_eq_true, beq_iff_eq] at hv
  rcases hv with ⟨⟨⟨h1, h2⟩, h3⟩, _⟩ | ⟨⟨⟨h1, h2⟩, h3⟩, _⟩
  · exact ⟨c0, by simp, _, h1.symm, h2.symm, run0, h3⟩
  · exact ⟨c1, by simp, _, h1.symm, h2.symm, run1, h3⟩

theorem complete : Complete S [c0, c1] :=
  forall_pair
    (fun msg hrun => by rw [run0] at hrun; cases hrun; simp [S, c0, h0, e0, RawEntry.msg])
    (fun msg hrun => by rw [run1] at hrun; cases hrun; simp [S, c1, h1, e1, RawEntry.msg])

theorem prefixFree : SigPrefixFree S := by
  intro pk a m σ pk' a' m' x h1 h2
  simp only [S, Bool.or_eq_true, Bool.and_eq_true, beq_iff_eq] at h1 h2
  rcases h1 with ⟨_, rfl⟩ | ⟨_, rfl⟩ <;> rcases h2 with ⟨_, h⟩ | ⟨_, h⟩ <;> simp at h <;> exact h

theorem certified : ∀ c ∈ [c0, c1], Certified P S certs 1700000000 c :=
  forall_pair
    ⟨⟨ia0, [7]⟩, ia0, 63, ⟨ia0, [7], 0, 10^19, 1⟩, by simp [P, c0, h0], by simp,
      by simp [P, c0], rfl, by decide, by simp [certs], rfl, rfl, by decide, by decide, rfl⟩
    ⟨⟨ia1, [8]⟩, ia1, 63, ⟨ia1, [8], 0, 10^19, 2⟩, by simp [P, c1, h1], by simp,
      by simp [P, c1, b0, b1], rfl, by decide, by simp [certs], rfl, rfl, by decide, by decide, rfl⟩

end Toy

/-- the honestly built toy segment verifies (so the hypotheses of the theorems of this file are
jointly satisfiable with a non-trivial conclusion) … -/
example : verifySegment Toy.P Toy.S Toy.certs ⟨Toy.info, [Toy.e0, Toy.e1]⟩ = .ok :=
  verifySegment_complete Toy.P Toy.S Toy.certs [Toy.c0, Toy.c1] Toy.info [Toy.e0, Toy.e1] 1700000000
    Toy.built Toy.sound Toy.complete rfl Toy.certified

/-- … and, by the mutation theorem, the same two entries in the opposite order do not. -/
example : verifySegment Toy.P Toy.S Toy.certs ⟨Toy.info, [Toy.e1, Toy.e0]⟩ ≠ .ok := by
  have hne : Toy.e1.hb ≠ Toy.e0.hb := fun h => Toy.enc_ne h.symm
  exact altered_entry_rejected Toy.P Toy.S Toy.certs [Toy.c0, Toy.c1] Toy.info [Toy.e0, Toy.e1]
    Toy.built Toy.emptyUnknown Toy.sound Toy.ideal Toy.complete Toy.prefixFree
    [] Toy.e0 Toy.e1 [Toy.e1] [Toy.e0] rfl hne

/-! ## Facts regenerated from the source on every run (T3) -/

/-- What the model hard-codes, re-read from the source: `associatedData(idx)` is the raw info
followed by `HeaderAndBody`, `Signature` of the entries `0 … idx-1`; `VerifyASEntry` hands exactly
that to the verifier; `VerifySegment` loops over all entries, binds the verifier to the entry's
`Local` ISD-AS and to `[Info.Timestamp, Info.Timestamp + ExpTimeToDuration(ExpTime)]` and verifies
entry `i`; `trust.Verifier.Verify` runs its guards in the modelled order, skips chains whose AS
certificate does not cover the bound validity (whatever the cache or the DB query returned) and
verifies with the first certificate of each remaining chain. -/
theorem gen_facts :
    Gen.SegVerify.assocDataAppends = ["append ps.Info.Raw", "range idx",
      "append ps.ASEntries[i].Signed.HeaderAndBody", "append ps.ASEntries[i].Signed.Signature"] ∧
    Gen.SegVerify.verifyASEntryArgs = ["ctx", "ps.ASEntries[idx].Signed", "ps.associatedData(idx)..."] ∧
    Gen.SegVerify.verifySegmentBind = ["range segment.ASEntries", "NotBefore segment.Info.Timestamp",
      "NotAfter segment.Info.Timestamp.Add( path.ExpTimeToDuration(asEntry.HopEntry.HopField.ExpTime), )",
      "WithIA asEntry.Local", "WithValidity validity", "VerifyASEntry ctx, verifier, i"] ∧
    Gen.SegVerify.verifierCalls = ["signed.ExtractUnverifiedHeader", "proto.Unmarshal", "ia.IsWildcard",
      "v.notifyTRC", "v.getChains", "signed.Verify"] ∧
    Gen.SegVerify.verifierGuards = ["err != nil", "len(keyID.SubjectKeyId) == 0",
      "!v.BoundIA.IsZero() && !v.BoundIA.Equal(ia)", "ia.IsWildcard()", "v.Engine == nil",
      "err != nil", "!v.BoundValidity.IsZero() && !chainValidity(c).Covers(v.BoundValidity)",
      "err == nil"] ∧
    Gen.SegVerify.verifierVerifyArgs = ["signedMsg", "c[0].PublicKey", "associatedData..."] :=
  ⟨rfl, rfl, rfl, rfl, rfl, rfl⟩

end Scion.C24
