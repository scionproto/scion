import Scion.Model.Wire
import Scion.Proofs.BigEndian
/-! The parts of the header codec that the extension and authenticator layers also use: guarded
slices, lengths of the encoded fields, the bit positions of the first header line. -/
namespace Scion.Wire
open Scion.Util

/-! ### guarded slices -/

theorem takeN_append (a b : Bytes) : takeN a.length (a ++ b) = some (a, b) := by
  simp [takeN]

theorem takeN_append' (n : Nat) (a b : Bytes) (h : a.length = n) : takeN n (a ++ b) = some (a, b) := by
  subst h; exact takeN_append a b

theorem takeN_eq_some {n : Nat} {l x y : Bytes} (h : takeN n l = some (x, y)) :
    l = x ++ y ∧ x.length = n := by
  unfold takeN at h
  split at h
  · cases h
    exact ⟨(List.take_append_drop n l).symm, List.length_take_of_le ‹_›⟩
  · cases h

theorem takeN_of_le {n : Nat} {l : Bytes} (h : n ≤ l.length) :
    takeN n l = some (l.take n, l.drop n) := by
  simp [takeN, h]

theorem takeN_ne_none {n : Nat} {l : Bytes} (h : n ≤ l.length) : takeN n l ≠ none := by
  simp [takeN, h]

theorem exists_append_of_le {n : Nat} {l : Bytes} (h : n ≤ l.length) :
    ∃ x r, l = x ++ r ∧ x.length = n :=
  ⟨l.take n, l.drop n, (List.take_append_drop n l).symm, List.length_take_of_le h⟩

/-! ### lengths -/

theorem length_encInfo (i : Info) : (encInfo i).length = 8 := by
  simp [encInfo]

theorem length_fit (n : Nat) (l : Bytes) : (fit n l).length = n := by
  simp [fit]

theorem fit_eq (n : Nat) (l : Bytes) (h : l.length = n) : fit n l = l := by
  subst h; simp [fit]

theorem length_encHop (h : Hop) : (encHop h).length = 12 := by
  simp [encHop, length_fit]

theorem length_flatten_map {α} (f : α → Bytes) (n : Nat) (h : ∀ x, (f x).length = n) (l : List α) :
    (l.map f).flatten.length = l.length * n := by
  induction l with
  | nil => simp
  | cons x l ih => simp [h, ih, Nat.add_mul, Nat.add_comm]

theorem length_encInfos (is : List Info) : (encInfos is).length = is.length * 8 :=
  length_flatten_map _ _ length_encInfo is

theorem length_encHops (hs : List Hop) : (encHops hs).length = hs.length * 12 :=
  length_flatten_map _ _ length_encHop hs

theorem rawWF_elim {m : PathMeta.Hdr} {body : Bytes} (h : RawWF m body) :
    m.InRange ∧ ∃ b, PathMeta.baseDecode m = some b ∧ body.length = bodyLen b := by
  obtain ⟨h1, h2⟩ := h
  refine ⟨h1, ?_⟩
  split at h2
  · rename_i b hb; exact ⟨b, hb, h2⟩
  · exact h2.elim

/-- version, traffic class and flow id sit at fixed bit positions of the first header line -/
theorem line_split {v t f : Nat} (hv : v < 16) (ht : t < 256) (hf : f < 2^20) :
    (v * 2^28 + t * 2^20 + f) / 2^28 = v ∧ (v * 2^28 + t * 2^20 + f) / 2^20 % 256 = t ∧
    (v * 2^28 + t * 2^20 + f) % 2^20 = f ∧ v * 2^28 + t * 2^20 + f < 2^32 := by omega

theorem line_join {w : Nat} (h : w < 2^32) :
    w / 2^28 % 16 * 2^28 + w / 2^20 % 256 * 2^20 + w % 2^20 = w ∧ w / 2^28 < 16 := by
  omega

end Scion.Wire
