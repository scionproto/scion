import Scion.Proofs.NetRun
/-! Several border routers per AS.  The step of the single router of the *collapsed* network (all interfaces owned by
router 0) is reproduced by the router owning the ingress interface, followed — when another router owns the egress
interface — by that router processing the packet handed over the sibling link; so whatever the collapsed network
delivers, the network as it is delivers, with the same trace and the same final packet. -/
namespace Scion.Net
open Scion.SegID (updateSegID)

/-! ## Facts about packets (cursors) that hold whatever the path is -/

def Uniform (c : Cursor) : Prop :=
  (∀ s ∈ c.before, s.info.peer = c.info.peer) ∧ (∀ s ∈ c.after, s.info.peer = c.info.peer)

/-- what holds for every packet a router sends to a neighbour AS: it is not on its first hop, and
    on the first hop of a later segment only across a peering link -/
def ArrOK (c : Cursor) : Prop :=
  c.isFirstHop = false ∧ (c.isFirstHopAfterXover = true → c.info.peer = true)

def remaining (c : Cursor) : Nat := 1 + c.todo.length + ((c.after.map (·.hops)).flatten).length

theorem determinePeer_setSeg (c : Cursor) (sid : Nat) : determinePeer (setSeg c sid) = determinePeer c := rfl

theorem incPath_cases (c c' : Cursor) (h : c.incPath = some c') :
    (∃ hd t, c.todo = hd :: t ∧ c' = { c with done := c.done ++ [c.cur], cur := hd, todo := t }) ∨
    (c.todo = [] ∧ ∃ s rest hd t, c.after = s :: rest ∧ s.hops = hd :: t ∧
       c' = ⟨c.before ++ [⟨c.info, c.done ++ [c.cur]⟩], s.info, [], hd, t, rest⟩) := by
  unfold Cursor.incPath at h
  split at h
  · cases h; exact Or.inl ⟨_, _, by assumption, rfl⟩
  · split at h
    · cases h
    · split at h
      · cases h
      · cases h; exact Or.inr ⟨by assumption, _, _, _, _, by assumption, by assumption, rfl⟩

theorem incPath_not_first (c c' : Cursor) (h : c.incPath = some c') : c'.isFirstHop = false := by
  rcases incPath_cases c c' h with ⟨hd, t, _, rfl⟩ | ⟨_, s, rest, hd, t, _, _, rfl⟩
  · simp [Cursor.isFirstHop]
  · simp [Cursor.isFirstHop]

theorem incPath_uniform (c c' : Cursor) (h : c.incPath = some c') (hU : Uniform c) : Uniform c' := by
  rcases incPath_cases c c' h with ⟨hd, t, _, rfl⟩ | ⟨_, s, rest, hd, t, ha, _, rfl⟩
  · exact hU
  · obtain ⟨hb, haf⟩ := hU
    rw [ha] at haf
    have hs := haf s (by simp)
    refine ⟨?_, ?_⟩
    · intro s' hs'
      simp only [List.mem_append, List.mem_singleton] at hs'
      rcases hs' with h1 | rfl
      · simp only; rw [hs]; exact hb s' h1
      · simp only; rw [hs]
    · intro s' hs'
      simp only; rw [hs]; exact haf s' (by simp [hs'])

theorem incPath_segLens (c c' : Cursor) (h : c.incPath = some c') : c'.segLens = c.segLens := by
  rcases incPath_cases c c' h with ⟨hd, t, ht, rfl⟩ | ⟨ht, s, rest, hd, t, ha, hh, rfl⟩
  · have : c.done.length + 1 + 1 + t.length = c.done.length + 1 + (t.length + 1) := by omega
    simp only [Cursor.segLens, Cursor.curSegLen, ht, List.length_append, List.length_cons, List.length_nil,
      this]
  · simp only [Cursor.segLens, Cursor.curSegLen, ht, ha, hh, List.map_append, List.map_cons, List.map_nil,
      List.length_append, List.length_cons, List.length_nil, List.append_assoc]
    simp
    omega

theorem incPath_hasSingleton (c c' : Cursor) (h : c.incPath = some c') :
    c'.hasSingleton = c.hasSingleton := by
  simp only [Cursor.hasSingleton, incPath_segLens c c' h]

theorem incPath_remaining (c c' : Cursor) (h : c.incPath = some c') : remaining c' + 1 = remaining c := by
  rcases incPath_cases c c' h with ⟨hd, t, ht, rfl⟩ | ⟨ht, s, rest, hd, t, ha, hh, rfl⟩
  · simp only [remaining, ht, List.length_cons]; omega
  · simp only [remaining, ht, ha, hh, List.map_cons, List.flatten_cons, List.length_append, List.length_cons,
      List.length_nil]; omega

/-- a segment change without peering happens only on paths without Peer flag -/
theorem peer_false_of_xover (c : Cursor) (hp : determinePeer c = some false) (hx : c.isXover = true) :
    c.info.peer = false := by
  cases hpe : c.info.peer with
  | false => rfl
  | true =>
    simp only [determinePeer, hpe, Bool.not_true, Bool.false_eq_true, if_false] at hp
    simp only [Cursor.isXover, Bool.and_eq_true, Bool.not_eq_true', List.isEmpty_iff] at hx
    split at hp
    · cases hp
    · rename_i hlen
      simp only [ne_eq, Decidable.not_not] at hlen
      cases hb : c.before with
      | nil => simp [hb, hx.1] at hp
      | cons b bs =>
        cases ha : c.after with
        | nil => simp [ha] at hx
        | cons a2 as => rw [hb, ha] at hlen; simp at hlen; omega

theorem peer_true_of_peering (c : Cursor) (hp : determinePeer c = some true) : c.info.peer = true := by
  cases hpe : c.info.peer with
  | true => rfl
  | false => simp [determinePeer, hpe] at hp

/-- on a Peer-flagged path the first hop of the second segment is a peering hop -/
theorem peering_of_fhax (c : Cursor) (p : Bool) (hp : determinePeer c = some p)
    (hf : c.isFirstHopAfterXover = true) (hpe : c.info.peer = true) : p = true := by
  simp only [determinePeer, hpe, Bool.not_true, Bool.false_eq_true, if_false] at hp
  split at hp
  · cases hp
  · simp only [Cursor.isFirstHopAfterXover] at hf
    simp only [Option.some.injEq] at hp
    rw [← hp, hf]; simp

theorem curSegLen_of_noSingleton (c : Cursor) (h : c.hasSingleton = false) : c.curSegLen ≠ 1 := by
  intro h1
  have : c.hasSingleton = true := by
    simp only [Cursor.hasSingleton, Cursor.segLens, List.any_append, List.any_cons, List.any_nil, h1]
    simp
  rw [h] at this; cases this

theorem after_egress (cm c' : Cursor) (p : Bool) (hU : Uniform cm) (hp : determinePeer cm = some p)
    (hx : (cm.isXover && !p) = false) (hinc : (egUpd cm p).incPath = some c') :
    Uniform c' ∧ ArrOK c' ∧ remaining c' + 1 = remaining cm := by
  -- the egress update changes the SegID only, which neither `Uniform` nor `remaining` looks at
  obtain ⟨sid, hsid⟩ := egUpd_setSeg cm p
  rw [hsid] at hinc
  refine ⟨incPath_uniform _ _ hinc hU, ⟨incPath_not_first _ _ hinc, ?_⟩, ?_⟩
  · intro hf
    rcases incPath_cases _ _ hinc with ⟨hd, t, _, rfl⟩ | ⟨ht, s, rest, hd, t, ha, _, rfl⟩
    · simp [Cursor.isFirstHopAfterXover, setSeg] at hf
    · have hafter : cm.after = s :: rest := ha
      have hxo : cm.isXover = true := by simp [Cursor.isXover, show cm.todo = [] from ht, hafter]
      obtain rfl : p = true := by simpa [hxo] using hx
      show s.info.peer = true
      rw [hU.2 s (by rw [hafter]; simp)]; exact peer_true_of_peering cm hp
  · exact incPath_remaining (setSeg cm sid) c' hinc

/-- a reply built on a single-segment packet that leaves over an external link: single segment,
    not on its first hop -/
theorem scmpPrepare_single (c rc : Cursor) (hb : c.before = []) (ha : c.after = [])
    (h : scmpPrepare c true = some rc) : Uniform rc ∧ ArrOK rc := by
  unfold scmpPrepare at h
  simp only at h
  split at h
  · cases h
  · rename_i p hp
    have hx : (reverseCursor c).isXover = false := by
      simp [reverseCursor, Cursor.isXover, hb]
    simp only [hx, Bool.false_and, Bool.false_eq_true, if_false, if_true] at h
    have hU : Uniform (reverseCursor c) :=
      ⟨by simp [reverseCursor, ha], by simp [reverseCursor, hb]⟩
    obtain ⟨h1, h2, _⟩ := after_egress _ rc p hU hp (by rw [hx]; rfl) h
    exact ⟨h1, h2⟩

/-! ## What a stage looks at of the router configuration -/

/-- for a packet from an external link or from a host the ingress stage does not look at the
    interface table -/
theorem stIngress_cfg (mac : MacFn) (cfg1 cfg2 : RCfg) (now : Nat) (arr : Arrival) (sl dl : Bool)
    (c : Cursor) (hk : cfg1.key = cfg2.key) (harr : ∀ k, arr ≠ .sibling k) :
    stIngress mac cfg1 now arr sl dl c = stIngress mac cfg2 now arr sl dl c := by
  unfold stIngress
  split
  · rfl
  · split
    · rfl
    · unfold stChecks
      rw [hk]
      cases arr with
      | sibling k => exact absurd rfl (harr k)
      | host => rfl
      | ext i => rfl

theorem stXover_cfg (mac : MacFn) (cfg1 cfg2 : RCfg) (now : Nat) (s : StIn) (hk : cfg1.key = cfg2.key) :
    stXover mac cfg1 now s = stXover mac cfg2 now s := by
  unfold stXover
  rw [hk]

/-- two routers with the same key differ only in the egress stage: a packet from an external link or from a
    host gets the same answer from both, unless it reaches the egress stage, and then in the same state -/
theorem routerStep_cfg (mac : MacFn) (cfg1 cfg2 : RCfg) (now : Nat) (arr : Arrival) (sl dl : Bool) (c : Cursor)
    (hk : cfg1.key = cfg2.key) (harr : ∀ k, arr ≠ .sibling k) :
    routerStep mac cfg1 now arr sl dl c = routerStep mac cfg2 now arr sl dl c ∨
    ∃ x, routerStep mac cfg1 now arr sl dl c = stEgress cfg1 arr x ∧
      routerStep mac cfg2 now arr sl dl c = stEgress cfg2 arr x := by
  unfold routerStep
  rw [stIngress_cfg mac cfg1 cfg2 now arr sl dl c hk harr]
  split
  · exact Or.inl rfl
  · split
    · exact Or.inl rfl
    · rw [stXover_cfg mac cfg1 cfg2 now _ hk]
      split
      · exact Or.inl rfl
      · exact Or.inr ⟨_, rfl, rfl⟩

theorem stEgress_congr (cfg1 cfg2 : RCfg) (arr : Arrival) (x : StX) (eg1 eg2 : Iface)
    (h1 : egressIface cfg1 (egressOf x.c) = some eg1) (h2 : egressIface cfg2 (egressOf x.c) = some eg2)
    (hlt : eg1.lt = eg2.lt) (hup : eg1.up = eg2.up)
    (hown : (eg1.owner == cfg1.self) = (eg2.owner == cfg2.self))
    (hin : ingressLT cfg1 arr.ifid = ingressLT cfg2 arr.ifid) :
    stEgress cfg1 arr x = stEgress cfg2 arr x := by
  unfold stEgress
  simp only [h1, h2, hlt, hup, hown, hin]

/-- the configuration of border router `r` of AS `a` -/
def cfgR (net : Net) (a r : Nat) : RCfg := ⟨(net a).key, r, (net a).ifaces⟩

theorem cfgR_self (net : Net) (a r : Nat) : (cfgR net a r).self = r := rfl
theorem cfgR_key (net : Net) (a r : Nat) : (cfgR net a r).key = (net a).key := rfl

/-- **the egress router of an AS, any kind of hop** (transit, after a segment change, peering hop
    out, peering hop in): the packet comes over the sibling link from the router that owns the
    ingress interface (`validateTransitUnderlaySrc`), the hop field is validated again, egress
    processing is done here -/
theorem sibling_out_step (mac : MacFn) (net : Net) (now a r1 r2 : Nat) (sl : Bool) (cm : Cursor)
    (p : Bool) (fi f : Iface) (c' : Cursor)
    (hsing : (!cm.info.peer && cm.hasSingleton) = false)
    (hp : determinePeer cm = some p)
    (hexp : expired now cm.info.ts cm.cur.exp = false)
    (hnf : cm.isFirstHop = false)
    (hfi : (net a).iface (ingressInterface cm p) = some fi) (hr1 : fi.owner = r1) (h12 : r1 ≠ r2)
    (hmac : macOk mac (net a).key cm.info cm.cur = true)
    (hx : (cm.isXover && !p) = false)
    (he0 : egressOf cm ≠ 0) (hf : (net a).iface (egressOf cm) = some f) (hr2 : f.owner = r2)
    (hal : (if cm.info.consDir then cm.cur.egAlert else cm.cur.inAlert) = false)
    (hup : f.up = true) (hinc : (egUpd cm p).incPath = some c') :
    routerStep mac (cfgR net a r2) now (.sibling r1) sl false cm = .forward (egressOf cm) c' := by
  have hs := stIngress_pass_sibling mac (cfgR net a r2) now r1 sl cm p fi hsing hp hexp hnf hfi hr1 h12 hmac
  have hxo := stXover_none mac (cfgR net a r2) now cm p hx
  rw [routerStep_of_stages mac _ now _ sl cm _ _ hs hxo]
  exact stEgress_own (cfgR net a r2) (.sibling r1) ⟨cm, p, false⟩ f c'
    (by rw [egressIface_ne0 _ _ he0]; exact hf) (by simp [cfgR_self, hr2]) (by simp [Arrival.ifid])
    (by simp) hal hup hinc

/-! ## The collapsed network -/

def collapseIf (f : Iface) : Iface := { f with owner := 0 }

/-- the network with every AS's interfaces moved to a single border router -/
def collapse (net : Net) : Net := fun a => { net a with ifaces := (net a).ifaces.map collapseIf }

theorem collapse_iface (net : Net) (a e : Nat) :
    (collapse net a).iface e = ((net a).iface e).map collapseIf :=
  List.find?_map

theorem collapse_iface_some (net : Net) (a e : Nat) (f : Iface) (h : (net a).iface e = some f) :
    (collapse net a).iface e = some (collapseIf f) := by
  rw [collapse_iface, h]; rfl

theorem collapse_iface_inv (net : Net) (a e : Nat) (f0 : Iface)
    (h : (collapse net a).iface e = some f0) :
    ∃ f, (net a).iface e = some f ∧ collapseIf f = f0 :=
  Option.map_eq_some_iff.1 (collapse_iface net a e ▸ h)

theorem singleRouter_collapse (net : Net) : SingleRouter (collapse net) := by
  intro a e f0 hf0
  obtain ⟨f, hf, rfl⟩ := collapse_iface_inv net a e f0 hf0
  rfl

theorem collapse_key (net : Net) (a : Nat) : (collapse net a).key = (net a).key := rfl

theorem cfgOf_collapse (net : Net) (a : Nat) :
    cfgOf (collapse net) a = ⟨(net a).key, 0, (net a).ifaces.map collapseIf⟩ := rfl

theorem cfgR_iface (net : Net) (a r e : Nat) : (cfgR net a r).iface e = (net a).iface e := rfl

theorem ingressLT_collapse (net : Net) (a r i : Nat) :
    ingressLT (cfgOf (collapse net) a) i = ingressLT (cfgR net a r) i := by
  simp only [ingressLT, cfgOf_iface, collapse_iface, cfgR_iface]
  cases (net a).iface i <;> rfl

/-! ## One AS crossed by one router (collapsed network) and by one or two routers (the network as it is),
arbitrary packets -/

theorem ltSame_unset (x : LinkType) : ltSame x .unset = false := by cases x <;> rfl
theorem ltXover_unset (x : LinkType) : ltXover x .unset = false := by cases x <;> rfl

/-- the packet between the two routers of an AS (`x.c`: the packet `c`, as updated at ingress after
    its arrival over the external link `i`, after the cross-over stage) -/
theorem mid_facts (mac : MacFn) (key : Bytes) (now i : Nat) (c : Cursor) (p : Bool) (x : StX)
    (hU : Uniform c) (hA : ArrOK c)
    (hdp : determinePeer c = some p) (hsing : c.info.peer = false → c.hasSingleton = false)
    (hexp : expired now c.info.ts c.cur.exp = false)
    (hin : i = if c.info.consDir then c.cur.cIn else c.cur.cEg)
    (hmac : macOk mac key c.info c.cur = true)
    (hxc : (x.xover = false ∧ x.c = c ∧ (c.isXover && !p) = false) ∨
      (x.xover = true ∧ (c.isXover && !p) = true ∧ c.incPath = some x.c ∧
        expired now x.c.info.ts x.c.cur.exp = false ∧ macOk mac key x.c.info x.c.cur = true)) :
    Uniform x.c ∧ (!x.c.info.peer && x.c.hasSingleton) = false ∧ determinePeer x.c = some p ∧
    expired now x.c.info.ts x.c.cur.exp = false ∧ x.c.isFirstHop = false ∧
    ingressInterface x.c p = i ∧ macOk mac key x.c.info x.c.cur = true ∧
    (x.c.isXover && !p) = false ∧ remaining x.c ≤ remaining c := by
  rcases hxc with ⟨_, hxc, hno⟩ | ⟨_, hyes, hinc, hexp2, hmac2⟩
  · rw [hxc]
    refine ⟨hU, ?_, hdp, hexp, hA.1, ?_, hmac, hno, Nat.le_refl _⟩
    · cases hpe : c.info.peer with
      | true => rfl
      | false => rw [hsing hpe]; rfl
    · have hsel : (!p && c.isFirstHopAfterXover) = false := by
        cases hf : c.isFirstHopAfterXover with
        | false => exact Bool.and_false _
        | true => rw [peering_of_fhax c p hdp hf (hA.2 hf)]; rfl
      unfold ingressInterface
      simp only [hsel, Bool.false_eq_true, if_false]
      exact hin.symm
  · obtain ⟨hcx, hpf⟩ : c.isXover = true ∧ p = false := by simpa using hyes
    subst hpf
    have hpeer := peer_false_of_xover c hdp hcx
    have hnsx : x.c.hasSingleton = false := by
      rw [incPath_hasSingleton _ _ hinc]; exact hsing hpeer
    have hUx := incPath_uniform _ _ hinc hU
    have hrem := incPath_remaining _ _ hinc
    have hcl := curSegLen_of_noSingleton x.c hnsx
    rcases incPath_cases _ _ hinc with ⟨hd, t, ht, _⟩ | ⟨_, s0, rest, hd, t, ha, _, hxeq⟩
    · simp [Cursor.isXover, ht] at hcx
    · have hs0 : s0.info.peer = false := by
        rw [hU.2 s0 (by rw [ha]; simp)]; exact hpeer
      rw [hxeq] at hcl hnsx ⊢
      have ht : t ≠ [] := by
        intro h0; apply hcl; simp [Cursor.curSegLen, h0]
      refine ⟨by rw [← hxeq]; exact hUx, ?_, ?_, by rw [← hxeq]; exact hexp2, ?_, ?_,
        by rw [← hxeq]; exact hmac2, ?_, by rw [← hxeq]; omega⟩
      · simp only [hnsx, Bool.and_false]
      · simp [determinePeer, hs0]
      · simp [Cursor.isFirstHop]
      · simp only [ingressInterface, Cursor.isFirstHopAfterXover, Bool.not_false, Bool.true_and,
          List.isEmpty_nil, Bool.and_true]
        simp only [List.getLast?_append, List.getLast?_singleton, Option.some_or]
        simp
        exact hin.symm
      · cases t with
        | nil => exact absurd rfl ht
        | cons y ys => simp [Cursor.isXover]

/-! ## The step of the collapsed network's router reproduced by the routers of the network as it is -/

theorem cfg_key_eq (net : Net) (a r : Nat) : (cfgR net a r).key = (cfgOf (collapse net) a).key := rfl

/-- a packet from a neighbour AS or from a host goes through the ingress and cross-over stages of every
    router of the AS as through those of the collapsed network's router -/
theorem routerStep_collapse_stages (mac : MacFn) (net : Net) (now a r : Nat) (arr : Arrival) (sl : Bool)
    (c : Cursor) (s : StIn) (x : StX) (harr : ∀ k, arr ≠ .sibling k)
    (hs : stIngress mac (cfgOf (collapse net) a) now arr sl false c = .ok s)
    (hx : stXover mac (cfgOf (collapse net) a) now s = .ok x) :
    routerStep mac (cfgR net a r) now arr sl false c = stEgress (cfgR net a r) arr x :=
  routerStep_of_stages mac _ now arr sl c s x
    (stIngress_cfg mac (cfgOf (collapse net) a) (cfgR net a r) now arr sl false c rfl harr ▸ hs)
    (stXover_cfg mac (cfgOf (collapse net) a) (cfgR net a r) now s rfl ▸ hx)

/-- the internal interface is no egress interface: nothing is forwarded onto it -/
theorem stEgress_forward_ne0 (cfg : RCfg) (arr : Arrival) (x : StX) (e : Nat) (c' : Cursor)
    (h : stEgress cfg arr x = .forward e c') : e ≠ 0 := by
  obtain ⟨_, eg, heg, h1, h2, h3, _⟩ := stEgress_forward_inv _ _ _ _ _ h
  intro h0
  rw [h0] at heg
  simp only [egressIface, beq_self_eq_true, if_true, Option.some.injEq] at heg
  subst heg
  cases h00 : arr.ifid == 0 with
  | true => simp [h00] at h1
  | false =>
    cases hxx : x.xover with
    | false => simp [hxx, bne, h00, ltSame_unset] at h2
    | true => simp [hxx, ltXover_unset] at h3

/-- **one AS, packet from a neighbour AS.**  If the single router of the collapsed network
    forwards the packet, then in the network as it is the router owning the ingress interface
    either does exactly the same (it also owns the egress interface) or hands the packet to the
    sibling owning the egress interface, which sends out exactly the same packet. -/
theorem step_sim_ext (mac : MacFn) (net : Net) (now a i : Nat) (sl dl : Bool) (c : Cursor) (e : Nat)
    (c' : Cursor) (fi : Iface) (hfi : (net a).iface i = some fi) (hi0 : i ≠ 0)
    (hU : Uniform c) (hA : ArrOK c)
    (h : routerStep mac (cfgOf (collapse net) a) now (.ext i) sl dl c = .forward e c') :
    dl = false ∧ ∃ f, (net a).iface e = some f ∧ e ≠ 0 ∧
      ((f.owner = fi.owner ∧
          routerStep mac (cfgR net a fi.owner) now (.ext i) sl false c = .forward e c') ∨
       (f.owner ≠ fi.owner ∧ ∃ cm,
          routerStep mac (cfgR net a fi.owner) now (.ext i) sl false c = .forward e cm ∧
          routerStep mac (cfgR net a f.owner) now (.sibling fi.owner) sl false cm = .forward e c')) ∧
      Uniform c' ∧ ArrOK c' ∧ remaining c' < remaining c := by
  obtain ⟨s, x, hs, hdl, hx, heg⟩ := routerStep_forward_inv _ _ _ _ _ _ _ _ _ h
  subst hdl
  refine ⟨rfl, ?_⟩
  have hR := routerStep_collapse_stages mac net now a fi.owner (.ext i) sl c s x nofun hs hx
  obtain ⟨hdp, hsc, hsing, hchk⟩ := stIngress_ok _ _ _ _ _ _ _ _ hs
  obtain ⟨sid, hsid⟩ := ingUpd_setSeg c (.ext i) s.peering
  rw [hsid] at hsc hchk
  obtain ⟨_, hexp, hin, _, _, hmac⟩ := stChecks_ok _ _ _ _ _ _ _ _ _ hchk
  obtain ⟨hxp, hxc⟩ := stXover_ok _ _ _ _ _ hx
  rw [hsc] at hxc
  have he0 := stEgress_forward_ne0 _ _ _ _ _ heg
  obtain ⟨he, eg0, heg0, _, hc2, hc3, hc4, hc5, hc6, _⟩ := stEgress_forward_inv _ _ _ _ _ heg
  rw [egressIface_ne0 _ _ he0] at heg0
  obtain ⟨f, hf, rfl⟩ := collapse_iface_inv net a e _ heg0
  have hown0 : ((collapseIf f).owner == (cfgOf (collapse net) a).self) = true := rfl
  have hal : (if x.c.info.consDir then x.c.cur.egAlert else x.c.cur.inAlert) = false := by
    rw [hown0] at hc4; simpa using hc4
  have hup : f.up = true := by
    rw [hown0] at hc5; simpa [collapseIf] using hc5
  have hinc := hc6 hown0
  rw [hxp] at hinc
  obtain ⟨F1, F2, F3, F4, F5, F6, F7, F8, F9⟩ := mid_facts mac (cfgOf (collapse net) a).key now i
    (setSeg c sid) s.peering x hU hA hdp hsing hexp (hin (by simpa [Arrival.ifid] using hi0)) hmac hxc
  obtain ⟨G1, G2, G3⟩ := after_egress x.c c' s.peering F1 F3 F8 hinc
  refine ⟨f, hf, he0, ?_, G1, G2, Nat.lt_of_lt_of_le (by omega) F9⟩
  have hegR : egressIface (cfgR net a fi.owner) (egressOf x.c) = some f := by
    rw [← he, egressIface_ne0 _ _ he0]; exact hf
  rw [hR]
  by_cases hown : f.owner = fi.owner
  · refine Or.inl ⟨hown, ?_⟩
    rw [← heg]
    refine (stEgress_congr _ _ _ _ (collapseIf f) f ?_ hegR rfl rfl ?_ ?_).symm
    · rw [← he, egressIface_ne0 _ _ he0]; exact heg0
    · rw [hown0]; simp [cfgR_self, hown]
    · exact ingressLT_collapse net a fi.owner _
  · refine Or.inr ⟨hown, x.c, ?_, ?_⟩
    · rw [he]
      refine stEgress_handover _ (.ext i) x f hegR (by simp [cfgR_self, hown]) (by simp [Arrival.ifid, hi0])
        ?_ ?_
      · rw [← ingressLT_collapse net a fi.owner]; exact hc2
      · rw [← ingressLT_collapse net a fi.owner]; exact hc3
    · rw [he]
      exact sibling_out_step mac net now a fi.owner f.owner sl x.c s.peering fi f c' F2 F3 F4 F5
        (by rw [F6]; exact hfi) rfl (Ne.symm hown) F7 F8 (by rw [← he]; exact he0)
        (by rw [← he]; exact hf) rfl hal hup hinc

/-- delivery is decided by the ingress stage alone -/
theorem step_sim_deliver (mac : MacFn) (net : Net) (now a r : Nat) (arr : Arrival) (sl dl : Bool)
    (c cf : Cursor) (harr : ∀ k, arr ≠ .sibling k)
    (h : routerStep mac (cfgOf (collapse net) a) now arr sl dl c = .deliver cf) :
    routerStep mac (cfgR net a r) now arr sl dl c = .deliver cf := by
  rcases routerStep_cfg mac (cfgR net a r) (cfgOf (collapse net) a) now arr sl dl c rfl harr with h1 | ⟨x, _, h2⟩
  · exact h1.trans h
  · exact absurd (h2.symm.trans h) (stEgress_not_deliver _ _ _ _)

/-- **source AS, packet from a host on its first hop**: the router owning the egress interface
    (the one the host hands the packet to) does what the single router does -/
theorem step_sim_host (mac : MacFn) (net : Net) (now a : Nat) (sl dl : Bool) (c : Cursor) (e : Nat)
    (c' : Cursor) (hU : Uniform c) (hfirst : c.isFirstHop = true)
    (h : routerStep mac (cfgOf (collapse net) a) now .host sl dl c = .forward e c') :
    dl = false ∧ e = (if c.info.consDir then c.cur.cEg else c.cur.cIn) ∧
    ∃ f, (net a).iface e = some f ∧ e ≠ 0 ∧
      routerStep mac (cfgR net a f.owner) now .host sl false c = .forward e c' ∧
      Uniform c' ∧ ArrOK c' ∧ remaining c' < remaining c := by
  obtain ⟨s, x, hs, hdl, hx, heg⟩ := routerStep_forward_inv _ _ _ _ _ _ _ _ _ h
  subst hdl
  refine ⟨rfl, ?_⟩
  obtain ⟨hdp, hsc, hsing, hchk⟩ := stIngress_ok _ _ _ _ _ _ _ _ hs
  obtain ⟨hxp, hxc⟩ := stXover_ok _ _ _ _ _ hx
  rw [hsc, ingUpd_internal c .host s.peering rfl] at hxc
  have he0 := stEgress_forward_ne0 _ _ _ _ _ heg
  obtain ⟨he, eg0, heg0, hc1, _, _, _, _, hc6, _⟩ := stEgress_forward_inv _ _ _ _ _ heg
  -- no segment change on the first hop
  have hxno : x.xover = false ∧ x.c = c ∧ (c.isXover && !s.peering) = false := by
    rcases hxc with h1 | ⟨_, hyes, _⟩
    · exact h1
    · exfalso
      obtain ⟨hxo, hpf⟩ : c.isXover = true ∧ s.peering = false := by simpa using hyes
      rw [hpf] at hdp
      have hns := hsing (peer_false_of_xover c hdp hxo)
      apply curSegLen_of_noSingleton c hns
      simp only [Cursor.isFirstHop, Bool.and_eq_true, List.isEmpty_iff] at hfirst
      simp only [Cursor.isXover, Bool.and_eq_true, List.isEmpty_iff] at hxo
      simp [Cursor.curSegLen, hfirst.2, hxo.1]
  obtain ⟨hxx, hxeq, hno⟩ := hxno
  have hown0 : (eg0.owner == (cfgOf (collapse net) a).self) = true := by
    simpa [Arrival.ifid] using hc1
  rw [egressIface_ne0 _ _ he0] at heg0
  obtain ⟨f, hf, rfl⟩ := collapse_iface_inv net a e eg0 heg0
  have hinc := hc6 hown0
  rw [hxp, hxeq] at hinc
  obtain ⟨G1, G2, G3⟩ := after_egress c c' s.peering hU hdp hno hinc
  rw [hxeq] at he
  refine ⟨he, f, hf, he0, ?_, G1, G2, by omega⟩
  rw [routerStep_collapse_stages mac net now a f.owner .host sl c s x nofun hs hx, ← heg]
  refine (stEgress_congr _ _ _ _ (collapseIf f) f ?_ ?_ rfl rfl ?_ ?_).symm
  · rw [hxeq, ← he, egressIface_ne0 _ _ he0]; exact heg0
  · rw [hxeq, ← he, egressIface_ne0 _ _ he0]; exact hf
  · rw [hown0]; simp [cfgR_self]
  · exact ingressLT_collapse net a f.owner _

/-- **SCMP 4/51 and 4/52 with several border routers per AS**: the decision of the collapsed
    network's router is the decision of whichever real router receives the packet from outside
    (or from a host) -/
theorem step_sim_stopped (mac : MacFn) (net : Net) (now a r : Nat) (arr : Arrival) (sl dl : Bool)
    (c : Cursor) (k e : Nat) (c1 : Cursor) (harr : ∀ k', arr ≠ .sibling k') (hk : k = 51 ∨ k = 52)
    (h : routerStep mac (cfgOf (collapse net) a) now arr sl dl c = .slow 4 k e c1) :
    routerStep mac (cfgR net a r) now arr sl dl c = .slow 4 k e c1 := by
  rcases routerStep_cfg mac (cfgR net a r) (cfgOf (collapse net) a) now arr sl dl c rfl harr with h1 | ⟨x, _, h2⟩
  · exact h1.trans h
  · exact absurd (h2.symm.trans h) (stEgress_not_mac_exp _ _ _ _ _ _ hk)

/-! ## Runs in the collapsed network and in the network as it is end the same way: a delivery is the
same delivery, an SCMP "bad MAC" or "expired hop" is raised at the same place -/

section
variable (mac : MacFn) (net : Net) (now src dst : Nat)

/-- what the end `res` of a run in the network with one router per AS says about the end `res'`
    of the run in the network as it is: a delivery is the same delivery; an SCMP "bad MAC" or
    "expired hop", decided before the egress stage, is raised on arrival over the same link with
    the same packet and trace, by whichever router owns that link -/
def SimEnd (res res' : Result) : Prop :=
  (∀ d tr cf, res = .delivered d tr cf → res' = res) ∧
  ∀ a arr k e c1 tr, k = 51 ∨ k = 52 → res = .stopped a 0 arr (.slow 4 k e c1) tr →
    ∃ r', res' = .stopped a r' arr (.slow 4 k e c1) tr

/-- `r` is the border router at which the packet enters AS `a`: coming from a neighbour AS, the owner of the
    link it arrives on; coming from a host (a packet on its first hop), the owner of the first egress interface -/
def Entry (net : Net) (a r : Nat) : Arrival → Cursor → Prop
  | .ext i, c => i ≠ 0 ∧ ArrOK c ∧ ∃ fi, (net a).iface i = some fi ∧ r = fi.owner
  | .host, c => c.isFirstHop = true ∧ r = entryRouter net a c
  | .sibling _, _ => False

theorem Entry.ne_sibling {net : Net} {a r : Nat} {arr : Arrival} {c : Cursor} (h : Entry net a r arr c) (k : Nat) :
    arr ≠ .sibling k := fun hk => by subst hk; exact h

variable {mac net now src dst}

/-- **an AS crossed**: one invocation of the single router in the network with one router per AS, one or two
    invocations in the network as it is; the packet enters the same neighbour AS over the same link -/
theorem cross_sim (hWF : WFNet net) {a r e : Nat} {arr : Arrival} {c c' : Cursor} (tr : List (Nat × Nat))
    (hE : Entry net a r arr c) (hU : Uniform c)
    (hst : routerStep mac (cfgOf (collapse net) a) now arr (a == src) (a == dst) c = .forward e c') :
    ∃ a' r' i' tr', Entry net a' r' (.ext i') c' ∧ Uniform c' ∧ remaining c' < remaining c ∧
      Reach mac (collapse net) now src dst 1 ⟨a, 0, arr, c, tr⟩ ⟨a', 0, .ext i', c', tr'⟩ ∧
      ∃ k ≤ 2, Reach mac net now src dst k ⟨a, r, arr, c, tr⟩ ⟨a', r', .ext i', c', tr'⟩ := by
  cases arr with
  | ext i =>
    obtain ⟨hi0, hA, fi, hfi, rfl⟩ := hE
    obtain ⟨hdl, f, hf, _, hcase, hU', hA', hrem⟩ := step_sim_ext mac net now a i _ _ c e c' fi hfi hi0 hU hA hst
    obtain ⟨_, _, g, hg, _, _, _⟩ := hWF a e f hf
    refine ⟨_, _, _, _, ⟨(hWF _ _ _ hg).1, hA', g, hg, rfl⟩, hU', hrem,
      reach_ext hst (collapse_iface_some net a e f hf) rfl (collapse_iface_some net _ _ g hg), ?_⟩
    rw [← hdl] at hcase
    rcases hcase with ⟨hown, hstep⟩ | ⟨hown, cm, hstep1, hstep2⟩
    · exact ⟨1, by omega, reach_ext hstep hf hown hg⟩
    · exact ⟨2, by omega, (reach_sib hstep1 hf hown).trans (reach_ext hstep2 hf rfl hg)⟩
  | host =>
    obtain ⟨hfirst, rfl⟩ := hE
    obtain ⟨hdl, he, f, hf, _, hstep, hU', hA', hrem⟩ := step_sim_host mac net now a _ _ c e c' hU hfirst hst
    obtain ⟨_, _, g, hg, _, _, _⟩ := hWF a e f hf
    have hent : entryRouter net a c = f.owner := by unfold entryRouter; rw [← he, hf]
    rw [← hdl] at hstep
    exact ⟨_, _, _, _, ⟨(hWF _ _ _ hg).1, hA', g, hg, rfl⟩, hU', hrem,
      reach_ext hst (collapse_iface_some net a e f hf) rfl (collapse_iface_some net _ _ g hg),
      1, by omega, hent ▸ reach_ext hstep hf rfl hg⟩
  | sibling _ => exact hE.elim

variable (mac net now src dst)

/-- **a run through ASes with several border routers**, started at the router where the packet enters an AS:
    delivery, and SCMP 4/51 and 4/52, transfer from the network with one router per AS to the network
    as it is, given fuel for two router invocations per hop field left -/
theorem run_sim_end (hWF : WFNet net) :
    ∀ (n a r : Nat) (arr : Arrival) (c : Cursor) (tr : List (Nat × Nat)) (m : Nat),
    Entry net a r arr c → Uniform c → 2 * remaining c ≤ m →
    SimEnd (run mac (collapse net) now src dst n a 0 arr c tr) (run mac net now src dst m a r arr c tr) := by
  intro n
  induction n with
  | zero => exact fun _ _ _ _ _ _ _ _ _ => ⟨fun _ _ _ h => (by cases h), fun _ _ _ _ _ _ _ h => (by cases h)⟩
  | succ n ih =>
    intro a r arr c tr m hE hU hm
    have hm1 : 1 ≤ m := by unfold remaining at hm; omega
    cases hst : routerStep mac (cfgOf (collapse net) a) now arr (a == src) (a == dst) c with
    | forward e c' =>
      obtain ⟨a', r', i', tr', hE', hU', hrem, h1, k, hk, hk'⟩ := cross_sim hWF tr hE hU hst
      rw [h1 n, ← Nat.sub_add_cancel (show k ≤ m by omega), hk' _]
      exact ih _ _ _ _ _ _ hE' hU' (by omega)
    | deliver cf =>
      rw [ends_deliver hst n,
        (ends_deliver (step_sim_deliver mac net now a r arr _ _ c cf hE.ne_sibling hst)).of_le hm1]
      exact ⟨fun _ _ _ _ => rfl, fun _ _ _ _ _ _ _ hs => nomatch hs⟩
    | _ =>
      rw [ends_stopped hst rfl n]
      refine ⟨fun _ _ _ hd => (nomatch hd), fun a' arr' k e c1 tr' hk hs => ?_⟩
      -- `hs` is absurd unless the answer is the `.slow` one
      cases hs <;> exact ⟨r, (ends_stopped
        (step_sim_stopped mac net now _ r _ _ _ c _ _ _ hE.ne_sibling hk hst) rfl).of_le hm1⟩

/-- **a run ending with SCMP 4/51 or 4/52, several border routers per AS**: the network as it is
    stops the packet at the same AS, on arrival over the same link, with the same SCMP error on the
    same packet and the same trace as the network with one router per AS -/
theorem run_sim_slow (hWF : WFNet net) (k : Nat) (hk : k = 51 ∨ k = 52) :
    ∀ (n a i : Nat) (c : Cursor) (tr : List (Nat × Nat)) (fi : Iface)
      (a' : Nat) (arr' : Arrival) (e0 : Nat) (c1 : Cursor) (tr' : List (Nat × Nat)),
    (net a).iface i = some fi → i ≠ 0 → Uniform c → ArrOK c →
    run mac (collapse net) now src dst n a 0 (.ext i) c tr = .stopped a' 0 arr' (.slow 4 k e0 c1) tr' →
    ∃ r', run mac net now src dst (2 * remaining c) a fi.owner (.ext i) c tr =
      .stopped a' r' arr' (.slow 4 k e0 c1) tr' :=
  fun n a i c tr fi a' arr' e0 c1 tr' hfi hi0 hU hA h =>
    (run_sim_end mac net now src dst hWF n a _ (.ext i) c tr _ ⟨hi0, hA, fi, hfi, rfl⟩ hU (Nat.le_refl _)).2
      a' arr' k e0 c1 tr' hk h

theorem remaining_le_fuel (c : Cursor) : 2 * remaining c ≤ fuelFor c := by
  simp only [fuelFor, toFlat, Cursor.segs, Cursor.curSeg, remaining,
    List.map_append, List.map_cons, List.map_nil, List.flatten_append,
    List.flatten_cons, List.flatten_nil, List.length_append, List.length_cons, List.append_nil,
    List.length_nil]
  omega

/-- `send`: delivery, and SCMP 4/51 and 4/52, transfer from the network with one router per AS -/
theorem send_sim_end (hWF : WFNet net) (c : Cursor) (hU : Uniform c) (hfirst : c.isFirstHop = true) :
    SimEnd (send mac (collapse net) now src dst c) (send mac net now src dst c) := by
  unfold send
  rw [entryRouter_zero (collapse net) (singleRouter_collapse net)]
  exact run_sim_end mac net now src dst hWF _ _ _ .host _ _ _ ⟨hfirst, rfl⟩ hU (remaining_le_fuel c)

/-- **`send` through a network with several border routers per AS** -/
theorem send_sim (hWF : WFNet net) (c : Cursor) (hU : Uniform c) (hfirst : c.isFirstHop = true)
    (d : Nat) (tr' : List (Nat × Nat)) (cf : Cursor)
    (h : send mac (collapse net) now src dst c = .delivered d tr' cf) :
    send mac net now src dst c = .delivered d tr' cf :=
  ((send_sim_end mac net now src dst hWF c hU hfirst).1 d tr' cf h).trans h

/-- `send`, stopped with SCMP 4/51 or 4/52: transfer from the collapsed network -/
theorem send_sim_slow (hWF : WFNet net) (k : Nat) (hk : k = 51 ∨ k = 52) (c : Cursor) (hU : Uniform c)
    (hfirst : c.isFirstHop = true) (a' : Nat) (arr' : Arrival) (e0 : Nat) (c1 : Cursor)
    (tr' : List (Nat × Nat))
    (h : send mac (collapse net) now src dst c = .stopped a' 0 arr' (.slow 4 k e0 c1) tr') :
    ∃ r', send mac net now src dst c = .stopped a' r' arr' (.slow 4 k e0 c1) tr' :=
  (send_sim_end mac net now src dst hWF c hU hfirst).2 a' arr' k e0 c1 tr' hk h

/-- the way back of a reply that leaves over the external link `i`: transfer from the collapsed
    network (the reply's first router is whichever router owns the neighbour's interface) -/
theorem followReply_sim (hWF : WFNet net) (a r r0 i : Nat) (rc : Cursor) (hU : Uniform rc) (hA : ArrOK rc)
    (d : Nat) (trr : List (Nat × Nat)) (cr : Cursor)
    (h : followReply mac (collapse net) now src a r0 (.ext i) rc = .delivered d trr cr) :
    followReply mac net now src a r (.ext i) rc = .delivered d trr cr := by
  cases hf : (net a).iface i with
  | none => simp [followReply, collapse_iface, hf] at h
  | some f =>
    obtain ⟨_, _, g, hg, _, _, _⟩ := hWF a i f hf
    rw [followReply_ext (collapse_iface_some net a i f hf) (collapse_iface_some net f.nbr f.nbrIf g hg)] at h
    rw [followReply_ext hf hg]
    exact ((run_sim_end mac net now a src hWF _ _ _ (.ext _) _ _ _ ⟨(hWF _ _ _ hg).1, hA, g, hg, rfl⟩ hU
      (remaining_le_fuel rc)).1 d trr cr h).trans h

end

/-! ## The hypotheses of the end-to-end statements do not depend on which router owns which interface, so
they hold for the collapsed network; paths built by path combination are uniform in the Peer flag -/

theorem wf_collapse (net : Net) (h : WFNet net) : WFNet (collapse net) := by
  intro a e f0 hf0
  obtain ⟨f, hf, rfl⟩ := collapse_iface_inv net a e f0 hf0
  obtain ⟨h1, h2, g, hg, h3, h4, h5⟩ := h a e f hf
  exact ⟨h1, h2, collapseIf g, collapse_iface_some net _ _ g hg, h3, h4, h5⟩

theorem allUp_collapse (net : Net) (h : AllUp net) : AllUp (collapse net) := by
  intro a e f0 hf0
  obtain ⟨f, hf, rfl⟩ := collapse_iface_inv net a e f0 hf0
  exact h a e f hf

theorem peerIfs_collapse (net : Net) (a : Nat) (peers : List Nat) (h : PeerIfs net a peers) :
    PeerIfs (collapse net) a peers := by
  intro p hp f0 hf0
  obtain ⟨f, hf, rfl⟩ := collapse_iface_inv net a p f0 hf0
  exact h p hp f hf

theorem extend_collapse (mac : MacFn) (net : Net) (s : PSeg) (a exp i e : Nat) (peers : List Nat) :
    extend mac (collapse net) s a exp i e peers = extend mac net s a exp i e peers := by
  simp only [extend, collapse_key, collapse_iface]
  congr 5
  funext p
  cases (net a).iface p <;> rfl

theorem beaconed_collapse (mac : MacFn) (net : Net) (core : Bool) (b : PSeg) (a i : Nat)
    (h : Beaconed mac net core b a i) : Beaconed mac (collapse net) core b a i := by
  induction h with
  | originate a s0 ts exp e peers f hf hlt he0 hpe =>
    exact extend_collapse mac net _ a exp 0 e peers ▸ Beaconed.originate a s0 ts exp e peers
      (collapseIf f) (collapse_iface_some net a e f hf) hlt he0 (peerIfs_collapse net a peers hpe)
  | propagate b a i exp e peers f _ hf hlt he0 hpe ih =>
    exact extend_collapse mac net b a exp i e peers ▸ Beaconed.propagate b a i exp e peers
      (collapseIf f) ih (collapse_iface_some net a e f hf) hlt he0 (peerIfs_collapse net a peers hpe)

theorem registered_collapse (mac : MacFn) (net : Net) (core : Bool) (s : PSeg)
    (h : Registered mac net core s) : Registered mac (collapse net) core s := by
  cases h with
  | terminate b a i exp peers hb hpe =>
    exact extend_collapse mac net b a exp i 0 peers ▸ Registered.terminate b a i exp peers
      (beaconed_collapse mac net core b a i hb) (peerIfs_collapse net a peers hpe)

theorem joinable_collapse (mac : MacFn) (net : Net) (edges : List Edge) (src dst : Nat)
    (h : Joinable mac net edges src dst) : Joinable mac (collapse net) edges src dst := by
  obtain ⟨h1, h2, h3, h4⟩ := h
  refine ⟨h1, h2, ?_, h4⟩
  intro e he
  obtain ⟨v1, v2⟩ := h3 e he
  exact ⟨registered_collapse mac net e.core e.seg v1, v2⟩

/-! ### Paths from path combination are uniform -/

theorem edgeSeg_peer (e : Edge) (s : Seg) (h : edgeSeg e = some s) : s.info.peer = e.peer.isSome := by
  unfold edgeSeg at h
  split at h
  · cases h; rfl
  · cases h

theorem segsOf_peer (b : Bool) : ∀ (edges : List Edge) (segs : List Seg),
    (∀ e ∈ edges, e.peer.isSome = b) → segsOf edges = some segs → ∀ s ∈ segs, s.info.peer = b := by
  intro edges
  induction edges with
  | nil => intro segs _ h s hs; cases h; cases hs
  | cons e es ih =>
    intro segs hb h s hs
    simp only [segsOf] at h
    split at h
    · rename_i s0 r hs0 hr
      cases h
      rcases List.mem_cons.1 hs with rfl | hs
      · exact (edgeSeg_peer e _ hs0).trans (hb e List.mem_cons_self)
      · exact ih r (fun e' he' => hb e' (List.mem_cons_of_mem _ he')) hr s hs
    · cases h

/-- the packet path combination builds sits on its first hop and all its segments carry the same
    Peer flag -/
theorem pathOf_uniform (mac : MacFn) (net : Net) (edges : List Edge) (src dst : Nat) (c : Cursor)
    (hJ : Joinable mac net edges src dst) (hp : pathOf edges = some c) :
    Uniform c ∧ c.isFirstHop = true := by
  obtain ⟨b, hb⟩ : ∃ b, ∀ e ∈ edges, e.peer.isSome = b := by
    rcases joinable_cases mac net edges src dst hJ with hnp | ⟨e1, e2, k1, k2, rfl, h1, h2⟩
    · exact ⟨false, fun e he => by rw [hnp e he]; rfl⟩
    · refine ⟨true, fun e he => ?_⟩
      simp only [List.mem_cons, List.not_mem_nil, or_false] at he
      rcases he with rfl | rfl
      · rw [h1]; rfl
      · rw [h2]; rfl
  unfold pathOf at hp
  split at hp
  · rename_i segs hsegs
    have hall := segsOf_peer b edges segs hb hsegs
    unfold startCursor at hp
    split at hp
    · cases hp
      exact ⟨⟨nofun, fun s hs => (hall s (List.mem_cons_of_mem _ hs)).trans (hall _ List.mem_cons_self).symm⟩, rfl⟩
    · cases hp
  · cases hp

/-! ## What holds for every delivered packet (needed to send it back: C03), any network -/

theorem uniform_ingUpd (c : Cursor) (arr : Arrival) (p : Bool) (h : Uniform c) : Uniform (ingUpd c arr p) := by
  obtain ⟨sid, hs⟩ := ingUpd_setSeg c arr p
  rw [hs]; exact h

theorem routerStep_forward_uniform (mac : MacFn) (cfg : RCfg) (now : Nat) (arr : Arrival) (sl dl : Bool)
    (c : Cursor) (e : Nat) (c' : Cursor) (hU : Uniform c)
    (h : routerStep mac cfg now arr sl dl c = .forward e c') : Uniform c' := by
  obtain ⟨s, x, hs, _, hx, heg⟩ := routerStep_forward_inv _ _ _ _ _ _ _ _ _ h
  obtain ⟨_, hsc, _, _⟩ := stIngress_ok _ _ _ _ _ _ _ _ hs
  obtain ⟨_, hxc⟩ := stXover_ok _ _ _ _ _ hx
  have hUs : Uniform s.c := by rw [hsc]; exact uniform_ingUpd c arr _ hU
  have hUx : Uniform x.c := by
    rcases hxc with ⟨_, h1, _⟩ | ⟨_, _, h1, _⟩
    · rw [h1]; exact hUs
    · exact incPath_uniform _ _ h1 hUs
  obtain ⟨_, eg, _, _, _, _, _, _, hown, hnot⟩ := stEgress_forward_inv _ _ _ _ _ heg
  cases ho : (eg.owner == cfg.self) with
  | true =>
    have hinc := hown ho
    obtain ⟨sid, hsid⟩ := egUpd_setSeg x.c x.peering
    rw [hsid] at hinc
    exact incPath_uniform _ _ hinc hUx
  | false => rw [hnot ho]; exact hUx

theorem routerStep_deliver_facts (mac : MacFn) (cfg : RCfg) (now : Nat) (arr : Arrival) (sl dl : Bool)
    (c cf : Cursor) (hU : Uniform c)
    (h : routerStep mac cfg now arr sl dl c = .deliver cf) : Uniform cf ∧ cf.isLastHop = true := by
  obtain ⟨s, hs, hdl, rfl⟩ := routerStep_deliver_inv _ _ _ _ _ _ _ _ h
  obtain ⟨_, hsc, _, hchk⟩ := stIngress_ok _ _ _ _ _ _ _ _ hs
  obtain ⟨_, _, _, h1, h2, _⟩ := stChecks_ok _ _ _ _ _ _ _ _ _ hchk
  refine ⟨by rw [hsc]; exact uniform_ingUpd c arr _ hU, ?_⟩
  by_cases h0 : arr.ifid = 0
  · have := (h2 h0).1; rw [hdl] at this; cases this
  · rw [hsc, (h1 h0).2, hdl]

theorem run_delivered_facts (mac : MacFn) (net : Net) (now src dst : Nat) :
    ∀ (n a r : Nat) (arr : Arrival) (c : Cursor) (tr : List (Nat × Nat)) (d : Nat)
      (tr' : List (Nat × Nat)) (cf : Cursor), Uniform c →
      run mac net now src dst n a r arr c tr = .delivered d tr' cf →
      Uniform cf ∧ cf.isLastHop = true := by
  intro n
  induction n with
  | zero => intro a r arr c tr d tr' cf _ h; simp [run] at h
  | succ n ih =>
    intro a r arr c tr d tr' cf hU
    simp only [run]
    split
    · rename_i c0 hst
      intro h; cases h
      exact routerStep_deliver_facts _ _ _ _ _ _ _ _ hU hst
    · rename_i e c' hst
      have hU' := routerStep_forward_uniform _ _ _ _ _ _ _ _ _ hU hst
      split
      · intro h; cases h
      · split
        · split
          · exact ih _ _ _ _ _ _ _ _ hU'
          · intro h; cases h
        · exact ih _ _ _ _ _ _ _ _ hU'
    · intro h; cases h

theorem reverse_delivered (mac : MacFn) (net : Net) (now src dst : Nat) (c cf : Cursor) (d : Nat)
    (tr : List (Nat × Nat)) (hU : Uniform c)
    (h : send mac net now src dst c = .delivered d tr cf) :
    Uniform (reverseCursor cf) ∧ (reverseCursor cf).isFirstHop = true := by
  obtain ⟨⟨hb, ha⟩, hl⟩ := run_delivered_facts mac net now src dst _ _ _ _ _ _ _ _ _ hU h
  have hrev : ∀ l : List Seg, (∀ s ∈ l, s.info.peer = cf.info.peer) →
      ∀ s ∈ l.reverse.map revSeg, s.info.peer = cf.info.peer := by
    intro l hl s hs
    obtain ⟨s0, hs0, rfl⟩ := List.mem_map.1 hs
    exact hl s0 (List.mem_reverse.1 hs0)
  refine ⟨⟨hrev _ ha, hrev _ hb⟩, ?_⟩
  · simp only [Cursor.isLastHop] at hl
    simp only [reverseCursor, Cursor.isFirstHop, List.isEmpty_map, List.isEmpty_reverse]
    rw [Bool.and_comm]; exact hl

end Scion.Net
