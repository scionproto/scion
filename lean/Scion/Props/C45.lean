import Scion.Model.Hidden
import Scion.Proofs.Guard
import Scion.Props.C27
/-!
# C45 — Hidden segments are registered only by writers and served only to members

Property theorems only.  `Scion.Model.Hidden` mirrors `RegistryServer.Register`,
`AuthoritativeServer.Segments`, `canRead`, `isAuthoritative` and `Storer.Get/Put` over the
abstract path-segment store of C27; it is tied to `pkg/experimental/hiddenpath` and the real
SQLite path DB by `harness/cmd/hidden`.
-/
namespace Scion.C45
open Scion.Stores Scion.Hidden

theorem registerCheck_ok_iff (groups : List Group) (localIA : IA) (reg : Registration) :
    registerCheck groups localIA reg = .ok () ↔
      ∃ g, findGroup groups reg.groupID = some g ∧ reg.peer ∈ g.writers ∧
        localIA ∈ g.registries ∧ (∀ s ∈ reg.segs, s.2 = typeDown) ∧ reg.verifies = true := by
  unfold registerCheck
  cases hg : findGroup groups reg.groupID <;> simp [ite_error_eq_ok, ite_else_error_eq_ok]

/-- **registration is accepted iff** the group exists, the registering AS is one of its
    writers, this registry is one of its registries, all segments are down segments and they
    verify -/
theorem register_iff (groups : List Group) (localIA : IA) (segs : List SegRec)
    (reg : Registration) (tick : Nat) :
    (∃ s', register groups localIA segs reg tick = .ok s') ↔
      ∃ g, findGroup groups reg.groupID = some g ∧ reg.peer ∈ g.writers ∧
        localIA ∈ g.registries ∧ (∀ s ∈ reg.segs, s.2 = typeDown) ∧ reg.verifies = true := by
  rw [← registerCheck_ok_iff]
  unfold register
  cases h : registerCheck groups localIA reg with
  | error e => simp
  | ok u => cases u; simp

/-- an accepted registration stores exactly its segments under its group; a refused one leaves
    the store untouched -/
theorem register_effect (groups : List Group) (localIA : IA) (segs : List SegRec)
    (reg : Registration) (tick : Nat) :
    (step groups localIA segs tick (.register reg)).1 =
      (match registerCheck groups localIA reg with
       | .ok () => put segs reg.segs reg.groupID tick
       | .error _ => segs) := by
  simp only [step, register]
  cases h : registerCheck groups localIA reg with
  | error e => rfl
  | ok u => cases u; rfl

theorem canRead_iff (peer : IA) (g : Group) :
    canRead peer g = true ↔
      g.owner = peer ∨ peer ∈ g.registries ∨ peer ∈ g.writers ∨ peer ∈ g.readers := by
  simp [canRead, or_assoc]

theorem checkGroups_ok_iff (groups : List Group) (localIA peer : IA) (ids : List Nat) :
    checkGroups groups localIA peer ids = .ok () ↔
      ∀ id ∈ ids, ∃ g, findGroup groups id = some g ∧ canRead peer g = true ∧
        localIA ∈ g.registries := by
  induction ids with
  | nil => simp [checkGroups]
  | cons id rest ih =>
    unfold checkGroups
    cases hg : findGroup groups id <;>
      simp [ite_error_eq_ok, ite_else_error_eq_ok, isAuthoritative, ih, hg, and_assoc]

theorem segments_ok_iff (groups : List Group) (localIA : IA) (segs : List SegRec) (req : Request)
    (es : List Entry) :
    segments groups localIA segs req = .ok es ↔
      req.groupIDs ≠ [] ∧ checkGroups groups localIA req.peer req.groupIDs = .ok () ∧
        es = getSegs segs (storerParams req) := by
  unfold segments
  cases checkGroups groups localIA req.peer req.groupIDs <;>
    simp [ite_error_eq_ok, List.isEmpty_iff, eq_comm (a := es)]

/-- **the server answers iff** at least one group is requested, every requested group exists,
    the requester is its owner, a registry, a writer or a reader, and this server is one of its
    registries -/
theorem serve_iff (groups : List Group) (localIA : IA) (segs : List SegRec) (req : Request) :
    (∃ es, segments groups localIA segs req = .ok es) ↔
      req.groupIDs ≠ [] ∧ ∀ id ∈ req.groupIDs, ∃ g, findGroup groups id = some g ∧
        (g.owner = req.peer ∨ req.peer ∈ g.registries ∨ req.peer ∈ g.writers ∨
          req.peer ∈ g.readers) ∧ localIA ∈ g.registries := by
  simp only [segments_ok_iff, checkGroups_ok_iff, canRead_iff]
  exact ⟨fun ⟨_, h1, h2, _⟩ => ⟨h1, h2⟩, fun ⟨h1, h2⟩ => ⟨_, h1, h2, rfl⟩⟩

/-- **it then returns exactly the stored segments registered under a requested group that end
    at the requested destination**: one entry per type of every such stored record, carrying
    its current version -/
theorem served_exact (groups : List Group) (localIA : IA) (segs : List SegRec) (req : Request)
    (es : List Entry) (h : segments groups localIA segs req = .ok es) (e : Entry) :
    e ∈ es ↔
      ∃ r ∈ segs, matchIA req.dst r.last = true ∧ (∃ g ∈ r.groups, g ∈ req.groupIDs) ∧
        e.type ∈ r.types ∧
        e = ⟨r.id, r.full, r.ver, r.maxExp, e.type,
              r.groups.filter (fun g => req.groupIDs.contains g), r.lu⟩ := by
  obtain ⟨he, _, rfl⟩ := (segments_ok_iff ..).1 h
  -- under `storerParams` the row filter is the destination match, all types pass, and the group
  -- filter leaves something iff the record is filed under a requested group
  simp [C27.query_exact, selGroups, selTypes, rowMatches, storerParams, he, List.filter_eq_nil_iff]

/-! ## Histories: nothing is stored or served that was not registered by a writer -/

/-- where an entry `y` of a list-valued field `π` (the groups, the types) of a stored record can come from
after a `Put`: it was there, or it is the value `val it` put there for an item with that id; `hnew`/`hupd` say
so for the two records `insertSeg` builds -/
theorem put_origin (π : SegRec → List Nat) (val : SegIn × Nat → Nat) (g k : Nat)
    (hnew : ∀ it : SegIn × Nat, ∀ y ∈ π (newRec it.1 it.2 [g] k), y = val it)
    (hupd : ∀ (it : SegIn × Nat) a, ∀ y ∈ π (updRec a it.1 it.2 [g] k), y ∈ π a ∨ y = val it)
    (items : List (SegIn × Nat)) (s : List SegRec) (r' : SegRec) (hr' : r' ∈ put s items g k) :
    ∀ y ∈ π r', (∃ r ∈ s, r.id = r'.id ∧ y ∈ π r) ∨ ∃ it ∈ items, it.1.id = r'.id ∧ y = val it := by
  induction items generalizing s with
  | nil => exact fun y hy => .inl ⟨r', hr', rfl, hy⟩
  | cons it rest ih =>
    intro y hy
    rcases ih (insertSeg s it.1 it.2 [g] k).1 hr' y hy with ⟨r1, hr1, hid1, hy1⟩ | ⟨it', hit', h'⟩
    · -- `r1` is in the store after inserting `it`: an old record, the new one, or the updated one
      have old : ∀ a ∈ s, a.id = r1.id → y ∈ π a → ∃ r ∈ s, r.id = r'.id ∧ y ∈ π r :=
        fun a ha hid h => ⟨a, ha, hid.trans hid1, h⟩
      have new : it.1.id = r1.id → y = val it → ∃ i ∈ it :: rest, i.1.id = r'.id ∧ y = val i :=
        fun hid h => ⟨it, List.mem_cons_self, hid.trans hid1, h⟩
      unfold insertSeg at hr1
      split at hr1
      · rcases List.mem_append.mp hr1 with h | h
        · exact .inl (old r1 h rfl hy1)
        · cases List.mem_singleton.mp h
          exact .inr (new rfl (hnew it y hy1))
      · split at hr1
        · exact .inl (old r1 hr1 rfl hy1)
        · obtain ⟨a, ha, rfl⟩ := List.mem_map.mp hr1
          by_cases hid : a.id = it.1.id
          · rw [if_pos hid] at hy1 old new
            exact (hupd it a y hy1).imp (old a ha rfl) (new hid.symm)
          · rw [if_neg hid] at hy1 old
            exact .inl (old a ha rfl hy1)
    · exact .inr ⟨it', List.mem_cons_of_mem _ hit', h'⟩

/-- one insertion is a `Put` of one item -/
theorem insertSeg_origin (s : List SegRec) (x : SegIn) (t g k : Nat) (r' : SegRec)
    (hr' : r' ∈ (insertSeg s x t [g] k).1) :
    (∀ g' ∈ r'.groups, (∃ r ∈ s, r.id = r'.id ∧ g' ∈ r.groups) ∨ (r'.id = x.id ∧ g' = g)) ∧
    (∀ t' ∈ r'.types, (∃ r ∈ s, r.id = r'.id ∧ t' ∈ r.types) ∨ (r'.id = x.id ∧ t' = t)) := by
  have one := fun π val hnew hupd => put_origin π val g k hnew hupd [(x, t)] s r' hr'
  simp only [List.mem_singleton, exists_eq_left, @eq_comm _ x.id] at one
  exact ⟨one (·.groups) (fun _ => g) (fun it y hy => by simpa [newRec, mem_addAll] using hy)
      (fun it a y hy => by simpa [updRec, mem_addAll] using hy),
    one (·.types) (·.2) (fun it y hy => by simpa [newRec] using hy)
      (fun it a y hy => by simpa [updRec, mem_addOne] using hy)⟩

def AcceptedIn (groups : List Group) (localIA : IA) (ops : List Op) (reg : Registration) : Prop :=
  Op.register reg ∈ ops ∧ registerCheck groups localIA reg = .ok ()

/-- every (segment, group) association and every type in the store stems from an accepted
    registration -/
def Justified (groups : List Group) (localIA : IA) (all : List Op) (segs : List SegRec) : Prop :=
  ∀ r ∈ segs,
    (∀ g ∈ r.groups, ∃ reg, AcceptedIn groups localIA all reg ∧ reg.groupID = g ∧
      ∃ it ∈ reg.segs, it.1.id = r.id) ∧
    (∀ t ∈ r.types, t = typeDown)

theorem justified_step (groups : List Group) (localIA : IA) (all : List Op) (segs : List SegRec)
    (tick : Nat) (op : Op) (hop : op ∈ all) (h : Justified groups localIA all segs) :
    Justified groups localIA all (step groups localIA segs tick op).1 := by
  cases op with
  | segments req => exact h
  | register reg =>
    rw [register_effect]
    cases hc : registerCheck groups localIA reg with
    | error e => exact h
    | ok u =>
      cases u
      intro r' hr'
      refine ⟨?_, ?_⟩
      · intro g hg
        rcases put_origin (·.groups) (fun _ => reg.groupID) _ tick
            (fun it y hy => by simpa [newRec, mem_addAll] using hy)
            (fun it a y hy => by simpa [updRec, mem_addAll] using hy) reg.segs segs r' hr' g hg with
          ⟨r0, hr0, hid0, hg0⟩ | ⟨it, hit, hid, hgg⟩
        · obtain ⟨reg0, hacc, hgid, it0, hit0, hid00⟩ := (h r0 hr0).1 g hg0
          exact ⟨reg0, hacc, hgid, it0, hit0, hid00.trans hid0⟩
        · exact ⟨reg, ⟨hop, hc⟩, hgg.symm, it, hit, hid⟩
      · intro t ht
        rcases put_origin (·.types) (·.2) _ tick (fun it y hy => by simpa [newRec] using hy)
            (fun it a y hy => by simpa [updRec, mem_addOne] using hy) reg.segs segs r' hr' t ht with
          ⟨r0, hr0, _, ht0⟩ | ⟨it, hit, _, htt⟩
        · exact (h r0 hr0).2 t ht0
        · obtain ⟨_, _, _, _, hdown, _⟩ := (registerCheck_ok_iff groups localIA reg).mp hc
          rw [htt]; exact hdown it hit

theorem justified_run (groups : List Group) (localIA : IA) (all ops : List Op)
    (hsub : ∀ op ∈ ops, op ∈ all) (segs : List SegRec) (tick : Nat)
    (h : Justified groups localIA all segs) :
    Justified groups localIA all (run groups localIA segs tick ops).1 := by
  induction ops generalizing segs tick with
  | nil => exact h
  | cons op rest ih =>
    exact ih (fun o ho => hsub o (by simp [ho])) _ _
      (justified_step groups localIA all segs tick op (hsub op (by simp)) h)

/-- **only writers register**: after any history of registrations and requests (from the empty
    store) every group a stored segment is filed under was put there by a registration of that
    history which passed all checks — group known, sender a writer of it, this AS one of its
    registries, all segments down segments, verified — and every stored type is *down* -/
theorem stored_only_by_writers (groups : List Group) (localIA : IA) (ops : List Op) (tick : Nat)
    (r : SegRec) (hr : r ∈ (run groups localIA [] tick ops).1) (g : Nat) (hg : g ∈ r.groups) :
    (∃ reg grp, Op.register reg ∈ ops ∧ reg.groupID = g ∧ (∃ it ∈ reg.segs, it.1.id = r.id) ∧
      findGroup groups g = some grp ∧ reg.peer ∈ grp.writers ∧ localIA ∈ grp.registries ∧
      reg.verifies = true) ∧ ∀ t ∈ r.types, t = typeDown := by
  have hj := justified_run groups localIA ops ops (fun _ h => h) [] tick
    (fun _ hr => nomatch hr) r hr
  refine ⟨?_, hj.2⟩
  obtain ⟨reg, ⟨hin, hacc⟩, hgid, hit⟩ := hj.1 g hg
  obtain ⟨grp, hgrp, hw, hreg, _, hv⟩ := (registerCheck_ok_iff groups localIA reg).mp hacc
  rw [hgid] at hgrp
  exact ⟨reg, grp, hin, hgid, hit, hgrp, hw, hreg, hv⟩

/-- **only members are served**: whatever a request is answered with, after any history, is a
    stored down segment filed under a requested group of which the requester is owner,
    registry, writer or reader, and that association was registered by a writer of that group -/
theorem served_only_to_members (groups : List Group) (localIA : IA) (ops : List Op) (tick : Nat)
    (req : Request) (es : List Entry)
    (h : segments groups localIA (run groups localIA [] tick ops).1 req = .ok es)
    (e : Entry) (he : e ∈ es) :
    e.type = typeDown ∧
    ∃ g ∈ req.groupIDs, ∃ grp, findGroup groups g = some grp ∧
      (grp.owner = req.peer ∨ req.peer ∈ grp.registries ∨ req.peer ∈ grp.writers ∨
        req.peer ∈ grp.readers) ∧
      ∃ reg, Op.register reg ∈ ops ∧ reg.groupID = g ∧ reg.peer ∈ grp.writers ∧
        ∃ it ∈ reg.segs, it.1.id = e.id := by
  obtain ⟨r, hr, _, ⟨g, hg1, hg2⟩, ht, heq⟩ :=
    (served_exact groups localIA _ req es h e).mp he
  obtain ⟨⟨reg, grp, hin, hgid, hit, hgrp, hw, _, _⟩, hdown⟩ :=
    stored_only_by_writers groups localIA ops tick r hr g hg1
  obtain ⟨_, hall⟩ := (serve_iff groups localIA _ req).mp ⟨es, h⟩
  obtain ⟨grp', hgrp', hmem, _⟩ := hall g hg2
  rw [hgrp] at hgrp'
  cases hgrp'
  have hid : e.id = r.id := by rw [heq]
  refine ⟨hdown _ ht, g, hg2, grp, hgrp, hmem, reg, hin, hgid, hw, ?_⟩
  obtain ⟨it, hit1, hit2⟩ := hit
  exact ⟨it, hit1, hit2.trans hid.symm⟩

/-- T3: the checks of `Register` and `Segments`, `canRead`, `isAuthoritative` and the query /
    insertion of `Storer.Get` / `Storer.Put` as they stand in the source (regenerated on every
    run) are the ones the model transcribes, in this order -/
theorem gen_hidden_decisions :
    Scion.Gen.StoresFacts.registerConds =
      ["!ok", "_, ok := group.Writers[reg.Peer.IA]; !ok",
       "_, ok := group.Registries[h.LocalIA]; !ok", "s.Type != seg.TypeDown"] ∧
    Scion.Gen.StoresFacts.segmentsConds =
      ["len(req.GroupIDs) == 0", "!ok", "!canRead(req.Peer, group)",
       "!isAuthoritative(s.LocalIA, group)"] ∧
    Scion.Gen.StoresFacts.canReadReturns =
      ["owner := group.Owner.Equal(peer)", "_, registry := group.Registries[peer]",
       "_, writer := group.Writers[peer]", "_, reader := group.Readers[peer]",
       "return owner || registry || writer || reader"] ∧
    Scion.Gen.StoresFacts.isAuthoritativeReturns =
      ["_, auth := group.Registries[localIA]", "return auth"] ∧
    Scion.Gen.StoresFacts.storerGetParams = ["EndsAt=[]addr.IA{ia}", "HPGroupIDs=convert(groups)"] ∧
    Scion.Gen.StoresFacts.storerPutArgs = ["ctx", "seg", "convert([]GroupID{g})"] :=
  ⟨rfl, rfl, rfl, rfl, rfl, rfl⟩

/-! ## Non-vacuity -/

private def owner : IA := ⟨1, 0x110⟩
private def writer : IA := ⟨1, 0x111⟩
private def reader : IA := ⟨1, 0x112⟩
private def stranger : IA := ⟨1, 0x999⟩
private def reg1 : IA := ⟨1, 0x113⟩
private def grp : Group := ⟨0x1100001, owner, [writer], [reader], [reg1]⟩
private def sg : SegIn := ⟨"ab".toList, "cd".toList, 5, 100, owner, writer, []⟩

/-- a writer registers, a reader is served, a reader cannot register, a stranger is not served,
    another destination yields nothing -/
example :
    (run [grp] reg1 [] 0
      [.register ⟨0x1100001, reader, [(sg, 2)], true⟩,
       .register ⟨0x1100001, writer, [(sg, 2)], true⟩,
       .segments ⟨[0x1100001], writer, reader⟩,
       .segments ⟨[0x1100001], writer, stranger⟩,
       .segments ⟨[0x1100001], reader, reader⟩]).2.map
      (fun o => match o with
        | .registered (.ok _) => 1
        | .registered (.error _) => 0
        | .served (.ok es) => 10 + es.length
        | .served (.error _) => 0) = [0, 1, 11, 0, 10] := by decide +kernel

end Scion.C45
