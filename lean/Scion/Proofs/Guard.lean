/-! Check-else-reject chains.  A Go function that is a sequence of `if bad { return err }` steps is modelled
as nested `if g then reject else …`.  Read through these lemmas a chain of `n` guards yields `n` facts in
one pass.  `repeat' split` re-simplifies the rest of the chain at every guard, and it also splits the `if`s
and `match`es inside the guards themselves, where the cases multiply. -/
namespace Scion

theorem ite_eq_iff_of_ne {α} {g : Prop} [Decidable g] {a k b : α} (h : a ≠ b) :
    (if g then a else k) = b ↔ ¬ g ∧ k = b := by
  split <;> simp [*]

theorem ite_eq_iff_of_ne' {α} {g : Prop} [Decidable g] {a k b : α} (h : k ≠ b) :
    (if g then a else k) = b ↔ g ∧ a = b := by
  split <;> simp [*]

/-! The instances that `simp only` can use without a side condition. -/

theorem ite_error_eq_ok {ε α} {g : Prop} [Decidable g] {e : ε} {k : Except ε α} {s : α} :
    (if g then .error e else k) = .ok s ↔ ¬ g ∧ k = .ok s :=
  ite_eq_iff_of_ne nofun

theorem ite_else_error_eq_ok {ε α} {g : Prop} [Decidable g] {e : ε} {k : Except ε α} {s : α} :
    (if g then k else .error e) = .ok s ↔ g ∧ k = .ok s :=
  ite_eq_iff_of_ne' nofun

theorem ite_none_eq_some {α} {g : Prop} [Decidable g] {k : Option α} {s : α} :
    (if g then none else k) = some s ↔ ¬ g ∧ k = some s :=
  ite_eq_iff_of_ne nofun

theorem ite_true_eq_false {g : Prop} [Decidable g] {k : Bool} :
    (if g then true else k) = false ↔ ¬ g ∧ k = false :=
  ite_eq_iff_of_ne nofun

/-- one guard peeled off a chain, for chains whose branches are not all of one shape -/
theorem ite_eq_cases {α : Type _} {c : Prop} [Decidable c] {x y r : α} (h : (if c then x else y) = r) :
    (c ∧ x = r) ∨ (¬c ∧ y = r) := by
  by_cases hc : c
  · rw [if_pos hc] at h; exact Or.inl ⟨hc, h⟩
  · rw [if_neg hc] at h; exact Or.inr ⟨hc, h⟩

theorem ite_error_elim {ε α} {g : Prop} [Decidable g] {e : ε} {k : Except ε α} {P : ε → Prop}
    (he : P e) (hk : ∀ o, k = .error o → P o) : ∀ o, (if g then .error e else k) = .error o → P o := by
  intro o
  split
  · rintro ⟨⟩; exact he
  · exact hk o

end Scion
