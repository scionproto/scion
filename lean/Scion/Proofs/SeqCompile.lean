import Scion.Proofs.RxSubst
import Scion.Proofs.AddrParse
/-! Correctness of the listener's compilation: the compiled regular expression accepts the
textual hop list iff the sequence expression accepts the hop list. -/
namespace Scion.Seq
open Rx Scion.Addr

abbrev L (r : Re) (s : Str) : Prop := Lang CC.ok r s

theorem L_lit : ∀ (t s : Str), L (lit t) s ↔ s = t
  | [], s => by simp [L, lit, Lang]
  | c :: cs, s => by
    have ih := L_lit cs
    simp only [L, lit, Lang, CC.ok, beq_iff_eq] at ih ⊢
    constructor
    · rintro ⟨u, v, rfl, ⟨x, rfl, hx⟩, hv⟩
      rw [(ih v).1 hv, hx]; rfl
    · rintro rfl
      exact ⟨[c], cs, rfl, ⟨c, rfl, rfl⟩, (ih cs).2 rfl⟩

theorem L_plus_atom (p : CC) (s : Str) :
    L (.plus (.atom p)) s ↔ s ≠ [] ∧ ∀ c ∈ s, CC.ok p c = true := by
  simp only [L, Lang]
  constructor
  · rintro ⟨ws, hne, rfl, hall⟩
    constructor
    · cases ws with
      | nil => exact absurd rfl hne
      | cons u us =>
        obtain ⟨x, rfl, _⟩ := hall u (by simp)
        simp
    · intro c hc
      obtain ⟨u, hu, hcu⟩ := List.mem_flatten.1 hc
      obtain ⟨x, rfl, hx⟩ := hall u hu
      simp only [List.mem_singleton] at hcu
      rw [hcu]; exact hx
  · rintro ⟨hne, hall⟩
    refine ⟨s.map (fun c => [c]), by simpa using hne, ?_, ?_⟩
    · clear hne hall
      induction s with
      | nil => rfl
      | cons x xs ih => simp [← ih]
    · intro u hu
      simp only [List.mem_map] at hu
      obtain ⟨c, hc, rfl⟩ := hu
      exact ⟨c, rfl, hall c hc⟩

/-! ### splitting at a delimiter that the first factor cannot contain -/

theorem append_cons_inj (c : Char) : ∀ (u f v rest : Str), c ∉ u → c ∉ f →
    u ++ c :: v = f ++ c :: rest → u = f ∧ v = rest := by
  intro u
  induction u with
  | nil =>
    intro f v rest _ hf h
    cases f with
    | nil => exact ⟨rfl, (List.cons.inj h).2⟩
    | cons y ys =>
      simp only [List.nil_append, List.cons_append, List.cons.injEq] at h
      exact absurd (by simp [h.1]) hf
  | cons x xs ih =>
    intro f v rest hu hf h
    cases f with
    | nil =>
      simp only [List.nil_append, List.cons_append, List.cons.injEq] at h
      exact absurd (by simp [h.1]) hu
    | cons y ys =>
      simp only [List.cons_append, List.cons.injEq] at h
      simp only [List.mem_cons, not_or] at hu hf
      obtain ⟨h1, h2⟩ := ih ys v rest hu.2 hf.2 h.2
      exact ⟨by rw [h.1, h1], h2⟩

theorem L_delim (r1 r2 : Re) (c : Char) (f rest : Str)
    (hr1 : ∀ u, L r1 u → c ∉ u) (hf : c ∉ f) :
    L (.cat r1 (.cat (.atom (.chr c)) r2)) (f ++ c :: rest) ↔ L r1 f ∧ L r2 rest := by
  simp only [L, Lang, CC.ok, beq_iff_eq]
  constructor
  · rintro ⟨u, v, huv, hu, x, v', rfl, ⟨y, rfl, hy⟩, hv'⟩
    subst hy
    have := append_cons_inj c u f v' rest (hr1 u hu) hf (by simpa using huv.symm)
    rw [← this.1, ← this.2]
    exact ⟨hu, hv'⟩
  · rintro ⟨h1, h2⟩
    exact ⟨f, c :: rest, rfl, h1, [c], rest, rfl, ⟨c, rfl, rfl⟩, h2⟩

def spaces : Re := .plus (.atom (.chr ' '))

theorem L_spaces (s : Str) : L spaces s ↔ s ≠ [] ∧ ∀ c ∈ s, c = ' ' := by
  simp only [spaces, L_plus_atom, CC.ok, beq_iff_eq, @eq_comm _ ' ']

theorem L_end (r1 : Re) (f : Str) (hr1 : ∀ u, L r1 u → ' ' ∉ u) (hf : ' ' ∉ f) :
    L (.cat r1 spaces) (f ++ [' ']) ↔ L r1 f := by
  constructor
  · intro h
    obtain ⟨u, v, huv, hu, hv⟩ := h
    obtain ⟨hne, hall⟩ := (L_spaces v).1 hv
    cases v with
    | nil => exact absurd rfl hne
    | cons x xs =>
      have hx : x = ' ' := hall x (by simp)
      subst hx
      have := append_cons_inj ' ' u f xs [] (hr1 u hu) hf huv.symm
      rw [← this.1]; exact hu
  · intro h
    exact ⟨f, [' '], rfl, h, (L_spaces _).2 ⟨by simp, by simp⟩⟩

theorem L_chars (r : Re) (Good : Char → Prop)
    (hg : ∀ p ∈ atoms r, ∀ c, CC.ok p c = true → Good c) (u : Str) (h : L r u) :
    ∀ c ∈ u, Good c := by
  intro c hc
  obtain ⟨p, hp, hs⟩ := Lang_letters CC.ok r u h c hc
  exact hg p hp c hs

/-! ### the fields of a hop -/

theorem digitChar_dec : ∀ d, d < 10 → CC.ok .digit (digitChar d) = true := by decide
theorem digitChar_hex : ∀ d, d < 16 → CC.ok .hex (digitChar d) = true := by decide

/-- field characters: never a blank or one of the delimiters that follow a field -/
def FieldCh (c : Char) : Prop := c ≠ ' ' ∧ c ≠ '#'
def DecCh (c : Char) : Prop := c ≠ ' ' ∧ c ≠ '#' ∧ c ≠ '-' ∧ c ≠ ','

theorem decCh_of_digit (c : Char) (h : CC.ok .digit c = true) : DecCh c := by
  simp only [CC.ok, Bool.and_eq_true, decide_eq_true_eq] at h
  refine ⟨?_, ?_, ?_, ?_⟩ <;> (intro e; subst e; revert h; decide)

theorem fieldCh_of_hex (c : Char) (h : CC.ok .hex c = true) : FieldCh c := by
  simp only [CC.ok, Bool.or_eq_true, Bool.and_eq_true, decide_eq_true_eq] at h
  refine ⟨?_, ?_⟩ <;> (intro e; subst e; revert h; decide)

theorem toDigits10_digit (n : Nat) : ∀ c ∈ toDigits 10 n, CC.ok .digit c = true := by
  intro c hc
  obtain ⟨d, hd, rfl⟩ := mem_toDigits 10 (by omega) n c hc
  exact digitChar_dec d hd

theorem toDigits16_hex (n : Nat) : ∀ c ∈ toDigits 16 n, CC.ok .hex c = true := by
  intro c hc
  obtain ⟨d, hd, rfl⟩ := mem_toDigits 16 (by omega) n c hc
  exact digitChar_hex d hd

theorem toDigits10_decCh (n : Nat) : ∀ c ∈ toDigits 10 n, DecCh c :=
  fun c hc => decCh_of_digit c (toDigits10_digit n c hc)

theorem numRe_wild : numRe .wild = digits1 := rfl

theorem L_numRe (q : NumPred) (n : Nat) : L (numRe q) (toDigits 10 n) ↔ q.ok n = true := by
  cases q with
  | wild =>
    simp only [numRe, digits1, L_plus_atom, NumPred.ok, iff_true]
    exact ⟨toDigits_ne_nil 10 n, toDigits10_digit n⟩
  | lit m =>
    simp only [numRe, L_lit, NumPred.ok, beq_iff_eq]
    constructor
    · intro h; exact (toDigits_inj 10 (by omega) (by omega) n m h).symm
    · rintro rfl; rfl

theorem numRe_chars (q : NumPred) (u : Str) (h : L (numRe q) u) : ∀ c ∈ u, DecCh c := by
  cases q with
  | wild =>
    simp only [numRe, digits1, L_plus_atom] at h
    exact fun c hc => decCh_of_digit c (h.2 c hc)
  | lit m =>
    simp only [numRe, L_lit] at h
    subst h
    exact toDigits10_decCh m

def ASPred.WF : ASPred → Prop
  | .lit m => m < 2 ^ 48
  | _ => True

theorem fmtAS_fieldCh (m : Nat) (hm : m < 2 ^ 48) : ∀ c ∈ fmtAS [':'] m, FieldCh c := by
  intro c hc
  rcases mem_fmtAS [':'] m hm c hc with ⟨d, hd, rfl⟩ | hc
  · exact fieldCh_of_hex _ (digitChar_hex d hd)
  · rw [List.mem_singleton.1 hc]; exact ⟨by decide, by decide⟩

theorem L_hex3 (A B C : Str) (hA : L hex1 A) (hB : L hex1 B) (hC : L hex1 C) :
    L asWildRe (A ++ [':'] ++ B ++ [':'] ++ C) :=
  Or.inr ⟨A, [':'] ++ B ++ [':'] ++ C, by simp, hA, [':'], B ++ [':'] ++ C, by simp,
    ⟨':', rfl, rfl⟩, B, [':'] ++ C, by simp, hB, [':'], C, rfl, ⟨':', rfl, rfl⟩, hC⟩

theorem L_asRe (a : ASPred) (ha : a.WF) (v : Nat) (hv : v < 2 ^ 48) :
    L (asRe a) (fmtAS [':'] v) ↔ a.ok v = true := by
  cases a with
  | wild =>
    simp only [asRe, ASPred.ok, iff_true]
    have hx : ∀ n, L hex1 (toDigits 16 n) :=
      fun n => (L_plus_atom .hex (toDigits 16 n)).2 ⟨toDigits_ne_nil 16 n, toDigits16_hex n⟩
    rcases fmtAS_cases [':'] v hv with ⟨_, e⟩ | ⟨_, e⟩ <;> rw [e]
    · exact .inl ((L_plus_atom .digit _).2 ⟨toDigits_ne_nil 10 v, toDigits10_digit v⟩)
    · exact L_hex3 _ _ _ (hx _) (hx _) (hx _)
  | lit m =>
    simp only [asRe, L_lit, ASPred.ok, beq_iff_eq]
    constructor
    · intro h; exact (fmtAS_inj [':'] colon_sep v m hv ha h).symm
    · rintro rfl; rfl
  | bad => simp [asRe, ASPred.ok, L, Lang]

theorem asRe_chars (a : ASPred) (ha : a.WF) (u : Str) (h : L (asRe a) u) : ∀ c ∈ u, FieldCh c := by
  cases a with
  | wild =>
    refine L_chars asWildRe FieldCh ?_ u h
    intro p hp c hc
    simp only [asWildRe, digits1, hex1, colon, atoms, List.cons_append, List.nil_append,
      List.mem_cons, List.not_mem_nil, or_false] at hp
    rcases hp with rfl | rfl | rfl | rfl | rfl | rfl
    · have := decCh_of_digit c hc; exact ⟨this.1, this.2.1⟩
    · exact fieldCh_of_hex c hc
    · simp only [CC.ok, beq_iff_eq] at hc; subst hc; exact ⟨by decide, by decide⟩
    · exact fieldCh_of_hex c hc
    · simp only [CC.ok, beq_iff_eq] at hc; subst hc; exact ⟨by decide, by decide⟩
    · exact fieldCh_of_hex c hc
  | lit m =>
    simp only [asRe, L_lit] at h
    subst h
    exact fmtAS_fieldCh m ha
  | bad => exact absurd h (by simp [asRe, L, Lang])

theorem pairRe_chars (a b : NumPred) (u : Str)
    (h : L (.cat (numRe a) (.cat (.atom (.chr ',')) (numRe b))) u) : ∀ c ∈ u, c ≠ ' ' := by
  obtain ⟨u1, _, rfl, h1, _, u2, rfl, ⟨x, rfl, hx⟩, h2⟩ := h
  intro c hc
  simp only [List.mem_append, List.mem_singleton] at hc
  rcases hc with hc | rfl | hc
  · exact (numRe_chars a u1 h1 c hc).1
  · simp only [CC.ok, beq_iff_eq] at hx; subst hx; decide
  · exact (numRe_chars b u2 h2 c hc).1

theorem ifsRe_chars (p : IfPred) (u : Str) (h : L (ifsRe p) u) : ∀ c ∈ u, c ≠ ' ' := by
  cases p with
  | any => exact pairRe_chars .wild .wild u h
  | either q => exact h.elim (pairRe_chars .wild q u) (pairRe_chars q .wild u)
  | both i o => exact pairRe_chars i o u h

theorem L_pair (a b : NumPred) (i o : Nat) :
    L (.cat (numRe a) (.cat (.atom (.chr ',')) (numRe b))) (toDigits 10 i ++ ',' :: toDigits 10 o) ↔
      a.ok i = true ∧ b.ok o = true := by
  rw [L_delim (numRe a) _ ',' _ _ (fun u hu hm => (numRe_chars a u hu _ hm).2.2.2 rfl)
    (fun hm => (toDigits10_decCh i _ hm).2.2.2 rfl), L_numRe, L_numRe]

theorem L_ifs (p : IfPred) (i o : Nat) :
    L (.cat (ifsRe p) spaces) (toDigits 10 i ++ ',' :: (toDigits 10 o ++ [' '])) ↔
      p.ok i o = true := by
  have hf : ' ' ∉ toDigits 10 i ++ ',' :: toDigits 10 o := by
    simp only [List.mem_append, List.mem_cons, not_or]
    exact ⟨fun hm => (toDigits10_decCh i _ hm).1 rfl, by decide,
      fun hm => (toDigits10_decCh o _ hm).1 rfl⟩
  rw [← List.cons_append, ← List.append_assoc,
    L_end (ifsRe p) _ (fun u hu hm => ifsRe_chars p u hu _ hm rfl) hf]
  cases p with
  | any => exact (L_pair .wild .wild i o).trans (by simp [NumPred.ok, IfPred.ok])
  | either q =>
    exact (or_congr (L_pair .wild q i o) (L_pair q .wild i o)).trans (by simp [NumPred.ok, IfPred.ok])
  | both a b => exact (L_pair a b i o).trans (by simp [IfPred.ok])

def HopPred.WF (p : HopPred) : Prop := p.as.WF

theorem hopText_block (h : Hop) :
    hopText h ++ [' '] = toDigits 10 h.isd ++ '-' :: (fmtAS [':'] h.as ++ '#' ::
      (toDigits 10 h.inIf ++ ',' :: (toDigits 10 h.outIf ++ [' ']))) := by
  simp [hopText]

/-- **one hop**: the compiled hop predicate accepts the hop's text (followed by one blank) iff
    the predicate holds of the hop -/
theorem L_hopRe (p : HopPred) (hp : p.WF) (h : Hop) (hh : h.as < 2 ^ 48) :
    L (hopRe p) (hopText h ++ [' ']) ↔ p.ok h = true := by
  rw [hopText_block]
  unfold hopRe
  rw [L_delim (numRe p.isd) _ '-' _ _ (fun u hu hm => (numRe_chars _ u hu _ hm).2.2.1 rfl)
      (fun hm => (toDigits10_decCh _ _ hm).2.2.1 rfl),
    L_delim (asRe p.as) _ '#' _ _ (fun u hu hm => (asRe_chars _ hp u hu _ hm).2 rfl)
      (fun hm => (fmtAS_fieldCh _ hh _ hm).2 rfl)]
  have := L_ifs p.ifs h.inIf h.outIf
  simp only [spaces] at this
  rw [this, L_numRe, L_asRe _ hp _ hh]
  simp [HopPred.ok, and_assoc]

/-! ### shape of the accepted words, unique decomposition into blocks -/

def IsTok (u : Str) : Prop :=
  ∃ t sp, u = t ++ sp ∧ ' ' ∉ t ∧ t ≠ [] ∧ sp ≠ [] ∧ ∀ c ∈ sp, c = ' '

theorem hopRe_shape (p : HopPred) (hp : p.WF) (u : Str) (h : L (hopRe p) u) : IsTok u := by
  obtain ⟨u1, r1, rfl, h1, x, r2, rfl, ⟨c1, rfl, hc1⟩, u2, r3, rfl, h2, y, r4, rfl, ⟨c2, rfl, hc2⟩,
    u3, sp, rfl, h3, hsp⟩ := h
  simp only [CC.ok, beq_iff_eq] at hc1 hc2
  subst hc1 hc2
  obtain ⟨hne, hall⟩ := (L_spaces sp).1 hsp
  refine ⟨u1 ++ '-' :: (u2 ++ '#' :: u3), sp, by simp, ?_, by simp, hne, hall⟩
  simp only [List.mem_append, List.mem_cons, not_or]
  exact ⟨fun hm => (numRe_chars _ u1 h1 _ hm).1 rfl, by decide,
    fun hm => (asRe_chars _ hp u2 h2 _ hm).1 rfl, by decide, fun hm => ifsRe_chars _ u3 h3 _ hm rfl⟩

theorem blocks_unique : ∀ (ws bs : List Str),
    (∀ u ∈ ws, IsTok u) → (∀ b ∈ bs, ∃ t, b = t ++ [' '] ∧ ' ' ∉ t ∧ t ≠ []) →
    ws.flatten = bs.flatten → ws = bs := by
  intro ws
  induction ws with
  | nil =>
    intro bs _ hb h
    cases bs with
    | nil => rfl
    | cons b bs' =>
      obtain ⟨t, rfl, _, _⟩ := hb b (by simp)
      simp at h
  | cons u ws ih =>
    intro bs hw hb h
    obtain ⟨t, sp, rfl, hts, htne, hspne, hsp⟩ := hw u (by simp)
    cases bs with
    | nil =>
      cases t with
      | nil => exact absurd rfl htne
      | cons x xs => simp at h
    | cons b bs' =>
      obtain ⟨t', rfl, hts', htne'⟩ := hb b (by simp)
      cases sp with
      | nil => exact absurd rfl hspne
      | cons s0 sp' =>
        have hs0 : s0 = ' ' := hsp s0 (by simp)
        subst hs0
        have h' : t ++ ' ' :: (sp' ++ ws.flatten) = t' ++ ' ' :: bs'.flatten := by
          simpa using h
        obtain ⟨e1, e2⟩ := append_cons_inj ' ' t t' _ _ hts hts' h'
        subst e1
        -- no further blank: the next block would have to start with one
        have hsp' : sp' = [] := by
          cases sp' with
          | nil => rfl
          | cons s1 sp'' =>
            have hs1 : s1 = ' ' := hsp s1 (by simp)
            subst hs1
            cases bs' with
            | nil => simp at e2
            | cons b2 bs'' =>
              obtain ⟨t2, rfl, hts2, htne2⟩ := hb b2 (by simp)
              cases t2 with
              | nil => exact absurd rfl htne2
              | cons z zs =>
                simp only [List.cons_append, List.flatten_cons, List.cons.injEq] at e2
                exact absurd (by simp [← e2.1]) hts2
        subst hsp'
        simp only [List.nil_append] at e2
        have := ih bs' (fun v hv => hw v (by simp [hv])) (fun v hv => hb v (by simp [hv])) e2
        rw [this]

/-- the text of one hop as `Eval` lays it out: the hop followed by one blank -/
def block (h : Hop) : Str := hopText h ++ [' ']

theorem render_eq : ∀ hs : List Hop, render hs = (hs.map block).flatten
  | [] => rfl
  | h :: hs => by simp [render, block, render_eq hs]

theorem compile_eq_subst : ∀ e : Expr, compile e = subst hopRe e
  | .zero => rfl
  | .eps => rfl
  | .atom _ => rfl
  | .cat a b => by simp [compile, subst, compile_eq_subst a, compile_eq_subst b]
  | .alt a b => by simp [compile, subst, compile_eq_subst a, compile_eq_subst b]
  | .opt a => by simp [compile, subst, compile_eq_subst a]
  | .plus a => by simp [compile, subst, compile_eq_subst a]
  | .star a => by simp [compile, subst, compile_eq_subst a]

theorem hopText_tok (h : Hop) (hh : h.as < 2 ^ 48) : ' ' ∉ hopText h ∧ hopText h ≠ [] := by
  have dec := fun n hm => (toDigits10_decCh n ' ' hm).1 rfl
  refine ⟨fun hm => ?_, by simp [hopText]⟩
  simp only [hopText, List.mem_append, List.mem_singleton] at hm
  -- the three numbers and the AS text contain no blank, the four delimiters are not blanks
  rcases hm with (((((hm | hm) | hm) | hm) | hm) | hm) | hm
  · exact dec _ hm
  · cases hm
  · exact (fmtAS_fieldCh _ hh _ hm).1 rfl
  · cases hm
  · exact dec _ hm
  · cases hm
  · exact dec _ hm

/-! ### `GetSequence`: the hops after the first interface -/

theorem midHops_none_iff : ∀ p : List PIf, midHops p = none ↔ p.length % 2 = 0
  | [] => by simp [midHops]
  | [_] => by simp [midHops]
  | a :: b :: rest => by
    rw [List.length_cons, List.length_cons, Nat.add_assoc, Nat.add_mod_right,
      ← midHops_none_iff rest, midHops]
    cases midHops rest <;> simp

theorem midHops_as : ∀ (p : List PIf) (hs : List Hop), midHops p = some hs →
    ∀ h ∈ hs, ∃ i ∈ p, h.as = i.as
  | [], hs, h => by simp [midHops] at h
  | [l], hs, h => by
    simp only [midHops, Option.some.injEq] at h
    subst h
    intro x hx
    simp only [List.mem_singleton] at hx
    subst hx
    exact ⟨l, by simp, rfl⟩
  | a :: b :: rest, hs, h => by
    simp only [midHops] at h
    cases hr : midHops rest with
    | none => simp [hr] at h
    | some hs' =>
      simp only [hr, Option.some.injEq] at h
      subst h
      exact List.forall_mem_cons.2 ⟨⟨a, by simp, rfl⟩, fun x hx =>
        (midHops_as rest hs' hr x hx).imp fun i hi => ⟨by simp [hi.1], hi.2⟩⟩

/-- all AS literals of the expression are AS numbers (what `asPredOfText` produces) -/
def ExprWF (e : Expr) : Prop := ∀ p ∈ atoms e, HopPred.WF p

theorem compile_correct_lang (e : Expr) (he : ExprWF e) (hs : List Hop)
    (hh : ∀ h ∈ hs, h.as < 2 ^ 48) :
    L (compile e) (render hs) ↔ Lang HopPred.ok e hs := by
  unfold L
  rw [compile_eq_subst, render_eq]
  refine Lang_subst_map CC.ok HopPred.ok hopRe block HopPred.WF (fun h => h.as < 2 ^ 48)
    (fun p x hp hx => Bool.eq_iff_iff.2 (by rw [Rx.accepts_iff_lang]; exact L_hopRe p hp x hx))
    e he hs hh ?_
  intro ws hws hfl
  refine blocks_unique ws (hs.map block) (fun u hu => ?_) (fun b hb => ?_) hfl.symm
  · obtain ⟨p, hp, hsat⟩ := hws u hu
    exact hopRe_shape p (he p hp) u ((Rx.accepts_iff_lang CC.ok _ u).1 hsat)
  · obtain ⟨h, hm, rfl⟩ := List.mem_map.1 hb
    exact ⟨hopText h, rfl, hopText_tok h (hh h hm)⟩

end Scion.Seq
