import Scion.Model.Chain
import Scion.Proofs.Guard
/-! Lemmas about `Scion.Model.Chain`: the Boolean validation functions as propositions, and what each
decision function accepts. Used by `Scion.Props.C34`, `C36`, `C37`. -/
namespace Scion.Chain

theorem isOk_iff (r : IARes) : r.isOk = true ↔ ∃ ia, r = .ok ia := by
  cases r <;> simp [IARes.isOk]

theorem digSig_true (c : Cert) : digSig c = true ↔ c.keyUsage % 2 = 1 := by simp [digSig]
theorem digSig_false (c : Cert) : digSig c = false ↔ c.keyUsage % 2 = 0 := by simp [digSig]
theorem certSign_true (c : Cert) : certSign c = true ↔ c.keyUsage / 32 % 2 = 1 := by simp [certSign]
theorem certSign_false (c : Cert) : certSign c = false ↔ c.keyUsage / 32 % 2 = 0 := by simp [certSign]

theorem generalOk_iff (c : Cert) :
    generalOk c = true ↔ c.version = 3 ∧ c.hasSerial = true ∧
      (c.sigAlg = 10 ∨ c.sigAlg = 11 ∨ c.sigAlg = 12) ∧ c.skidEmpty = false ∧
      c.skidExt ≠ some true ∧ c.akidExt ≠ some true := by
  simp [generalOk, validSigAlgs, and_assoc]

theorem iaSetOk_iff (c : Cert) :
    iaSetOk c = true ↔ (∃ ia, c.issuerIA = .ok ia) ∧ (∃ ia, c.subjectIA = .ok ia) := by
  simp [iaSetOk, isOk_iff]

theorem asOk_iff (c : Cert) :
    asOk c = true ↔ generalOk c = true ∧ certSign c = false ∧ digSig c = true ∧
      ¬ (c.bcValid = true ∧ c.isCA = true) ∧ iaSetOk c = true ∧ c.akid ≠ 0 ∧ 8 ∈ c.eku := by
  cases hb : c.bcValid <;> cases hc : c.isCA <;> simp [asOk, ekuTimeStamping, and_assoc, hb, hc]

theorem caOk_iff (c : Cert) :
    caOk c = true ↔ generalOk c = true ∧ certSign c = true ∧ digSig c = false ∧
      2 ∉ c.eku ∧ 1 ∉ c.eku ∧ c.bcExt ≠ some false ∧ c.bcValid = true ∧ c.isCA = true ∧
      c.maxPathLen = 0 ∧ iaSetOk c = true ∧ c.akid ≠ 0 := by
  simp [caOk, commonCAOk, ekuClientAuth, ekuServerAuth, and_assoc]

theorem classifyUeku_ne (l : List Nat) : classifyUeku l ≠ some .ca ∧ classifyUeku l ≠ some .as := by
  fun_induction classifyUeku l <;> simp [*]

/-- `asOk` contains the key-usage test by which `classify` tells an AS certificate -/
theorem validateCert_as (c : Cert) :
    validateCert (some c) = (.as, true) ↔ classifyUeku c.ueku = none ∧ asOk c = true := by
  have := classifyUeku_ne c.ueku
  unfold validateCert classify
  cases hu : classifyUeku c.ueku with
  | some t => cases t <;> simp [hu] at this ⊢
  | none => cases hc : certSign c <;> cases hd : digSig c <;> simp [asOk, hu, hc, hd]

theorem validateCert_ca (c : Cert) :
    validateCert (some c) = (.ca, true) ↔ classifyUeku c.ueku = none ∧ caOk c = true := by
  have := classifyUeku_ne c.ueku
  unfold validateCert classify
  cases hu : classifyUeku c.ueku with
  | some t => cases t <;> simp [hu] at this ⊢
  | none => cases hc : certSign c <;> cases hd : digSig c <;> simp [caOk, commonCAOk, hu, hc, hd]

theorem verifyOk_iff (certs : List (Option Cert)) (t : TrcArg) (s x : Bool) :
    verifyOk certs t s x = true ↔ verifyChain certs t s x = .ok () := by
  unfold verifyOk
  cases verifyChain certs t s x <;> simp

theorem contains_iff (nb na t : Int) : contains nb na t = true ↔ nb ≤ t ∧ t ≤ na := by
  simp [contains]

theorem covers_iff (nb na onb ona : Int) : covers nb na onb ona = true ↔ nb ≤ onb ∧ ona ≤ na := by
  simp [covers]

theorem graceEnd_of_ne {t : TrcInfo} (h : t.base ≠ t.serial) (z : Int) :
    t.graceEnd z = t.notBefore + t.grace := by
  simp [TrcInfo.graceEnd, TrcInfo.isBase, h]

theorem graceEnd_of_eq {t : TrcInfo} (h : t.base = t.serial) (z : Int) : t.graceEnd z = z := by
  simp [TrcInfo.graceEnd, TrcInfo.isBase, h]

theorem newer_iff (a b : TrcInfo) :
    newer a b = true ↔ b.base < a.base ∨ (a.base = b.base ∧ b.serial < a.serial) := by
  simp [newer]

theorem newer_false_iff (a b : TrcInfo) :
    newer a b = false ↔ a.base < b.base ∨ (a.base = b.base ∧ a.serial ≤ b.serial) := by
  rw [← Bool.not_eq_true, newer_iff]
  omega

theorem lookupOf_eq_found {failing : Bool} {o : Option TrcInfo} {t : TrcInfo} :
    lookupOf failing o = .found t ↔ failing = false ∧ o = some t := by
  cases failing <;> cases o <;> simp [lookupOf]

theorem activeTRCs_eq_one_iff {l p : Lookup} {now : Int} {t : TrcInfo} :
    activeTRCs l p now = .one t ↔
      l = .found t ∧ contains t.notBefore t.notAfter now = true ∧ t.inGrace now = false := by
  cases l with
  | found L =>
    by_cases hL : L = t
    · subst hL; cases p <;> simp [activeTRCs, ite_eq_iff_of_ne]
    · cases p <;> simp [activeTRCs, ite_eq_iff_of_ne, hL]
  | _ => simp [activeTRCs]

/-- the predecessor is consulted, and selected, only inside the latest TRC's grace period -/
theorem activeTRCs_eq_two_iff {l p : Lookup} {now : Int} {t g : TrcInfo} :
    activeTRCs l p now = .two t g ↔
      l = .found t ∧ contains t.notBefore t.notAfter now = true ∧ t.inGrace now = true ∧
        p = .found g := by
  cases l with
  | found L =>
    by_cases hL : L = t
    · subst hL; cases p <;> simp [activeTRCs, ite_eq_iff_of_ne]
    · cases p <;> simp [activeTRCs, ite_eq_iff_of_ne, hL]
  | _ => simp [activeTRCs]

end Scion.Chain
