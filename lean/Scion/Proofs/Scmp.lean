import Scion.Model.Scmp
import Scion.Proofs.PathMeta
import Scion.Proofs.Guard
/-! Lemmas about `Scion.Scmp` (slow-path model).  Sizes; each stage of `prepareSCMP` stated once;
`processPacket_cases` and `emit_inv`, from which C08 and C09 start; the STUN branch. -/
namespace Scion.Scmp
open Scion.Util Scion.PathMeta Scion.C19

theorem ite_panic_eq_ok {α} {g : Prop} [Decidable g] {w : String} {k : Step α} {s : α} :
    (if g then .panic w else k) = .ok s ↔ ¬ g ∧ k = .ok s :=
  ite_eq_iff_of_ne nofun

/-! ### sizes and placement -/

theorem addrTypeLen_le (t : Nat) : addrTypeLen t ≤ 16 ∧ 4 ≤ addrTypeLen t ∧ addrTypeLen t % 4 = 0 := by
  unfold addrTypeLen lineLen; omega

theorem scmpHeaderSize_le (t : Nat) : scmpHeaderSize t ≤ 28 ∧ 8 ≤ scmpHeaderSize t := by
  unfold scmpHeaderSize; (repeat' split) <;> omega

theorem infoBlockLen_le (t : Nat) : infoBlockLen t ≤ 24 := by
  unfold infoBlockLen; (repeat' split) <;> omega

/-- for the message types the router emits the size used for the quote computation is the size
that is really serialised -/
theorem actual_eq_predicted (dstT srcT ni nh t : Nat) (a : Bool)
    (ht : t = 1 ∨ t = 4 ∨ t = 5 ∨ t = 6 ∨ t = 131) :
    actualHdrLen dstT srcT ni nh t a = hdrLen dstT srcT ni nh t a := by
  unfold actualHdrLen hdrLen scmpHeaderSize infoBlockLen
  rcases ht with h | h | h | h | h <;> subst h <;> simp

/-- 916 = 12 (common header) + 48 (two ISD-AS, two 16-byte hosts) + 4 + 3·8 + 64·12 (path) +
28 (largest SCMP header) + 32 (authenticator extension) -/
theorem hdrLen_le (dstT srcT ni nh t : Nat) (a : Bool) (hi : ni ≤ 3) (hh : nh ≤ 64) :
    hdrLen dstT srcT ni nh t a ≤ 916 := by
  have h1 := addrTypeLen_le dstT
  have h2 := addrTypeLen_le srcT
  have h3 := scmpHeaderSize_le t
  unfold hdrLen addrHdrLen pathLen cmnHdrLen iaBytes metaLen infoLen hopLen e2eAuthHdrLen
  split <;> omega

/-- a SCION header that passes the 1020-byte check of `finish` leaves room for extension and SCMP header -/
theorem hdrLen_of_le (dstT srcT ni nh t : Nat) (a : Bool)
    (h : cmnHdrLen + addrHdrLen dstT srcT + pathLen ni nh ≤ maxHdrLen) :
    cmnHdrLen + addrHdrLen dstT srcT + pathLen ni nh ≤ hdrLen dstT srcT ni nh t a ∧
    hdrLen dstT srcT ni nh t a ≤ maxSCMPPacketLen := by
  have hs := scmpHeaderSize_le t
  unfold hdrLen maxSCMPPacketLen e2eAuthHdrLen
  unfold maxHdrLen at h
  split <;> omega

theorem quoteLen_le (len hl : Nat) : quoteLen len hl ≤ len ∧ quoteLen len hl ≤ maxSCMPPacketLen - hl := by
  unfold quoteLen; omega

theorem placement_ok (cfg : Cfg) (headroom : Nat) (raw : Bytes) (dstT srcT ni nh typ : Nat)
    (na isErr : Bool) (sz : Sizes) {hl ahl : Nat} (ehl : hdrLen dstT srcT ni nh typ na = hl)
    (eahl : actualHdrLen dstT srcT ni nh typ na = ahl)
    (h : placement cfg headroom raw dstT srcT ni nh typ na isErr = .ok sz) :
    sz.total = ahl + sz.quote.length ∧
    sz.quote = (if isErr then raw.take (quoteLen raw.length hl) else []) ∧
    sz.quote.length ≤ maxSCMPPacketLen - hl ∧ (isErr = true → hl ≤ maxSCMPPacketLen) ∧ sz.off + sz.total ≤ bufSize ∧
    (sz.front = true ↔ isErr = true ∧ ¬ hl + cfg.underlayHeadroom > headroom) ∧
    (sz.front = true → sz.off + ahl = headroom) ∧
    (sz.front = false → sz.off + sz.total = bufSize ∧ headroom ≤ sz.off) := by
  have ha : 12 ≤ ahl := by rw [← eahl]; unfold actualHdrLen cmnHdrLen; omega
  unfold placement at h
  rw [ehl, eahl] at h
  dsimp only at h
  have hq := quoteLen_le raw.length hl
  have hlen : (raw.take (quoteLen raw.length hl)).length = quoteLen raw.length hl := by
    rw [List.length_take]; omega
  generalize quoteLen raw.length hl = q at *
  have hb : bufSize = 9000 := rfl
  cases isErr
  · rw [if_neg Bool.false_ne_true, ite_panic_eq_ok, Step.ok.injEq] at h
    obtain ⟨g, rfl⟩ := h
    simp
    omega
  · rw [if_pos rfl, ite_panic_eq_ok] at h
    obtain ⟨g0, h⟩ := h
    by_cases hf : hl + cfg.underlayHeadroom > headroom
    · rw [if_pos hf, ite_panic_eq_ok, Step.ok.injEq] at h
      obtain ⟨g1, rfl⟩ := h
      simp [hlen]
      omega
    · rw [if_neg hf, ite_panic_eq_ok, ite_panic_eq_ok, Step.ok.injEq] at h
      obtain ⟨g1, g2, rfl⟩ := h
      simp [hlen]
      omega

/-- `placement` slices and prepends only inside the buffer: the headers fit a maximal message,
nothing is serialised that was not counted, the packet lies in its buffer behind a headroom that
leaves room for a maximal message -/
theorem placement_ne_panic (cfg : Cfg) (headroom : Nat) (raw : Bytes) (dstT srcT ni nh typ : Nat)
    (na isErr : Bool) (hhl : hdrLen dstT srcT ni nh typ na ≤ maxSCMPPacketLen)
    (hact : actualHdrLen dstT srcT ni nh typ na ≤ hdrLen dstT srcT ni nh typ na)
    (hbuf : raw.length + headroom ≤ bufSize) (hroom : headroom + maxSCMPPacketLen ≤ bufSize) (w : String) :
    placement cfg headroom raw dstT srcT ni nh typ na isErr ≠ .panic w := by
  have hq := quoteLen_le raw.length (hdrLen dstT srcT ni nh typ na)
  unfold placement
  dsimp only
  generalize hdrLen dstT srcT ni nh typ na = hl at *
  generalize actualHdrLen dstT srcT ni nh typ na = ahl at *
  generalize quoteLen raw.length hl = q at *
  cases isErr
  · rw [if_neg Bool.false_ne_true, if_neg (by omega)]; nofun
  · rw [if_pos rfl, if_neg (by omega)]
    by_cases h : hl + cfg.underlayHeadroom > headroom
    · rw [if_pos h, if_neg (by omega)]; nofun
    · rw [if_neg h, if_neg (by omega), if_neg (by omega)]; nofun

/-- The record `finish` builds, copied from `Model/Scmp.finish` so that it has a name;
`emit_inv` is what ties the copy to the model. -/
def reply (cfg : Cfg) (o : Offender) (rq : Request) (rp : RevPath) (typ code : Nat)
    (isError needsAuth : Bool) (trIf : Nat) (sz : Sizes) : Reply :=
  { total := sz.total,
    hdrLenField := (cmnHdrLen + addrHdrLen o.srcType cfg.hostType + pathLen rp.b.numINF rp.b.numHops) / lineLen,
    payloadLen := sz.total - (cmnHdrLen + addrHdrLen o.srcType cfg.hostType + pathLen rp.b.numINF rp.b.numHops),
    nextHdr := bif needsAuth then l4E2E else l4SCMP, pathType := 1,
    flowID := o.flowID, tc := o.tc, dstIA := o.srcIA, srcIA := cfg.localIA,
    dstType := o.srcType, srcType := cfg.hostType, rawDst := o.rawSrc, rawSrc := cfg.rawHost,
    numINF := rp.b.numINF, numHops := rp.b.numHops, pm := rp.b.pm,
    infos := rp.infos, hops := rp.hops, scmpType := typ, scmpCode := code,
    info := infoBlock cfg rq typ o.trID o.trSeq trIf, auth := needsAuth,
    isError := isError, quote := sz.quote, front := sz.front, off := sz.off }

theorem finish_ne_panic (cfg : Cfg) (o : Offender) (rq : Request) (rp : RevPath) (typ code : Nat)
    (isErr na : Bool) (trIf : Nat) (sz : Sizes) (w : String) :
    finish cfg o rq rp typ code isErr na trIf sz ≠ .panic w := by
  unfold finish
  (repeat' split) <;> nofun

/-! ### path pointers of the reply -/

/-- what the fast path (`parsePath`, `IncPath`) guarantees about the path the slow path decodes:
a decodable shape and pointers that designate an existing hop of the right segment -/
def Consistent (b : Base) : Prop :=
  Shape b.pm ∧ b.numINF = nonEmptySegs b.pm ∧ b.numHops = sumHops b.pm ∧
  b.pm.currHF < b.numHops ∧ b.pm.currINF = infIdx b.pm b.pm.currHF

theorem consistent_bounds (b : Base) (h : Consistent b) : b.pm.currINF < b.numINF ∧ 0 < b.numINF ∧
    b.numINF ≤ 3 ∧ b.numHops ≤ 64 := by
  obtain ⟨hs, hn, hh, hc, hi⟩ := h
  have h1 := nonEmptySegs_cases b.pm hs
  have h2 := eq_infIdx_iff.1 hi
  have h3 := hs.2.2
  unfold sumHops at hh
  omega

/-- segment lengths fit their 6-bit fields -/
def SegsLt (m : Hdr) : Prop := m.s0 < 64 ∧ m.s1 < 64 ∧ m.s2 < 64

theorem mirror_segsLt {b : Base} (h : SegsLt b.pm) : SegsLt (mirror b).pm := by
  obtain ⟨h0, h1, h2⟩ := h
  unfold SegsLt mirror
  dsimp only
  split
  · exact ⟨h1, h0, h2⟩
  · split
    · exact ⟨h2, h1, h0⟩
    · exact ⟨h0, h1, h2⟩

/-- `Decoded.Reverse` succeeds on a consistent path and keeps it consistent -/
theorem reverseMeta_consistent (b : Base) (h : Consistent b) :
    reverseMeta b = some (mirror b) ∧ Consistent (mirror b) := by
  have hb := consistent_bounds b h
  obtain ⟨hs, hn, hh, hc, hi⟩ := h
  obtain ⟨r1, r2, r3⟩ := mirror_shape hs hn
  refine ⟨reverseMeta_eq hb.1 hc (by omega) (by omega), r1, r2.symm, hh.trans r3.symm, ?_, ?_⟩
  · show b.numHops - 1 - b.pm.currHF < b.numHops; omega
  · show b.numINF - 1 - b.pm.currINF = infIdx (mirror b).pm (b.numHops - 1 - b.pm.currHF)
    rw [hh, infIdx_mirror hs hn (hh ▸ hc), hi]

/-- the offender as `Decoded.DecodeFromBytes` delivers it: as many info and hop fields as the meta
line announces, hop fields of 12 bytes -/
def WellFormed (o : Offender) (b : Base) : Prop :=
  baseDecode (decode o.pmWord) = some b ∧ o.infos.length = b.numINF ∧ o.hops.length = b.numHops ∧
  ∀ h ∈ o.hops, h.length = 12

theorem baseDecode_consistent_of (m : Hdr) (b : Base) (h : baseDecode m = some b)
    (hc : b.pm.currHF < b.numHops) (hi : b.pm.currINF = infIdx b.pm b.pm.currHF) : Consistent b := by
  obtain ⟨h1, h2, h3⟩ := accept_values m b h
  exact ⟨h1 ▸ (accept_iff m).1 ⟨b, h⟩, h1 ▸ h2, h1 ▸ h3, hc, hi⟩

theorem baseDecode_of_consistent {b : Base} (h : Consistent b) : baseDecode b.pm = some b := by
  obtain ⟨pm, ni, nh⟩ := b
  obtain ⟨hs, hn, hh, _⟩ := h
  dsimp only at hs hn hh
  subst hn hh
  rw [baseDecode_closed]; exact if_pos hs

structure PathOk (rp : RevPath) : Prop where
  consistent : Consistent rp.b
  segs : SegsLt rp.b.pm
  infos : rp.infos.length = rp.b.numINF
  hops : rp.hops.length = rp.b.numHops
  hop12 : ∀ h ∈ rp.hops, h.length = 12

theorem PathOk.incPath {rp : RevPath} (h : PathOk rp) {b' : Base} (hi : incPath rp.b = .ok b')
    {infos' : List InfoF} (hl : infos'.length = rp.infos.length) : PathOk ⟨b', infos', rp.hops⟩ := by
  simp only [PathMeta.incPath, ite_error_eq_ok, Except.ok.injEq] at hi
  obtain ⟨_, hlt, rfl⟩ := hi
  obtain ⟨⟨hs, hn, hh, _, _⟩, hsg, hil, hhl, h12⟩ := h
  exact ⟨⟨hs, hn, hh, Nat.lt_of_not_le hlt, rfl⟩, hsg, hl.trans hil, hhl, h12⟩

/-- `reversePath` on a decodable offender with consistent pointers: `InfoFields[CurrINF]` is in
range -/
theorem reversePath_ok (o : Offender) (b : Base) (hw : WellFormed o b) (hc : Consistent b)
    {s : Step (RevPath × Bool)} (h : reversePath o = s) :
    (∃ w, s = .drop w) ∨ ∃ rp peering, s = .ok (rp, peering) ∧ PathOk rp := by
  obtain ⟨hd, hil, hhl, h12⟩ := hw
  have hsg : SegsLt b.pm := by
    rw [(accept_values _ b hd).1]; exact (PathMeta.decode_inRange o.pmWord).2.2
  obtain ⟨hr, hrc⟩ := reverseMeta_consistent b hc
  have hlt := consistent_bounds _ hrc
  have hok : PathOk ⟨mirror b, (o.infos.reverse).map flipInfo, o.hops.reverse⟩ :=
    ⟨hrc, mirror_segsLt hsg, by rw [List.length_map, List.length_reverse, hil]; rfl,
      by rw [List.length_reverse, hhl]; rfl, fun h hm => h12 h (List.mem_reverse.1 hm)⟩
  simp only [reversePath, hd, hr, List.getElem?_eq_getElem (hok.infos ▸ hlt.1)] at h
  split at h
  · exact .inl ⟨_, h.symm⟩
  · split at h
    · split at h
      · exact .inl ⟨_, h.symm⟩
      · rename_i hinc
        exact .inr ⟨_, _, h.symm, hok.incPath hinc rfl⟩
    · exact .inr ⟨_, _, h.symm, hok⟩

theorem be16_some (l : Bytes) (h : 2 ≤ l.length) : ∃ m, be16 l = some m := by
  match l, h with
  | _ :: _ :: _, _ => exact ⟨_, rfl⟩

/-- `HopFields[CurrHF]` and `hop.Mac[:2]` are in range -/
theorem updSegID_ok (rp : RevPath) (inf : InfoF) (peering : Bool)
    (hh : rp.b.pm.currHF < rp.hops.length) (h12 : ∀ h ∈ rp.hops, h.length = 12) :
    ∃ infos', updSegID rp inf peering = .ok infos' ∧ infos'.length = rp.infos.length := by
  unfold updSegID
  split
  · rw [List.getElem?_eq_getElem hh]
    dsimp only
    obtain ⟨m, hm⟩ := be16_some (rp.hops[rp.b.pm.currHF].drop 6)
      (by rw [List.length_drop, h12 _ (List.getElem_mem hh)]; omega)
    rw [hm]
    exact ⟨_, rfl, List.length_set ..⟩
  · exact ⟨_, rfl, rfl⟩

/-- `externalStep` on a path that is in order: `InfoFields[CurrINF]`, `HopFields[CurrHF]` are in
range -/
theorem externalStep_ok (scope : Scope) (rp : RevPath) (peering : Bool) (hok : PathOk rp)
    {s : Step RevPath} (h : externalStep scope rp peering = s) :
    (∃ w, s = .drop w) ∨ ∃ rp', s = .ok rp' ∧ PathOk rp' := by
  have hlt := consistent_bounds rp.b hok.consistent
  unfold externalStep at h
  split at h
  · exact .inr ⟨rp, h.symm, hok⟩
  · have hidx : rp.b.pm.currINF < rp.infos.length := hok.infos ▸ hlt.1
    obtain ⟨infos', hu, hul⟩ := updSegID_ok rp rp.infos[rp.b.pm.currINF] peering
      (hok.hops ▸ hok.consistent.2.2.2.1) hok.hop12
    simp only [List.getElem?_eq_getElem hidx, hu] at h
    split at h
    · exact .inl ⟨_, h.symm⟩
    · rename_i hinc
      exact .inr ⟨_, h.symm, hok.incPath hinc hul⟩

/-! ### what was emitted, and how -/

section
variable (cfg : Cfg) (scope : Scope) (headroom : Nat) (o : Offender) (rq : Request)

/-- unless it drops the packet, `packSCMP` is `prepareSCMP`, and the packet was neither truncated SCMP
nor an SCMP error -/
theorem packSCMP_cases (typ code : Nat) (isErr : Bool) (trIf : Nat) {out : Outcome}
    (h : packSCMP cfg scope headroom o rq typ code isErr trIf = out) (hnd : ∀ w, .drop w ≠ out) :
    (o.l4 = .other ∨ ∃ t c p, o.l4 = .scmp t c p ∧ 128 ≤ t) ∧
      prepareSCMP cfg scope headroom o rq typ code isErr trIf = out := by
  unfold packSCMP at h
  split at h
  · exact absurd h (hnd _)
  · rename_i t c p hl4
    split at h
    · exact absurd h (hnd _)
    · exact ⟨.inr ⟨t, c, p, hl4, by omega⟩, h⟩
  · rename_i hl4
    exact ⟨.inl hl4, h⟩

/-- the two kinds of message the slow path sends, neither in answer to an SCMP error or to truncated
SCMP: an error of type `t` with the requested code; or the reply to a traceroute request that carried a
router alert -/
def Kind (o : Offender) (rq : Request) (t code : Nat) (isErr : Bool) : Prop :=
  (o.l4 = .other ∨ ∃ t' c p, o.l4 = .scmp t' c p ∧ 128 ≤ t') ∧
  ((isErr = true ∧ (t = 1 ∨ t = 4 ∨ t = 5 ∨ t = 6) ∧ rq.spType = (t : Int) ∧ code = rq.code) ∨
   (isErr = false ∧ t = 131 ∧ code = 0 ∧ (rq.spType = -1 ∨ rq.spType = -2) ∧ ∃ p, o.l4 = .scmp 130 0 p))

theorem Kind.typ {o rq} {t code : Nat} {e : Bool} (h : Kind o rq t code e) :
    t = 1 ∨ t = 4 ∨ t = 5 ∨ t = 6 ∨ t = 131 := by
  rcases h.2 with ⟨_, h, _⟩ | ⟨_, h, _⟩ <;> omega

/-- unless it drops the packet, `processPacket` is `prepareSCMP` for a message of one of the two kinds,
or was asked for a type the fast path never asks for -/
theorem processPacket_cases {out : Outcome} (h : processPacket cfg scope headroom o rq = out)
    (hnd : ∀ w, .drop w ≠ out) :
    (∃ t code e trIf, Kind o rq t code e ∧ prepareSCMP cfg scope headroom o rq t code e trIf = out) ∨
    (¬ (rq.spType = -1 ∨ rq.spType = -2 ∨ rq.spType = 1 ∨ rq.spType = 4 ∨ rq.spType = 5 ∨ rq.spType = 6) ∧
      ∃ w, out = .panic w) := by
  have tr : ∀ ifID, (rq.spType = -1 ∨ rq.spType = -2) → traceroute cfg scope headroom o rq ifID = out →
      ∃ t code e trIf, Kind o rq t code e ∧ prepareSCMP cfg scope headroom o rq t code e trIf = out := by
    intro ifID hsp hr
    unfold traceroute at hr
    split at hr
    · exact absurd hr (hnd _)
    · exact absurd hr (hnd _)
    · rename_i t c plen hl4
      split at hr
      · exact absurd hr (hnd _)
      · split at hr
        · exact absurd hr (hnd _)
        · obtain ⟨rfl, rfl⟩ : t = 130 ∧ c = 0 := by omega
          obtain ⟨ho, hp⟩ := packSCMP_cases cfg scope headroom o rq _ _ _ _ hr hnd
          exact ⟨_, _, _, _, ⟨ho, .inr ⟨rfl, rfl, rfl, hsp, plen, hl4⟩⟩, hp⟩
  unfold processPacket at h
  split at h
  · exact absurd h (hnd _)
  · split at h
    · rename_i h1
      exact .inl (tr _ (.inl h1) h)
    · split at h
      · rename_i h2
        exact .inl (tr _ (.inr h2) h)
      · dsimp only at h
        split at h
        · obtain ⟨hl4, hp⟩ := packSCMP_cases cfg scope headroom o rq _ _ _ _ h hnd
          exact .inl ⟨_, _, _, _, ⟨hl4, .inl ⟨rfl, by omega, by omega, rfl⟩⟩, hp⟩
        · exact .inr ⟨by omega, _, h.symm⟩

/-- how a reply came about: its kind, the reversed path `rp` it travels, its placement `sz`, and the
checks of `finish` it passed -/
structure Emit (t code : Nat) (e : Bool) (rp : RevPath) (sz : Sizes) : Prop where
  kind : Kind o rq t code e
  path : ∃ rp0 peering, reversePath o = .ok (rp0, peering) ∧ externalStep scope rp0 peering = .ok rp
  placed : placement cfg headroom o.raw o.srcType cfg.hostType rp.b.numINF rp.b.numHops t
    (needsAuth cfg o t e) e = .ok sz
  parsable : needsAuth cfg o t e = true → addrParsable o.srcType = true
  hdr_le : cmnHdrLen + addrHdrLen o.srcType cfg.hostType + pathLen rp.b.numINF rp.b.numHops ≤ maxHdrLen
  aligned : (cmnHdrLen + addrHdrLen o.srcType cfg.hostType + pathLen rp.b.numINF rp.b.numHops) % lineLen = 0

/-- **Every emitted reply is `reply`** of some message kind, path and placement: it went through all
four stages of `prepareSCMP` -/
theorem emit_inv (r : Reply) (h : processPacket cfg scope headroom o rq = .emit r) :
    ∃ t code e trIf rp sz, Emit cfg scope headroom o rq t code e rp sz ∧
      r = reply cfg o rq rp t code e (needsAuth cfg o t e) trIf sz := by
  rcases processPacket_cases cfg scope headroom o rq h nofun with ⟨t, code, e, trIf, hk, h⟩ | ⟨_, w, hd⟩
  · unfold prepareSCMP at h
    split at h
    · cases h
    · cases h
    · rename_i rp0 peering hrev
      split at h
      · cases h
      · cases h
      · rename_i rp hext
        split at h
        · cases h
        · cases h
        · rename_i sz hpl
          -- the three checks of `finish`; what it then emits is `reply`
          have hd : ∀ w, Outcome.drop w ≠ .emit r := nofun
          simp only [finish, ite_eq_iff_of_ne (hd _), Outcome.emit.injEq] at h
          obtain ⟨g1, g2, g3, rfl⟩ := h
          exact ⟨t, code, e, trIf, rp, sz, ⟨hk, ⟨rp0, peering, hrev, hext⟩, hpl,
            fun hna => by simpa [hna] using g1, by omega, by omega⟩, rfl⟩
  · cases hd

variable {cfg scope headroom o rq} {t code : Nat} {e : Bool} {rp : RevPath} {sz : Sizes}

/-- Sizes of an emitted message: headers `hl` (SCION header, which passed the check of `finish`,
extension, SCMP header: at most 1020 + 32 + 28 bytes) and as much of the packet as fits. -/
theorem Emit.sizes (h : Emit cfg scope headroom o rq t code e rp sz) :
    ∃ hl, cmnHdrLen + addrHdrLen o.srcType cfg.hostType + pathLen rp.b.numINF rp.b.numHops ≤ hl ∧
      hl ≤ maxSCMPPacketLen ∧ sz.total = hl + sz.quote.length ∧ sz.total ≤ maxSCMPPacketLen ∧
      sz.quote = (if e then o.raw.take (quoteLen o.raw.length hl) else []) ∧ sz.off + sz.total ≤ bufSize := by
  obtain ⟨h1, h2, hlen, _, h4, _⟩ := placement_ok _ _ _ _ _ _ _ _ _ _ _ rfl
    (actual_eq_predicted o.srcType cfg.hostType rp.b.numINF rp.b.numHops t (needsAuth cfg o t e) h.kind.typ) h.placed
  have hhl := hdrLen_of_le o.srcType cfg.hostType rp.b.numINF rp.b.numHops t (needsAuth cfg o t e) h.hdr_le
  exact ⟨_, hhl.1, hhl.2, h1, by omega, h2, h4⟩

theorem Emit.pathOk (h : Emit cfg scope headroom o rq t code e rp sz) (b : Base)
    (hw : WellFormed o b) (hc : Consistent b) : PathOk rp := by
  obtain ⟨rp0, peering, hrev, hext⟩ := h.path
  rcases reversePath_ok o b hw hc hrev with ⟨_, hd⟩ | ⟨_, _, hd, hok⟩ <;> cases hd
  rcases externalStep_ok scope rp0 peering hok hext with ⟨_, hd⟩ | ⟨_, hd, hok'⟩ <;> cases hd
  exact hok'

end

/-! ### STUN branch -/

theorem slice?_some (b : Bytes) (i j : Nat) (h : i ≤ j ∧ j ≤ b.length) :
    ∃ s, slice? b i j = some s ∧ s.length = j - i := by
  unfold slice?
  rw [if_pos h]
  refine ⟨_, rfl, ?_⟩
  rw [List.length_take, List.length_drop]; omega

theorem stunAttrs_no_panic : ∀ fuel b last, stunAttrs fuel b last ≠ none := by
  intro fuel
  induction fuel with
  | zero => intro b last h; simp [stunAttrs] at h
  | succ n ih =>
    intro b last h
    unfold stunAttrs at h
    split at h
    · cases h
    · split at h
      · cases h
      · rename_i h0 h4
        obtain ⟨ty, hty, _⟩ := slice?_some b 0 2 (by omega)
        obtain ⟨ln, hln, _⟩ := slice?_some b 2 4 (by omega)
        obtain ⟨b', hb', hb'l⟩ := slice?_some b 4 b.length (by omega)
        rw [hty, hln] at h
        dsimp only at h
        rw [hb'] at h
        dsimp only at h
        split at h
        · cases h
        · rename_i hpad
          obtain ⟨a, ha, _⟩ := slice?_some b' 0 (beNat ln) (by omega)
          obtain ⟨rest, hrest, _⟩ := slice?_some b' ((beNat ln + 3) / 4 * 4) b'.length (by omega)
          rw [ha, hrest] at h
          exact ih _ _ h

theorem stunIs_len (b : Bytes) (h : stunIs b = true) : 20 ≤ b.length := by
  unfold stunIs stunHeaderLen at h
  simp at h
  omega

end Scion.Scmp
