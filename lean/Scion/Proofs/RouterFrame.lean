import Scion.Proofs.RouterProcess
import Scion.Proofs.ListShape
/-! The packet an accepting `process` emits, relative to the received one: which bytes the in-place
edits can change and what they write there (`Near`, for C07), and where the pointers of its meta
line stand (`FinalMeta`, for C08Fast); `Frame` is the invariant that carries both through a run. -/
namespace Scion.Router
open Scion.Util
open Scion.PathMeta hiding Info

/-! ### what the serialisers write, byte by byte -/

structure SameButSegID (a b : Info) : Prop where
  peer : a.peer = b.peer
  consDir : a.consDir = b.consDir
  ts : a.ts = b.ts

theorem SameButSegID.refl (a : Info) : SameButSegID a a := ⟨rfl, rfl, rfl⟩
theorem SameButSegID.upd (a b : Info) (x : Hop) (h : SameButSegID a b) : SameButSegID (updSegID a x) b :=
  ⟨h.peer, h.consDir, h.ts⟩

theorem flags_byte (b0 : UInt8) :
    b2n (b0.toNat / 2 % 2 == 1) * 2 + b2n (b0.toNat % 2 == 1) = b0.toNat % 4 := by
  simp only [b2n, beq_iff_eq, Nat.mul_comm _ 2, Nat.add_comm (2 * _), two_flags]

/-- `InfoField.SerializeTo` of a field that differs from the received one at most in the SegID:
flags without the reserved bits, a zero reserved byte, some SegID, the received timestamp -/
theorem encodeInfo_bytes {l : Bytes} {inf0 inf : Info} (hd : decodeInfo l = some inf0)
    (hs : SameButSegID inf inf0) :
    ∃ b0 b1 s0 s1 x y t0 t1 t2 t3, l = [b0, b1, s0, s1, t0, t1, t2, t3] ∧
      encodeInfo inf = [UInt8.ofNat (b0.toNat % 4), 0, x, y, t0, t1, t2, t3] := by
  unfold decodeInfo at hd
  split at hd
  · rename_i b0 b1 s0 s1 t0 t1 t2 t3
    cases hd
    obtain ⟨hp, hc, ht⟩ := hs
    simp only at hp hc ht
    have hts : natBE 4 inf.ts = [t0, t1, t2, t3] := by
      have e : inf.ts = beNat [t0, t1, t2, t3] := by
        rw [ht]; simp only [beNat, List.foldl, Nat.zero_mul, Nat.zero_add]
      rw [e]; exact natBE_beNat_of_length rfl
    exact ⟨b0, b1, s0, s1, _, _, t0, t1, t2, t3, rfl, by rw [encodeInfo, hp, hc, hts, flags_byte]; rfl⟩
  · cases hd

/-! ### the mutable fields and the reserved bits -/

def segIDPos (h : Hd) (j i : Nat) : Prop := infoOff h j + 2 ≤ i ∧ i < infoOff h j + 4

/-- the bytes the property allows a forwarding router to change: the byte that holds
CurrINF/CurrHF, the SegID of the current segment and — at a segment change — of the next one -/
def Mutable (h : Hd) (pm : Hdr) (i : Nat) : Prop :=
  i = h.pathOff ∨ segIDPos h pm.currINF i ∨
  (isXover (base h pm) = true ∧ segIDPos h (infIdx pm (pm.currHF + 1)) i)

/-- info field `j` is one whose SegID this router may update: the current one or, at a segment
change, the next one -/
def Touched (h : Hd) (pm : Hdr) (j : Nat) : Prop :=
  j = pm.currINF ∨ (isXover (base h pm) = true ∧ j = infIdx pm (pm.currHF + 1))

instance (h : Hd) (pm : Hdr) (j : Nat) : Decidable (Touched h pm j) := by unfold Touched; infer_instance

/-- a byte with the reserved bits of its position cleared: the six RSV bits of the path meta
header (second byte of the line), the six reserved flag bits (first byte) and the reserved
second byte of a touched info field; every other position is left alone -/
def clr (h : Hd) (pm : Hdr) (i : Nat) (x : UInt8) : UInt8 :=
  if i = h.pathOff + 1 then UInt8.ofNat (x.toNat % 4)
  else if i = infoOff h pm.currINF ∨
      (isXover (base h pm) = true ∧ i = infoOff h (infIdx pm (pm.currHF + 1))) then
    UInt8.ofNat (x.toNat % 4)
  else if i = infoOff h pm.currINF + 1 ∨
      (isXover (base h pm) = true ∧ i = infoOff h (infIdx pm (pm.currHF + 1)) + 1) then 0
  else x

theorem clr_info_flags (h : Hd) (pm : Hdr) (j : Nat) (x : UInt8) (ht : Touched h pm j) :
    clr h pm (infoOff h j) x = UInt8.ofNat (x.toNat % 4) := by
  unfold clr
  split
  · rfl
  · rw [if_pos]
    rcases ht with rfl | ⟨hx, rfl⟩
    · left; rfl
    · right; exact ⟨hx, rfl⟩

theorem clr_info_rsv (h : Hd) (pm : Hdr) (j : Nat) (x : UInt8) (ht : Touched h pm j) :
    clr h pm (infoOff h j + 1) x = 0 := by
  unfold clr
  rw [if_neg (by unfold infoOff MetaLen InfoLen; omega)]
  rw [if_neg, if_pos]
  · rcases ht with rfl | ⟨hx, rfl⟩
    · left; rfl
    · right; exact ⟨hx, rfl⟩
  · unfold infoOff MetaLen InfoLen
    rintro (hc | ⟨_, hc⟩) <;> omega

theorem clr_meta_rsv (h : Hd) (pm : Hdr) (x : UInt8) : clr h pm (h.pathOff + 1) x = UInt8.ofNat (x.toNat % 4) := by
  unfold clr; rw [if_pos rfl]

def Near (h : Hd) (pm : Hdr) (raw b : Bytes) : Prop :=
  b.length = raw.length ∧
  ∀ i, ¬ Mutable h pm i → (b[i]? = raw[i]? ∨ b[i]? = (raw[i]?).map (clr h pm i))

theorem Near.refl (h : Hd) (pm : Hdr) (raw : Bytes) : Near h pm raw raw := ⟨rfl, fun _ _ => Or.inl rfl⟩

theorem near_writeAt {h : Hd} {pm : Hdr} {raw b : Bytes} (hn : Near h pm raw b) (off : Nat)
    (new : Bytes) (hb : off + new.length ≤ raw.length)
    (hnew : ∀ t, t < new.length → ¬ Mutable h pm (off + t) →
      new[t]? = raw[off + t]? ∨ new[t]? = (raw[off + t]?).map (clr h pm (off + t))) :
    Near h pm raw (writeAt b off new) := by
  have hb' : off + new.length ≤ b.length := by rw [hn.1]; exact hb
  refine ⟨by rw [length_writeAt b off new hb', hn.1], fun i hi => ?_⟩
  rw [writeAt_getElem? b off new hb']
  split
  · exact hn.2 i hi
  · split
    · obtain ⟨t, rfl⟩ : ∃ t, i = off + t := ⟨i - off, by omega⟩
      rw [Nat.add_sub_cancel_left]
      exact hnew t (by omega) hi
    · exact hn.2 i hi

theorem near_setMeta {h : Hd} {pm : Hdr} {raw b : Bytes} (hn : Near h pm raw b)
    (hd : MetaDec h raw pm) (hlen : h.pathOff + 4 ≤ raw.length) (pm' : Hdr)
    (h0 : pm'.s0 = pm.s0) (h1 : pm'.s1 = pm.s1) (h2 : pm'.s2 = pm.s2) :
    Near h pm raw (setMeta h b pm') := by
  obtain ⟨m0, m1, m2, m3, hm⟩ := list4_of_length (l := slice raw h.pathOff 4) (by rw [length_slice]; omega)
  rw [← hd, hm] at h0 h1 h2
  unfold setMeta
  rw [natBE_encode_of_segs m0 m1 m2 m3 pm' h0 h1 h2]
  refine near_writeAt hn _ _ hlen (fun t ht hi => ?_)
  have ht : t < 4 := ht
  rw [raw_at_of_slice hm t ht]
  have hne : t ≠ 0 := fun h0 => hi (Or.inl (by omega))
  have hcases : t = 1 ∨ t = 2 ∨ t = 3 := by omega
  rcases hcases with rfl | rfl | rfl
  · right
    show some (UInt8.ofNat (m1.toNat % 4)) = some (clr h pm (h.pathOff + 1) m1)
    rw [clr_meta_rsv]
  · left; rfl
  · left; rfl

theorem near_setInfo {h : Hd} {pm : Hdr} {raw b : Bytes} (hn : Near h pm raw b) (j : Nat)
    (inf0 inf : Info) (hg : getInfo h raw j = some inf0) (hs : SameButSegID inf inf0)
    (hj : Touched h pm j) :
    Near h pm raw (setInfo h b j inf) := by
  obtain ⟨hjn, hlen⟩ := getInfo_some_bound hg
  unfold getInfo at hg
  rw [if_pos hjn] at hg
  obtain ⟨b0, b1, s0, s1, x, y, t0, t1, t2, t3, hbytes, henc⟩ := encodeInfo_bytes hg hs
  unfold setInfo
  rw [henc]
  refine near_writeAt hn _ _ hlen (fun t ht hi => ?_)
  have ht : t < 8 := ht
  rw [raw_at_of_slice hbytes t ht]
  have hnm : ¬ (2 ≤ t ∧ t < 4) := by
    intro hc; apply hi
    rcases hj with rfl | ⟨hx, rfl⟩
    · right; left; unfold segIDPos; omega
    · right; right; exact ⟨hx, by unfold segIDPos; omega⟩
  have hcases : t = 0 ∨ t = 1 ∨ t = 4 ∨ t = 5 ∨ t = 6 ∨ t = 7 := by omega
  rcases hcases with rfl | rfl | rfl | rfl | rfl | rfl
  · right
    show some (UInt8.ofNat (b0.toNat % 4)) = some (clr h pm (infoOff h j) b0)
    rw [clr_info_flags h pm j b0 hj]
  · right
    show some (0 : UInt8) = some (clr h pm (infoOff h j + 1) b1)
    rw [clr_info_rsv h pm j b1 hj]
  · left; rfl
  · left; rfl
  · left; rfl
  · left; rfl

/-! ### outside the meta line and the info fields -/

theorem touched_in_range {raw : Bytes} {h : Hd} {pm : Hdr} (hp : parse raw = .ok h pm)
    (hcur : pm.currINF < h.numINF) {j : Nat} (ht : Touched h pm j) : j < h.numINF := by
  rcases ht with rfl | ⟨hx, rfl⟩
  · exact hcur
  · obtain ⟨b, hb, h1, h2⟩ := (parse_ok_iff.1 hp).base
    unfold isXover base at hx
    simp at hx
    rw [h1]
    apply infIdx_lt_numINF hb
    rw [← h2]; exact hx.1

theorem accepting_currINF_lt {cfg mac resolve now ing h pm raw}
    (hacc : (process cfg mac resolve now ing h pm raw).1.accepting = true) : pm.currINF < h.numINF := by
  obtain ⟨s0, s1, p⟩ := process_accepting_inv hacc
  exact (getInfo_some_bound (stParse_ok p.parse).inf).1

theorem clr_id_outside {raw : Bytes} {h : Hd} {pm : Hdr} (hp : parse raw = .ok h pm)
    (hcur : pm.currINF < h.numINF) (i : Nat)
    (hi : i < h.pathOff ∨ h.pathOff + 4 + 8 * h.numINF ≤ i) (x : UInt8) : clr h pm i x = x := by
  have hinf : ∀ j, Touched h pm j → i ≠ infoOff h j ∧ i ≠ infoOff h j + 1 := by
    intro j ht
    have hj := touched_in_range hp hcur ht
    have := Nat.mul_le_mul_left 8 hj
    unfold infoOff MetaLen InfoLen
    omega
  unfold clr
  rw [if_neg (by omega), if_neg, if_neg]
  · rintro (hc | ⟨hx, hc⟩)
    · exact (hinf _ (Or.inl rfl)).2 hc
    · exact (hinf _ (Or.inr ⟨hx, rfl⟩)).2 hc
  · rintro (hc | ⟨hx, hc⟩)
    · exact (hinf _ (Or.inl rfl)).1 hc
    · exact (hinf _ (Or.inr ⟨hx, rfl⟩)).1 hc

/-! ### the meta line of the emitted packet -/

theorem decode_encode (m : Hdr) (h : m.InRange) : decode (encode m) = m :=
  PathMeta.decode_encode m h

theorem metaDec_setMeta (h : Hd) (buf : Bytes) (p : Hdr) (hb : h.pathOff + 4 ≤ buf.length)
    (hr : p.InRange) : MetaDec h (setMeta h buf p) p := by
  unfold MetaDec setMeta
  rw [slice_writeAt_same (length_natBE 4 _) hb, beNat_natBE_of_lt (k := 4) (encode_lt p),
    decode_encode p hr]

theorem metaDec_setInfo {h : Hd} {buf : Bytes} {p : Hdr} (hd : MetaDec h buf p) (j : Nat) (i : Info)
    (hb : infoOff h j + 8 ≤ buf.length) : MetaDec h (setInfo h buf j i) p := by
  unfold MetaDec setInfo at *
  rw [slice_writeAt_disj (length_encodeInfo i) hb (Or.inl (pathOff_le_infoOff h j))]
  exact hd

structure FinalMeta (h : Hd) (pm pmF : Hdr) : Prop where
  s0 : pmF.s0 = pm.s0
  s1 : pmF.s1 = pm.s1
  s2 : pmF.s2 = pm.s2
  hop : pmF.currHF < h.numHops
  inf : pmF.currINF = infIdx pmF pmF.currHF
  lo : pm.currHF ≤ pmF.currHF
  hi : pmF.currHF ≤ pm.currHF + 2

/-- `buf` is the received packet `raw` (decoded as `h`, `pm`) after some of the router's in-place edits
and `n` increments of the path, and its meta line decodes to `q`: what C07 says of the bytes (`near`)
and what C08Fast says of the pointers, kept together through a run -/
structure Frame (h : Hd) (pm : Hdr) (raw : Bytes) (n : Nat) (buf : Bytes) (q : Hdr) : Prop where
  rdec : MetaDec h raw pm
  rlen : h.pathOff + 4 ≤ raw.length
  near : Near h pm raw buf
  dec : MetaDec h buf q
  s0 : q.s0 = pm.s0
  s1 : q.s1 = pm.s1
  s2 : q.s2 = pm.s2
  hf : q.currHF = pm.currHF + n
  inf : q.currINF = infIdx q q.currHF
  hop : q.currHF < h.numHops

theorem Frame.final {h pm raw n buf q} (f : Frame h pm raw n buf q) (hn : n ≤ 2) : FinalMeta h pm q :=
  have := f.hf
  ⟨f.s0, f.s1, f.s2, f.hop, f.inf, by omega, by omega⟩

/-- a SegID update of a touched info field -/
theorem Frame.setInfo {h pm raw n buf q j inf0 inf} (f : Frame h pm raw n buf q)
    (hg : getInfo h raw j = some inf0) (hs : SameButSegID inf inf0) (hj : Touched h pm j) :
    Frame h pm raw n (setInfo h buf j inf) q :=
  { f with near := near_setInfo f.near j inf0 inf hg hs hj
           dec := metaDec_setInfo f.dec j inf (f.near.1 ▸ (getInfo_some_bound hg).2) }

/-- `IncPath` followed by `MetaHdr.SerializeTo` -/
theorem Frame.inc {h pm raw n buf q b'} (f : Frame h pm raw n buf q) (hnh : h.numHops ≤ 64)
    (hinc : incPath (base h q) = .ok b') : Frame h pm raw (n + 1) (setMeta h buf b'.pm) b'.pm := by
  obtain ⟨f1, f2, f3, f4, f5, f6⟩ := incPath_ok hinc
  simp only [base] at f1 f2 f3 f4 f5 f6
  have e0 := f3.trans f.s0; have e1 := f4.trans f.s1; have e2 := f5.trans f.s2
  have := f.hf
  exact ⟨f.rdec, f.rlen, near_setMeta f.near f.rdec f.rlen b'.pm e0 e1 e2,
    metaDec_setMeta h buf b'.pm (f.near.1 ▸ f.rlen)
      (incPath_inRange hinc (f.dec ▸ PathMeta.decode_inRange _) hnh),
    e0, e1, e2, by omega, by rw [f2, f1]; exact (infIdx_congr f3 f4 _).symm, by omega⟩

/-- **frame of an accepted packet**: the emitted buffer is the received one after at most two SegID
updates of touched info fields and at most two increments of the path -/
theorem accept_frame {cfg mac resolve now ing h pm raw} (hdec : MetaDec h raw pm) (hnh : h.numHops ≤ 64)
    (hacc : (process cfg mac resolve now ing h pm raw).1.accepting = true) :
    ∃ n q, n ≤ 2 ∧ Frame h pm raw n (process cfg mac resolve now ing h pm raw).2 q := by
  obtain ⟨s0, s1, p, hc⟩ := process_accepting_cases hacc
  have a := stParse_ok p.parse
  have b := stSegID_ends.ok p.segid
  have hpm1 : s1.pm = pm := b.hpm.trans a.hpm
  have f0 : Frame h pm raw 0 raw pm :=
    ⟨hdec, by have := pathOff_le_infoOff h pm.currINF; have := getInfo_some_bound a.inf; omega,
      Near.refl h pm raw, hdec, rfl, rfl, rfl, rfl, a.idx, (getHop_some_bound a.hop).1⟩
  have f1 : Frame h pm raw 0 s1.buf pm := by
    rw [b.buf, a.buf]; split
    · rw [a.hpm]; exact f0.setInfo a.inf (.upd _ _ _ (.refl _)) (.inl rfl)
    · exact f0
  have c1 : SameButSegID s1.inf s0.inf := by
    rw [b.inf]; split
    · exact .upd _ _ _ (.refl _)
    · exact .refl _
  rcases hc with ⟨_, e⟩ | ⟨_, s5, l, o⟩
  · rw [e, inbound_buf]; exact ⟨0, _, by omega, f1⟩
  · have x := stXover_ends.ok o.xo
    -- after the cross-over stage the current info field is a touched one, cached up to its SegID
    obtain ⟨n, hn, f5, hj, inf0, hg, hs⟩ : ∃ n, n ≤ 1 ∧ Frame h pm raw n s5.buf s5.pm ∧
        Touched h pm s5.pm.currINF ∧
        ∃ inf0, getInfo h raw s5.pm.currINF = some inf0 ∧ SameButSegID s5.inf inf0 := by
      cases hdx : doesXover h s1
      · rw [x.no hdx, hpm1]; exact ⟨0, by omega, f1, .inl rfl, s0.inf, a.inf, c1⟩
      · obtain ⟨b', hinc, hpm', hbuf, hxo, _, hraw⟩ := xover_reads_raw a b x hdx
        have e2 := (incPath_ok hinc).2.1
        simp only [base] at e2
        rw [hpm', hbuf, e2]
        exact ⟨1, by omega, f1.inc hnh hinc, .inr ⟨hxo, rfl⟩, s5.inf, hraw, .refl _⟩
    rcases o.buf with ⟨_, s7, hpe, hbuf⟩ | ⟨_, hbuf⟩
    · obtain ⟨b', hinc, _, hb7⟩ := stProcessEgress_ends.ok hpe
      rw [hbuf, hb7]
      refine ⟨n + 1, b'.pm, by omega, ?_⟩
      split
      · exact (f5.setInfo hg (.upd _ _ _ hs) hj).inc hnh hinc
      · exact f5.inc hnh hinc
    · rw [hbuf]; exact ⟨n, _, by omega, f5⟩

end Scion.Router
