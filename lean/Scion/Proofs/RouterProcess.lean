import Scion.Proofs.RouterStages
/-! The stages composed. `process_ends` / `outbound_ends` walk the two chains once: the packet is
refused (`Rejects`) or every stage passed (`Passed`, `OutOk`). What must have happened when a packet
is accepted (`process_accepting_cases`) and that every answer is a documented one
(`process_documented`) are read off them. -/
namespace Scion.Router
open Scion.Util
open Scion.PathMeta hiding Info

/-- the tail of `process` after the six checking stages -/
def tail (cfg : Cfg) (mac : Mac) (resolve : Cfg → Hd → ResolveOut) (now : Nat) (ing : Ingress)
    (h : Hd) (s : St) : Disp × Bytes :=
  if h.dstIA == cfg.localIA then inbound (resolve cfg h) s else outbound cfg mac h now ing s

/-- all six checking stages passed, ending in state `s1` (stages 3–6 do not change the state) -/
structure Passed (cfg : Cfg) (mac : Mac) (now : Nat) (ing : Ingress) (h : Hd) (pm : Hdr)
    (raw : Bytes) (s0 s1 : St) : Prop where
  parse : stParse h pm raw = .ok s0
  segid : stSegID h ing s0 = .ok s1
  val : stValidate1 h now ing s1 = .ok s1
  transit : stTransit cfg h ing s1 = .ok s1
  srcdst : stSrcDst cfg h ing s1 = .ok s1
  macst : stMac cfg mac h ing s1 = .ok s1

theorem process_of_passed {cfg mac resolve now ing h pm raw s0 s1}
    (p : Passed cfg mac now ing h pm raw s0 s1) :
    process cfg mac resolve now ing h pm raw = tail cfg mac resolve now ing h s1 := by
  unfold process tail
  simp only [p.parse, p.segid, p.val, p.transit, p.srcdst, p.macst]

/-- `process` refuses the packet, or all six checking stages pass -/
theorem process_ends {cfg mac resolve now ing h pm raw} :
    Rejects (InBuf h raw) (process cfg mac resolve now ing h pm raw).1 ∨
    ∃ s0 s1, Passed cfg mac now ing h pm raw s0 s1 ∧ (InBuf h raw → Inv h s1) := by
  generalize hr : process cfg mac resolve now ing h pm raw = r
  unfold process at hr
  refine stParse_ends.step hr id fun s0 e0 a hr => ?_
  refine stSegID_ends.step hr (fun hb => a.buf ▸ hb) fun s1 e1 b hr => ?_
  have iv := fun hb => b.inv (a.inv hb)
  refine stValidate1_ends.step hr (fun _ => trivial) fun s2 e2 c hr => ?_
  cases c.1
  refine stTransit_ends.step hr iv fun s3 e3 c hr => ?_
  cases c.1
  refine stSrcDst_ends.step hr (fun _ => trivial) fun s4 e4 c hr => ?_
  cases c.1
  refine stMac_ends.step hr (fun hb => (iv hb).buf) fun s5 e5 c _ => ?_
  cases c.1
  exact .inr ⟨s0, _, ⟨e0, e1, e2, e3, e4, e5⟩, iv⟩

theorem process_accepting_inv {cfg mac resolve now ing h pm raw}
    (hacc : (process cfg mac resolve now ing h pm raw).1.accepting = true) :
    ∃ s0 s1, Passed cfg mac now ing h pm raw s0 s1 := by
  rcases @process_ends cfg mac resolve now ing h pm raw with r | ⟨s0, s1, p, _⟩
  · rw [r.nacc] at hacc; cases hacc
  · exact ⟨s0, s1, p⟩

structure OutOk (cfg : Cfg) (mac : Mac) (h : Hd) (now : Nat) (ing : Ingress) (s s5 : St) (l : Iface)
    (r : Disp × Bytes) : Prop where
  xo : stXover cfg mac h now s = .ok s5
  egid : stEgressID cfg h ing s5 = .ok l
  up : stEgressAlertUp h l s5 = .ok s5
  disp : r.1 = .forward (egressOf s5)
  buf : (l.scope = .external ∧ ∃ s7, stProcessEgress h s5 = .ok s7 ∧ r.2 = s7.buf) ∨
        (l.scope ≠ .external ∧ r.2 = s5.buf)

/-- `outbound` refuses the packet, or forwards it as `OutOk` says -/
theorem outbound_ends {cfg mac h now ing s} :
    Rejects (Inv h s) (outbound cfg mac h now ing s).1 ∨
    ∃ s5 l, OutOk cfg mac h now ing s s5 l (outbound cfg mac h now ing s) := by
  generalize hr : outbound cfg mac h now ing s = r
  unfold outbound at hr
  refine stXover_ends.step hr Inv.buf fun s5 e0 x hr => ?_
  have iv5 := fun iv => (x.inv iv).buf
  cases e1 : stEgressID cfg h ing s5 with
  | error r' => simp only [e1] at hr; subst hr; exact .inl ((stEgressID_ends.err e1).mono fun _ => trivial)
  | ok l =>
  simp only [e1] at hr
  refine stEgressAlertUp_ends.step hr iv5 fun s6 e2 u hr => ?_
  cases u.1
  by_cases hs : l.scope = .external
  · simp only [hs, beq_self_eq_true, if_true] at hr
    refine stProcessEgress_ends.step hr iv5 fun s7 e3 _ hr => ?_
    subst hr
    exact .inr ⟨_, l, e0, e1, e2, rfl, Or.inl ⟨hs, s7, e3, rfl⟩⟩
  · have hb : (l.scope == Scope.external) = false := by simpa using hs
    simp only [hb] at hr
    subst hr
    exact .inr ⟨_, l, e0, e1, e2, rfl, Or.inr ⟨hs, rfl⟩⟩

theorem outbound_accepting_inv {cfg mac h now ing s}
    (hacc : (outbound cfg mac h now ing s).1.accepting = true) :
    ∃ s5 l, OutOk cfg mac h now ing s s5 l (outbound cfg mac h now ing s) := by
  rcases @outbound_ends cfg mac h now ing s with r | o
  · rw [r.nacc] at hacc; cases hacc
  · exact o

theorem outbound_total {cfg mac h now ing s} (iv : Inv h s) :
    Documented (outbound cfg mac h now ing s).1 := by
  rcases @outbound_ends cfg mac h now ing s with r | ⟨s5, l, o⟩
  · exact r.doc iv
  · rw [o.disp]; trivial

theorem tail_cases {cfg mac resolve now ing h s} :
    (h.dstIA = cfg.localIA ∧ tail cfg mac resolve now ing h s = inbound (resolve cfg h) s) ∨
    (h.dstIA ≠ cfg.localIA ∧ tail cfg mac resolve now ing h s = outbound cfg mac h now ing s) := by
  unfold tail
  by_cases hd : h.dstIA = cfg.localIA
  · left; simp [hd]
  · right; simp [hd]

theorem process_accepting_cases {cfg mac resolve now ing h pm raw}
    (hacc : (process cfg mac resolve now ing h pm raw).1.accepting = true) :
    ∃ s0 s1, Passed cfg mac now ing h pm raw s0 s1 ∧
      ((h.dstIA = cfg.localIA ∧
          process cfg mac resolve now ing h pm raw = inbound (resolve cfg h) s1) ∨
       (h.dstIA ≠ cfg.localIA ∧
          ∃ s5 l, OutOk cfg mac h now ing s1 s5 l (process cfg mac resolve now ing h pm raw))) := by
  obtain ⟨s0, s1, p⟩ := process_accepting_inv hacc
  refine ⟨s0, s1, p, ?_⟩
  rw [process_of_passed p] at hacc ⊢
  rcases @tail_cases cfg mac resolve now ing h s1 with ⟨hd, e⟩ | ⟨hd, e⟩
  · exact Or.inl ⟨hd, e⟩
  · rw [e] at hacc ⊢
    exact Or.inr ⟨hd, outbound_accepting_inv hacc⟩

theorem segid_buf {h pm raw ing s0 s1}
    (a : ParseOk h pm raw s0) (b : SegIDOk h ing s0 s1) :
    s1.pm = pm ∧ s1.buf.length = raw.length := by
  refine ⟨by rw [b.hpm, a.hpm], ?_⟩
  rw [b.buf, a.buf]; split
  · rw [a.hpm]; exact length_setInfo h raw pm.currINF _ (getInfo_some_bound a.inf).2
  · rfl

/-- at an effective cross-over the stage reads the first hop field of the next segment and its
info field as they stand in the received packet: the only edit so far rewrote the current info
field, and the cross-over condition says the next one is another -/
theorem xover_reads_raw {cfg mac h pm raw now ing s0 s1 s5}
    (a : ParseOk h pm raw s0) (b : SegIDOk h ing s0 s1) (x : XoverOk cfg mac h now s1 s5)
    (hdx : doesXover h s1 = true) :
    ∃ b', incPath (base h pm) = .ok b' ∧ s5.pm = b'.pm ∧ s5.buf = setMeta h s1.buf b'.pm ∧
      isXover (base h pm) = true ∧ getHop h raw (pm.currHF + 1) = some s5.hop ∧
      getInfo h raw (infIdx pm (pm.currHF + 1)) = some s5.inf := by
  obtain ⟨b', hinc, hpm', hbuf, hh2, hi2, _⟩ := x.yes hdx
  obtain ⟨hpm1, hlen⟩ := segid_buf a b
  rw [hpm1] at hinc
  obtain ⟨e1, e2, _⟩ := incPath_ok hinc
  simp only [base] at e1 e2
  have bi := getInfo_some_bound a.inf
  have hmeta : h.pathOff + 4 ≤ s1.buf.length := by
    have := pathOff_le_infoOff h pm.currINF; omega
  have hxo : isXover (base h pm) = true := by
    unfold doesXover at hdx
    rw [hpm1] at hdx
    simp at hdx
    exact hdx.1
  have hne : infIdx pm (pm.currHF + 1) ≠ pm.currINF := by
    unfold isXover base at hxo
    simp at hxo
    exact fun hc => hxo.2 hc.symm
  refine ⟨b', hinc, hpm', hbuf, hxo, ?_, ?_⟩
  · rw [getHop_setMeta h s1.buf b'.pm hmeta, e1] at hh2
    rw [← hh2, b.buf, a.buf]
    split
    · rw [a.hpm]; exact (getHop_setInfo h raw pm.currINF _ bi.1 bi.2 _).symm
    · rfl
  · rw [getInfo_setMeta h s1.buf b'.pm hmeta, e2] at hi2
    rw [← hi2, b.buf, a.buf]
    split
    · rw [a.hpm]; exact (getInfo_setInfo_ne h raw pm.currINF _ bi.2 _ hne).symm
    · rfl

theorem process_documented {cfg mac resolve now ing h pm raw} (hb : InBuf h raw) :
    Documented (process cfg mac resolve now ing h pm raw).1 := by
  rcases @process_ends cfg mac resolve now ing h pm raw with r | ⟨s0, s1, p, iv⟩
  · exact r.doc hb
  · rw [process_of_passed p]
    unfold tail
    split
    · exact inbound_total _ _
    · exact outbound_total (iv hb)

theorem processPkt_accepting_inv {cfg mac resolve now ing raw}
    (hacc : (processPkt cfg mac resolve now ing raw).1.accepting = true) :
    ∃ h pm, parse raw = .ok h pm ∧
      processPkt cfg mac resolve now ing raw = process cfg mac resolve now ing h pm raw := by
  unfold processPkt at hacc ⊢
  cases hp : parse raw with
  | drop => simp [hp, Disp.accepting] at hacc
  | other => simp [hp, Disp.accepting] at hacc
  | ok h pm => exact ⟨h, pm, rfl, rfl⟩

end Scion.Router
