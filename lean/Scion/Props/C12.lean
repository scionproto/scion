import Scion.Model.Ohp
import Scion.Gen.R2Ohp
import Scion.Proofs.R2OhpCodec
import Scion.Proofs.Guard
/-! C12 — one-hop paths are issued and completed only between the right neighbours.
    Theorems about `Scion.Ohp.process` (model of `processOHP`), for every configuration, every MAC
    function, every packet. -/
namespace Scion.C12
open Scion.Ohp Scion.Util Scion.R2OhpCodec

/-- the path the issuing router sends on: SegID accumulated with the first hop's MAC -/
def issued (path : Path) : Path := { path with info := updateSegID path.info path.first.mac }

/-- the path the receiving router hands to the local destination -/
def completed (mac : Mac) (ingress : Nat) (path : Path) : Path :=
  { path with second := secondHop mac ingress path }

/-- a header decodes as a one-hop path exactly when `HdrLen` covers common header, addresses and the
32 path bytes, lies inside the packet, and those bytes decode -/
theorem decodeStage_eq_some (p : Pkt) (path : Path) :
    decodeStage p = some path ↔
      p.hdrBytes = 12 + p.addrLen + 32 ∧ p.hdrBytes ≤ p.dataLen ∧
      decodePath (p.region.take 32) = some path := by
  unfold decodeStage
  rw [ite_none_eq_some, ite_none_eq_some]
  by_cases h32 : 32 = p.hdrBytes - 12 - p.addrLen
  · rw [← h32]
    cases decodePath (p.region.take 32) <;> simp [PathLen] <;> omega
  · cases decodePath (p.region.take (p.hdrBytes - 12 - p.addrLen)) <;> simp [PathLen, h32] <;> omega

theorem ite_drop_eq_fwd {g : Prop} [Decidable g] {k : Res} {e : Nat} {q : Path} :
    (if g then .drop else k) = .fwd e q ↔ ¬ g ∧ k = .fwd e q :=
  ite_eq_iff_of_ne nofun

theorem process_fwd_iff (c : Cfg) (mac : Mac) (p : Pkt) (e : Nat) (q : Path) :
    process c mac p = .fwd e q ↔
      ∃ path, decodeStage p = some path ∧ path.info.consDir = true ∧
        p.payloadLen = p.dataLen - p.hdrBytes ∧
        (if p.ingress = 0 then outStage c mac p path else inStage c mac p path) = .fwd e q := by
  unfold process
  cases decodeStage p with
  | none => simp
  | some path =>
    simp only [ite_drop_eq_fwd, Option.some.injEq, exists_eq_left', Bool.not_eq_false, ne_eq,
      Decidable.not_not]

theorem outStage_fwd_iff (c : Cfg) (mac : Mac) (p : Pkt) (path : Path) (e : Nat) (q : Path) :
    outStage c mac p path = .fwd e q ↔
      p.srcIA = c.localIA ∧ c.nb path.first.consEgress ≠ 0 ∧ p.dstIA = c.nb path.first.consEgress ∧
      path.first.mac = hopMac mac path.info path.first ∧ e = path.first.consEgress ∧ q = issued path := by
  simp only [outStage, ite_drop_eq_fwd, ne_eq, Decidable.not_not, Res.fwd.injEq, issued]
  constructor <;> rintro ⟨h1, h2, h3, h4, h5, h6⟩ <;> exact ⟨h1.symm, h2, h3.symm, h4, h5.symm, h6.symm⟩

theorem inStage_fwd_iff (c : Cfg) (mac : Mac) (p : Pkt) (path : Path) (e : Nat) (q : Path) :
    inStage c mac p path = .fwd e q ↔
      p.dstIA = c.localIA ∧ p.srcIA = c.nb p.ingress ∧ p.resolves = true ∧ e = 0 ∧
      q = completed mac p.ingress path := by
  simp only [inStage, ite_drop_eq_fwd, ne_eq, Decidable.not_not, Bool.not_eq_false, Res.fwd.injEq,
    completed]
  constructor <;> rintro ⟨h1, h2, h3, h4, h5⟩ <;> exact ⟨h1.symm, h2.symm, h3, h4.symm, h5.symm⟩

/-- **Leaving the AS** (packet from the internal network or a sibling router): forwarded exactly when
    the header decodes as a one-hop path in construction direction, the source is the local AS, the
    `PayloadLen` equals the number of bytes after the header, the
    first hop's egress interface has a neighbour and that neighbour is the destination AS, and the first
    hop's MAC is the router's MAC over (SegID, timestamp, expiry, interfaces); it then leaves through the
    first hop's egress interface with the SegID updated. -/
theorem ohp_out_iff (c : Cfg) (mac : Mac) (p : Pkt) (e : Nat) (q : Path) (h0 : p.ingress = 0) :
    process c mac p = .fwd e q ↔
      ∃ path, decodeStage p = some path ∧ path.info.consDir = true ∧
        p.payloadLen = p.dataLen - p.hdrBytes ∧ p.srcIA = c.localIA ∧
        c.nb path.first.consEgress ≠ 0 ∧ p.dstIA = c.nb path.first.consEgress ∧
        path.first.mac = hopMac mac path.info path.first ∧
        e = path.first.consEgress ∧ q = issued path := by
  simp only [process_fwd_iff, if_pos h0, outStage_fwd_iff]

/-- **Entering the AS** (packet received on an external interface): accepted exactly when the header
    decodes as a one-hop path in construction direction, the destination is the local AS, the source is
    the neighbour configured for the receiving interface and the local destination resolves; it is then
    handed to the internal network with the second hop field filled in. -/
theorem ohp_in_iff (c : Cfg) (mac : Mac) (p : Pkt) (e : Nat) (q : Path) (h0 : p.ingress ≠ 0) :
    process c mac p = .fwd e q ↔
      ∃ path, decodeStage p = some path ∧ path.info.consDir = true ∧
        p.payloadLen = p.dataLen - p.hdrBytes ∧ p.dstIA = c.localIA ∧
        p.srcIA = c.nb p.ingress ∧ p.resolves = true ∧ e = 0 ∧ q = completed mac p.ingress path := by
  simp only [process_fwd_iff, if_neg h0, inStage_fwd_iff]

/-- No one-hop packet is forwarded unless `HdrLen` covers exactly common header + addresses + 32 path
    bytes (header slack is rejected; repaired defect, see seeded/fixrevert-C18-hdrlen-slack). -/
theorem ohp_hdrlen_exact (c : Cfg) (mac : Mac) (p : Pkt) (e : Nat) (q : Path)
    (h : process c mac p = .fwd e q) : p.hdrBytes = 12 + p.addrLen + 32 ∧ p.hdrBytes ≤ p.dataLen := by
  obtain ⟨path, hd, _⟩ := (process_fwd_iff c mac p e q).1 h
  exact ⟨((decodeStage_eq_some p path).1 hd).1, ((decodeStage_eq_some p path).1 hd).2.1⟩

/-- A forwarded one-hop packet always was in construction direction. -/
theorem ohp_consdir (c : Cfg) (mac : Mac) (p : Pkt) (e : Nat) (q : Path)
    (h : process c mac p = .fwd e q) : q.info.consDir = true := by
  by_cases h0 : p.ingress = 0
  · obtain ⟨path, _, hc, _, _, _, _, _, _, rfl⟩ := (ohp_out_iff c mac p e q h0).mp h
    exact hc
  · obtain ⟨path, _, hc, _, _, _, _, _, rfl⟩ := (ohp_in_iff c mac p e q h0).mp h
    exact hc

/-- **The second hop field is valid**: it names the receiving interface as ingress, no egress, the
    first hop's expiry, and carries this router's MAC over the info field as received (i.e. with the
    SegID already accumulated by the issuing router). Info field and first hop are untouched. -/
theorem ohp_second_hop_valid (c : Cfg) (mac : Mac) (p : Pkt) (e : Nat) (q : Path) (h0 : p.ingress ≠ 0)
    (h : process c mac p = .fwd e q) :
    q.second.mac = hopMac mac q.info q.second ∧ q.second.consIngress = p.ingress ∧
      q.second.consEgress = 0 ∧ q.second.exp = q.first.exp ∧
      q.second.ingAlert = false ∧ q.second.egAlert = false ∧
      ∃ path, decodeStage p = some path ∧ q.info = path.info ∧ q.first = path.first := by
  obtain ⟨path, hd, _, _, _, _, _, _, hq⟩ := (ohp_in_iff c mac p e q h0).mp h
  subst hq
  -- `hopMac` does not read the hop's own MAC field, so the first conjunct holds by unfolding too
  exact ⟨rfl, rfl, rfl, rfl, rfl, rfl, path, hd, rfl, rfl⟩

theorem updateSegID_twice (i : Info) (m : Bytes) : updateSegID (updateSegID i m) m = i := by
  cases i
  simp [updateSegID, Nat.xor_assoc]

/-- What plain SCION processing checks of a hop field against construction direction
    (`validateIngressID`/`egressInterface`, `updateNonConsDirIngressSegID`, `verifyCurrentMAC`):
    `ingress` is the interface the packet arrives on (0: internal), `hop` the current hop, `info` the
    info field as carried. -/
def reverseHopOk (mac : Mac) (ingress : Nat) (info : Info) (hop : Hop) : Prop :=
  (ingress = 0 ∨ ingress = hop.consEgress) ∧
    hop.mac = hopMac mac (if ingress = 0 then info else updateSegID info hop.mac) hop

/-- **The reversed one-hop path is accepted by both routers.** If router A (configuration `cA`, MAC
    `macA`) issues a one-hop packet and neighbour B (`cB`, `macB`) completes what A sent on interface
    `pB.ingress`, then on the way back (segment against construction direction, hops in reverse order)
    * at B, coming from the internal network, the second hop verifies under B's MAC with the SegID as
      carried, and its egress is the interface the packet had come in on;
    * at A, arriving on A's interface `first.consEgress`, the first hop verifies under A's MAC after the
      ingress SegID update, which restores the SegID A had originally verified. -/
theorem ohp_reverse_accepted (cA cB : Cfg) (macA macB : Mac) (pA pB : Pkt) (eA eB : Nat) (q1 q2 : Path)
    (hA0 : pA.ingress = 0) (hB0 : pB.ingress ≠ 0)
    (hcfg : cA.nb 0 = 0)          -- no neighbour AS is configured behind the internal interface
    (hA : process cA macA pA = .fwd eA q1)
    (hB : process cB macB pB = .fwd eB q2)
    (hlink : decodeStage pB = some q1) :
    reverseHopOk macB 0 q2.info q2.second ∧ q2.second.consIngress = pB.ingress ∧
      reverseHopOk macA eA q2.info q2.first := by
  obtain ⟨path, _, _, _, _, hn, _, hm, rfl, rfl⟩ := (ohp_out_iff cA macA pA eA q1 hA0).mp hA
  obtain ⟨hm2, hi2, _, _, _, _, path2, hd2, hinfo, hfirst⟩ := ohp_second_hop_valid cB macB pB eB q2 hB0 hB
  cases hlink.symm.trans hd2
  refine ⟨⟨Or.inl rfl, hm2⟩, hi2, Or.inr (hfirst ▸ rfl), ?_⟩
  -- A's interface is not the internal one, so the SegID is updated again: back to what A verified
  have hz : path.first.consEgress ≠ 0 := fun hz => hn (hz ▸ hcfg)
  rw [hinfo, hfirst, if_neg hz]
  exact (updateSegID_twice path.info _).symm ▸ hm

/-- The one-hop packet the router's own BFD sender builds (`newBFDSend`/`bfdSend.Send`: construction
    direction, SegID 0, egress = the link's interface, expiry 63, MAC computed with the router's key). -/
def bfdSendPath (mac : Mac) (ifID ts : Nat) : Path :=
  let info : Info := { peer := false, consDir := true, segID := 0, ts := ts }
  let h : Hop := { ingAlert := false, egAlert := false, exp := 63, consIngress := 0, consEgress := ifID, mac := [] }
  let z : Hop := { ingAlert := false, egAlert := false, exp := 0, consIngress := 0, consEgress := 0, mac := [0, 0, 0, 0, 0, 0] }
  { info := info, first := { h with mac := hopMac mac info h }, second := z }

/-- `bfdSend.Send`'s packets are instances of the rule: with source = local AS and destination = the
    configured neighbour of the link's interface they meet every condition of `ohp_out_iff`. -/
theorem bfd_send_is_instance (c : Cfg) (mac : Mac) (p : Pkt) (ifID ts : Nat)
    (h0 : p.ingress = 0) (hd : decodeStage p = some (bfdSendPath mac ifID ts))
    (hpl : p.payloadLen = p.dataLen - p.hdrBytes)
    (hs : p.srcIA = c.localIA) (hn : c.nb ifID ≠ 0) (hdst : p.dstIA = c.nb ifID) :
    process c mac p = .fwd ifID (issued (bfdSendPath mac ifID ts)) :=
  (ohp_out_iff c mac p ifID _ h0).mpr ⟨_, hd, rfl, hpl, hs, hn, hdst, rfl, rfl, rfl⟩

theorem fwd_decoded (c : Cfg) (mac : Mac) (p : Pkt) (e : Nat) (q : Path) (h : process c mac p = .fwd e q) :
    ∃ path, decodeStage p = some path ∧ InfoWF path.info ∧ HopWF path.first ∧ HopWF path.second := by
  obtain ⟨path, hd, _⟩ := (process_fwd_iff c mac p e q).1 h
  exact ⟨path, hd, decodePath_wf _ _ ((decodeStage_eq_some p path).1 hd).2.2⟩

/-- the wire form of what the issuing router sends decodes, at the receiving router, to the same path -/
theorem decodeStage_of_wire (p : Pkt) (q : Path) (hi : InfoWF q.info) (h1 : HopWF q.first) (h2 : HopWF q.second)
    (hreg : p.region = encodePath q) (hh : p.hdrBytes = 12 + p.addrLen + 32) (hd : p.hdrBytes ≤ p.dataLen) :
    decodeStage p = some q := by
  refine (decodeStage_eq_some p q).2 ⟨hh, hd, ?_⟩
  rw [hreg, List.take_of_length_le (Nat.le_of_eq (encodePath_length q)), decodePath_encodePath q hi h1 h2]

/-- **The reversed one-hop path is accepted by both routers — on the wire.** As `ohp_reverse_accepted`, with
    the link between the two routers made explicit: the path bytes B receives are the serialisation of
    the path A forwarded. -/
theorem ohp_reverse_accepted_wire (cA cB : Cfg) (macA macB : Mac) (pA pB : Pkt) (eA eB : Nat) (q1 q2 : Path)
    (hA0 : pA.ingress = 0) (hB0 : pB.ingress ≠ 0) (hcfg : cA.nb 0 = 0)
    (hA : process cA macA pA = .fwd eA q1)
    (hB : process cB macB pB = .fwd eB q2)
    (hwire : pB.region = encodePath q1) :
    reverseHopOk macB 0 q2.info q2.second ∧ q2.second.consIngress = pB.ingress ∧
      reverseHopOk macA eA q2.info q2.first := by
  obtain ⟨path, hdA, _, _, _, _, _, _, _, hq⟩ := (ohp_out_iff cA macA pA eA q1 hA0).mp hA
  obtain ⟨hwi, hw1, hw2⟩ := decodePath_wf _ _ ((decodeStage_eq_some pA path).1 hdA).2.2
  have hlen := ohp_hdrlen_exact cB macB pB eB q2 hB
  exact ohp_reverse_accepted cA cB macA macB pA pB eA eB q1 q2 hA0 hB0 hcfg hA hB
    (decodeStage_of_wire pB q1 (hq ▸ updateSegID_wf _ _ hwi) (hq ▸ hw1) (hq ▸ hw2) hwire hlen.1 hlen.2)

/-- the BFD sender's packet as bytes: a packet whose path bytes are the serialisation of `bfdSendPath`
    (interface and timestamp within their wire width, MAC function returning at least six bytes) is
    forwarded by `processOHP` under the conditions of `bfd_send_is_instance` -/
theorem bfd_send_is_instance_wire (c : Cfg) (mac : Mac) (p : Pkt) (ifID ts : Nat)
    (hif : ifID < 65536) (hts : ts < 4294967296) (hmac : ∀ x, 6 ≤ (mac x).length)
    (h0 : p.ingress = 0) (hreg : p.region = encodePath (bfdSendPath mac ifID ts))
    (hh : p.hdrBytes = 12 + p.addrLen + 32) (hd : p.hdrBytes ≤ p.dataLen)
    (hpl : p.payloadLen = p.dataLen - p.hdrBytes)
    (hs : p.srcIA = c.localIA) (hn : c.nb ifID ≠ 0) (hdst : p.dstIA = c.nb ifID) :
    process c mac p = .fwd ifID (issued (bfdSendPath mac ifID ts)) := by
  apply bfd_send_is_instance c mac p ifID ts h0 _ hpl hs hn hdst
  exact decodeStage_of_wire p _ ⟨Nat.zero_lt_succ _, hts⟩
    ⟨(by decide : 63 < 256), Nat.zero_lt_succ _, hif, List.length_take_of_le (hmac _)⟩
    ⟨Nat.zero_lt_succ _, Nat.zero_lt_succ _, Nat.zero_lt_succ _, rfl⟩ hreg hh hd

/-- T3: sizes the model uses are the ones in the source -/
theorem gen_consts :
    PathLen = Scion.Gen.R2Ohp.PathLen ∧ Scion.Gen.R2Ohp.CmnHdrLen = 12 ∧ Scion.Gen.R2Ohp.MacLen = 6 ∧
    Scion.Gen.R2Ohp.MACBufferSize = 16 ∧ (bfdSendPath id 1 0).first.exp = Scion.Gen.R2Ohp.hopFieldDefaultExpTime ∧
    (macInput 0 0 0 0 0).length = Scion.Gen.R2Ohp.MACBufferSize := by decide

/-- the checks of `processOHP` the stages of the model were written against, in source order: path type,
    ConsDir, PayloadLen; then, leaving: source AS, neighbour known, neighbour = destination, MAC; entering:
    destination AS, neighbour = source; re-serialisation and local resolution errors -/
def expectedProcessOHPConds : List String :=
  ["!ok", "!ohp.Info.ConsDir", "int(s.PayloadLen) != len(s.Payload)", "p.ingressFromLink == 0",
   "!p.d.localIA.Equal(s.SrcIA)", "neighborIA.IsZero()", "!neighborIA.Equal(s.DstIA)",
   "subtle.ConstantTimeCompare(ohp.FirstHop.Mac[:], mac[:]) == 0",
   "err := updateSCIONLayer(p.pkt.RawPacket, s); err != nil", "!p.d.localIA.Equal(s.DstIA)",
   "!neighborIA.Equal(s.SrcIA)", "err := updateSCIONLayer(p.pkt.RawPacket, s); err != nil", "err != nil"]

/-- T3: `processOHP` still has these checks in this order -/
theorem gen_processOHP_shape : Scion.Gen.R2Ohp.processOHPConds = expectedProcessOHPConds := rfl

/-! Non-vacuity: with the identity as "MAC", AS 1 (interface 5 towards AS 2) issues a one-hop packet and
    AS 2 (interface 9 towards AS 1) completes it. -/
def exRegion : Bytes := encodePath (bfdSendPath id 5 1000)
def exOut : Pkt := { ingress := 0, srcIA := 1, dstIA := 2, hdrBytes := 68, addrLen := 24, dataLen := 76, payloadLen := 8,
                     region := exRegion, resolves := false }
def exIn : Pkt := { ingress := 9, srcIA := 1, dstIA := 2, hdrBytes := 68, addrLen := 24, dataLen := 76, payloadLen := 8,
                    region := encodePath (issued (bfdSendPath id 5 1000)), resolves := true }

example : process { localIA := 1, nbs := [(5, 2)] } id exOut = .fwd 5 (issued (bfdSendPath id 5 1000)) := by decide
example : process { localIA := 2, nbs := [(9, 1)] } id exIn =
    .fwd 0 (completed id 9 (issued (bfdSendPath id 5 1000))) := by decide
-- a slack header (one line more than the path needs) is dropped
example : process { localIA := 1, nbs := [(5, 2)] } id { exOut with hdrBytes := 72, dataLen := 80 } = .drop := by decide
-- a PayloadLen that disagrees with the bytes after the header is dropped
example : process { localIA := 1, nbs := [(5, 2)] } id { exOut with payloadLen := 9 } = .drop := by decide

end Scion.C12
