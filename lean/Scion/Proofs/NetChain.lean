import Scion.Model.Net
import Scion.Proofs.SegID
/-! Control-plane facts: what every registered segment looks like (`Chain`), by induction over
origination / propagation / termination.  Core Lean only. -/
namespace Scion.Net
open Scion.SegID (updateSegID extractBeta xorAll)

/-- `e'` was appended by the AS that received the beacon from `e` over `e`'s egress interface -/
def Linked (net : Net) (core : Bool) (e e' : ASE) : Prop :=
  ∃ f, (net e.ia).iface e.hop.cEg = some f ∧ f.lt = beaconLink core ∧ f.nbr = e'.ia ∧
    f.nbrIf = e'.hop.cIn ∧ e.hop.cEg ≠ 0

/-- a peer entry of `e`: a peering interface of the AS, MAC under the accumulator `β'` -/
def PeerOK (mac : MacFn) (net : Net) (ts β' : Nat) (e : ASE) (p : PeerE) : Prop :=
  ∃ f, (net e.ia).iface p.hop.cIn = some f ∧ f.lt = LinkType.peer ∧ p.peerAS = f.nbr ∧
    p.peerIf = f.nbrIf ∧ p.hop.cEg = e.hop.cEg ∧
    p.hop.mac = mac (net e.ia).key (macInput β' ts p.hop.exp p.hop.cIn p.hop.cEg)

/-- the hop entry of `e` carries the MAC of its AS under accumulator `β`; its peer entries under
    `β ⊕ MAC[:2]` -/
def MacAt (mac : MacFn) (net : Net) (ts β : Nat) (e : ASE) : Prop :=
  e.hop.mac = mac (net e.ia).key (macInput β ts e.hop.exp e.hop.cIn e.hop.cEg) ∧
  ∀ p ∈ e.peers, PeerOK mac net ts (updateSegID β (pfx e.hop.mac)) e p

def Chain (mac : MacFn) (net : Net) (core : Bool) (ts : Nat) : Nat → List ASE → Prop
  | _, [] => True
  | β, [e] => MacAt mac net ts β e
  | β, e :: e' :: rest =>
    MacAt mac net ts β e ∧ Linked net core e e' ∧
      Chain mac net core ts (updateSegID β (pfx e.hop.mac)) (e' :: rest)

def sig (l : List ASE) : List Nat := l.map fun e => pfx e.hop.mac

theorem chain_append (mac : MacFn) (net : Net) (core : Bool) (ts : Nat) (β : Nat) (l : List ASE)
    (e : ASE) (r : List ASE) :
    Chain mac net core ts β (l ++ e :: r) ↔
      Chain mac net core ts β l ∧ (∀ last, l.getLast? = some last → Linked net core last e) ∧
        Chain mac net core ts (extractBeta β (sig l)) (e :: r) := by
  induction l generalizing β with
  | nil => simp [Chain, sig, extractBeta]
  | cons x xs ih =>
    cases xs with
    | nil => simp [Chain, sig, extractBeta]
    | cons y ys =>
      have := ih (updateSegID β (pfx x.hop.mac))
      simp only [List.cons_append, List.getLast?_cons_cons] at this ⊢
      simp only [Chain, this, and_assoc]
      rfl

theorem extend_macAt (mac : MacFn) (net : Net) (s : PSeg) (a exp ingress egress : Nat)
    (peers : List Nat) (hpe : PeerIfs net a peers) :
    ∃ e, (extend mac net s a exp ingress egress peers).entries = s.entries ++ [e] ∧
      e.ia = a ∧ e.hop.cIn = ingress ∧ e.hop.cEg = egress ∧
      MacAt mac net s.ts (extractBeta s.s0 (sig s.entries)) e := by
  refine ⟨_, rfl, rfl, rfl, rfl, ?_, ?_⟩
  · rfl
  · intro p hp
    simp only [List.mem_filterMap] at hp
    obtain ⟨q, hqm, hq⟩ := hp
    split at hq
    · rename_i f hf
      cases hq
      exact ⟨f, hf, hpe q hqm f hf, rfl, rfl, rfl, rfl⟩
    · cases hq

/-- invariant of beaconing -/
theorem beaconed_chain (mac : MacFn) (net : Net) (core : Bool) (b : PSeg) (a i : Nat)
    (h : Beaconed mac net core b a i) :
    Chain mac net core b.ts b.s0 b.entries ∧
    (∃ first, b.entries.head? = some first ∧ first.hop.cIn = 0) ∧
    (∃ last f, b.entries.getLast? = some last ∧ (net last.ia).iface last.hop.cEg = some f ∧
      f.lt = beaconLink core ∧ f.nbr = a ∧ f.nbrIf = i ∧ last.hop.cEg ≠ 0) := by
  induction h with
  | originate a s0 ts exp e peers f hf hlt he hpe =>
    obtain ⟨x, hx, hia, hin, heg, hm⟩ := extend_macAt mac net ⟨s0, ts, []⟩ a exp 0 e peers hpe
    simp only [List.nil_append] at hx
    rw [hx]
    refine ⟨hm, ⟨x, rfl, hin⟩, ⟨x, f, rfl, ?_, hlt, rfl, rfl, ?_⟩⟩
    · rw [hia, heg]; exact hf
    · rw [heg]; exact he
  | propagate b a i exp e peers f _ hf hlt he hpe ih =>
    obtain ⟨hc, ⟨first, hfirst, hfin⟩, ⟨last, fl, hlast, hfl, hfllt, hnbr, hnif, hne⟩⟩ := ih
    obtain ⟨x, hx, hia, hin, heg, hm⟩ := extend_macAt mac net b a exp i e peers hpe
    rw [hx]
    refine ⟨?_, ⟨first, ?_, hfin⟩, ⟨x, f, by simp, ?_, hlt, rfl, rfl, ?_⟩⟩
    · refine (chain_append mac net core b.ts b.s0 b.entries x []).2 ⟨hc, fun l hl => ?_, hm⟩
      obtain rfl : last = l := Option.some.inj (hlast.symm.trans hl)
      exact ⟨fl, hfl, hfllt, by rw [hnbr, hia], by rw [hnif, hin], hne⟩
    · simp [List.head?_append, hfirst]
    · rw [hia, heg]; exact hf
    · rw [heg]; exact he

/-- every registered segment is a chain that starts with ingress 0 and ends with egress 0 -/
theorem registered_chain (mac : MacFn) (net : Net) (core : Bool) (s : PSeg)
    (h : Registered mac net core s) :
    Chain mac net core s.ts s.s0 s.entries ∧
    (∃ first, s.entries.head? = some first ∧ first.hop.cIn = 0) ∧
    (∃ last, s.entries.getLast? = some last ∧ last.hop.cEg = 0) ∧
    2 ≤ s.entries.length := by
  cases h with
  | terminate b a i exp peers hb hpe =>
    obtain ⟨hc, ⟨first, hfirst, hfin⟩, ⟨last, fl, hlast, hfl, hfllt, hnbr, hnif, hne⟩⟩ :=
      beaconed_chain mac net core b a i hb
    obtain ⟨x, hx, hia, hin, heg, hm⟩ := extend_macAt mac net b a exp i 0 peers hpe
    rw [hx]
    refine ⟨?_, ⟨first, ?_, hfin⟩, ⟨x, by simp, heg⟩, ?_⟩
    · refine (chain_append mac net core b.ts b.s0 b.entries x []).2 ⟨hc, fun l hl => ?_, hm⟩
      obtain rfl : last = l := Option.some.inj (hlast.symm.trans hl)
      exact ⟨fl, hfl, hfllt, by rw [hnbr, hia], by rw [hnif, hin], hne⟩
    · simp [List.head?_append, hfirst]
    · cases hb' : b.entries <;> simp [hb'] at hfirst ⊢

/-- the same chain read from the far end: `b` is the accumulator *after* the head entry -/
def ChainUp (mac : MacFn) (net : Net) (core : Bool) (ts : Nat) : Nat → List ASE → Prop
  | _, [] => True
  | b, [e] => MacAt mac net ts (updateSegID b (pfx e.hop.mac)) e
  | b, e :: e' :: rest =>
    MacAt mac net ts (updateSegID b (pfx e.hop.mac)) e ∧ Linked net core e' e ∧
      ChainUp mac net core ts (updateSegID b (pfx e.hop.mac)) (e' :: rest)

theorem sig_reverse (l : List ASE) : sig l.reverse = (sig l).reverse := by
  simp [sig, List.map_reverse]

theorem sig_append (a b : List ASE) : sig (a ++ b) = sig a ++ sig b := by simp [sig]

theorem extractBeta_sig_snoc (β : Nat) (l : List ASE) (y : ASE) :
    updateSegID (extractBeta β (sig (l ++ [y]))) (pfx y.hop.mac) = extractBeta β (sig l) := by
  rw [sig_append, Scion.SegID.extractBeta_append]
  simp [sig, extractBeta, updateSegID, Scion.SegID.xor_cancel]

theorem chainUp_append (mac : MacFn) (net : Net) (core : Bool) (ts : Nat) (b : Nat) (l : List ASE)
    (e : ASE) (r : List ASE) :
    ChainUp mac net core ts b (l ++ e :: r) ↔
      ChainUp mac net core ts b l ∧ (∀ last, l.getLast? = some last → Linked net core e last) ∧
        ChainUp mac net core ts (extractBeta b (sig l)) (e :: r) := by
  induction l generalizing b with
  | nil => simp [ChainUp, sig, extractBeta]
  | cons x xs ih =>
    cases xs with
    | nil => simp [ChainUp, sig, extractBeta]
    | cons y ys =>
      have := ih (updateSegID b (pfx x.hop.mac))
      simp only [List.cons_append, List.getLast?_cons_cons] at this ⊢
      simp only [ChainUp, this, and_assoc]
      rfl

theorem chain_to_up (mac : MacFn) (net : Net) (core : Bool) (ts : Nat) (β : Nat) (l : List ASE)
    (hc : Chain mac net core ts β l) :
    ChainUp mac net core ts (extractBeta β (sig l)) l.reverse := by
  induction l generalizing β with
  | nil => simp [ChainUp]
  | cons x xs ih =>
    cases xs with
    | nil =>
      simp only [List.reverse_cons, List.reverse_nil, List.nil_append, ChainUp, sig, List.map,
        extractBeta, List.foldl, updateSegID]
      rw [Scion.SegID.xor_cancel]
      exact hc
    | cons y ys =>
      obtain ⟨h1, h2, h3⟩ := hc
      have ih' := ih _ h3
      have hb : extractBeta β (sig (x :: y :: ys)) =
          extractBeta (updateSegID β (pfx x.hop.mac)) (sig (y :: ys)) := by
        simp [sig, extractBeta]
      rw [hb, List.reverse_cons]
      refine (chainUp_append mac net core ts _ _ x []).2 ⟨ih', fun l hl => ?_, ?_⟩
      · obtain rfl : y = l := by simpa using hl
        exact h2
      · simp only [ChainUp, sig_reverse, Scion.SegID.extractBeta_eq, Scion.SegID.xorAll_reverse,
          updateSegID, Scion.SegID.xor_cancel]
        exact h1

theorem chain_drop (mac : MacFn) (net : Net) (core : Bool) (ts : Nat) (β : Nat) (pre l : List ASE)
    (hc : Chain mac net core ts β (pre ++ l)) :
    Chain mac net core ts (extractBeta β (sig pre)) l := by
  cases l with
  | nil => trivial
  | cons e r => exact ((chain_append mac net core ts β pre e r).1 hc).2.2

theorem chainUp_take (mac : MacFn) (net : Net) (core : Bool) (ts : Nat) (l1 : List ASE) :
    ∀ (l2 : List ASE) (b : Nat), l1 ≠ [] → ChainUp mac net core ts b (l1 ++ l2) →
      ChainUp mac net core ts b l1 := by
  intro l2 b _ hc
  cases l2 with
  | nil => simpa using hc
  | cons e r => exact ((chainUp_append mac net core ts b l1 e r).1 hc).1

end Scion.Net
