import Scion.Model.Select
import Scion.Proofs.Best
/-! Lemmas about the loop of `selectMostDiverse` (fold invariant). -/
namespace Scion.Select

def Better (best x y : Beacon) : Prop :=
  diversity best x > diversity best y ∨ (diversity best x = diversity best y ∧ x.len < y.len)

instance (best x y : Beacon) : Decidable (Better best x y) := by unfold Better; infer_instance

/-- `x` would replace the loop state `a` -/
def BetterAcc (best x : Beacon) (a : Acc) : Prop :=
  (diversity best x : Int) > a.maxDiv ∨ ((diversity best x : Int) = a.maxDiv ∧ a.minLen > x.len)

instance (best x : Beacon) (a : Acc) : Decidable (BetterAcc best x a) := by
  unfold BetterAcc; infer_instance

def accOf (best x : Beacon) : Acc := ⟨x, x.len, diversity best x⟩

theorem mdStep_eq (best : Beacon) (a : Acc) (b : Beacon) :
    mdStep best a b = if BetterAcc best b a then accOf best b else a := by
  unfold mdStep BetterAcc accOf
  rfl

theorem betterAcc_accOf (best x y : Beacon) : BetterAcc best x (accOf best y) ↔ Better best x y := by
  unfold BetterAcc accOf Better
  simp only
  omega

theorem betterAcc_init (best x : Beacon) : BetterAcc best x Acc.init := by
  unfold BetterAcc Acc.init
  simp only
  omega

/-- the loop is a scan: its state is `Acc.init` or caches the keys of the champion -/
theorem mdStep_scans (best : Beacon) :
    Scans (fun _ => True) (fun c x => Better best x c) (fun o => o.elim Acc.init (accOf best)) (mdStep best) := by
  intro acc x
  rw [mdStep_eq]
  cases acc with
  | none => exact .inl ⟨if_pos (betterAcc_init best x), trivial, nofun⟩
  | some c =>
    simp only [Option.elim_some, betterAcc_accOf]
    by_cases h : Better best x c
    · exact .inl ⟨if_pos h, trivial, fun _ e => Option.some.inj e ▸ h⟩
    · exact .inr ⟨if_neg h, fun _ => ⟨c, rfl, h⟩⟩

/-- `selectMostDiverse` on a non-empty list: the first maximum of the preference order. -/
theorem selectMostDiverse_spec (best : Beacon) (bs : List Beacon) (hne : bs ≠ []) :
    ∃ pre x post, bs = pre ++ x :: post ∧
      selectMostDiverse bs best = (x, (diversity best x : Int)) ∧
      (∀ p ∈ pre, Better best x p) ∧ (∀ q ∈ post, ¬ Better best q x) := by
  obtain ⟨r, e, h⟩ := Picked.foldl (mdStep_scans best) (by unfold Better; omega) (by unfold Better; omega)
    bs [] none nofun
  cases r with
  | none => cases bs with
    | nil => exact absurd rfl hne
    | cons b _ => exact absurd trivial (h b (by simp))
  | some x =>
    obtain ⟨_, pre, post, hs, hpre, hpost⟩ := h
    refine ⟨pre, x, post, hs, ?_, fun p hp => hpre p hp trivial, fun q hq => hpost q hq trivial⟩
    cases bs with
    | nil => exact absurd rfl hne
    | cons b rest => exact congrArg (fun a : Acc => (a.diverse, a.maxDiv)) e

theorem selectMostDiverse_nil (best : Beacon) : selectMostDiverse [] best = (Beacon.zero, -1) := rfl

end Scion.Select
