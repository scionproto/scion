import Scion.Proofs.DrkeySrv
import Scion.Proofs.Guard
import Scion.Gen.Drkey
/-!
# C40 — DRKey keys are only handed to the entities they are bound to

Property theorems only.  The model (`Scion.Model.DrkeySrv`) is tied to
`control/drkey/grpc.Server` by `harness/cmd/drkeysrv`, which calls the six real handlers with
fabricated peers / TLS states / requests and a recording engine.

"The engine is called with meta `m`" (`handler … = some m`) is "a key for `m` is returned to the
requester": the handlers return the engine's answer unchanged.
-/
namespace Scion.C40
open Scion.Util Scion.DrkeySrv

/-! Host identity (`IsIP`, `unmap`, `SameHost`) and `ipEqual_iff_sameHost` (`net.IP.Equal` on a real
requester address decides host identity) are in `Scion.Proofs.DrkeySrv`. -/

/-! ## AS-host, host-AS, host-host -/

/-- **AS-host.** The engine is asked for an AS-host key exactly when: there is a TCP requester,
    the timestamp is valid, the protocol is not `Generic`, the request's destination AS is the
    local AS and the requester's address equals the destination host; the meta is the request. -/
theorem ashost_iff (s : Srv) (peer : Option Peer) (r : HostReq) (m : HostMeta) :
    asHost s peer r = some m ↔
      ∃ p t ip, peer = some p ∧ p.addr = .tcp ip ∧ r.ts = some t ∧ tsValid r.ts = true ∧
        protoOf r.proto ≠ Scion.Drkey.genericProto ∧ r.dst = s.localIA ∧ ipEqual ip r.dstIP = true ∧
        m = ⟨protoOf r.proto, t, r.src, r.dst, [], r.dstHost⟩ := by
  unfold asHost
  exact (tcpHandler_iff peer r.ts _ m fun p => validateASHost_iff _ _ _ _ p.addr).trans
    (by simp only [and_assoc])

/-- **Host-AS**, symmetric: source AS local, requester = source host. -/
theorem hostas_iff (s : Srv) (peer : Option Peer) (r : HostReq) (m : HostMeta) :
    hostAS s peer r = some m ↔
      ∃ p t ip, peer = some p ∧ p.addr = .tcp ip ∧ r.ts = some t ∧ tsValid r.ts = true ∧
        protoOf r.proto ≠ Scion.Drkey.genericProto ∧ r.src = s.localIA ∧ ipEqual ip r.srcIP = true ∧
        m = ⟨protoOf r.proto, t, r.src, r.dst, r.srcHost, []⟩ := by
  unfold hostAS
  exact (tcpHandler_iff peer r.ts _ m fun p => validateHostAS_iff _ _ _ _ p.addr).trans
    (by simp only [and_assoc])

/-- **Host-host**: the requester is the source host and the source AS is local, or the requester
    is the destination host and the destination AS is local. -/
theorem hosthost_iff (s : Srv) (peer : Option Peer) (r : HostReq) (m : HostMeta) :
    hostHost s peer r = some m ↔
      ∃ p t ip, peer = some p ∧ p.addr = .tcp ip ∧ r.ts = some t ∧ tsValid r.ts = true ∧
        protoOf r.proto ≠ Scion.Drkey.genericProto ∧
        ((r.src = s.localIA ∧ ipEqual ip r.srcIP = true) ∨
         (r.dst = s.localIA ∧ ipEqual ip r.dstIP = true)) ∧
        m = ⟨protoOf r.proto, t, r.src, r.dst, r.srcHost, r.dstHost⟩ := by
  unfold hostHost
  exact tcpHandler_iff peer r.ts _ m fun p => validateHostHost_iff _ _ _ _ _ _ p.addr

/-- the clause in the statement's words: an AS-host key goes only to the host named as destination
    of a request whose destination is the local AS -/
theorem ashost_only_named_host (s : Srv) (p : Peer) (ip : Bytes) (r : HostReq) (m : HostMeta)
    (ha : p.addr = .tcp ip) (hip : IsIP ip) (h : asHost s (some p) r = some m) :
    m.dst = s.localIA ∧ m.dstHost = r.dstHost ∧ SameHost ip r.dstIP := by
  obtain ⟨_, t, _, ⟨rfl⟩, ha', _, _, _, hd, he, rfl⟩ := (ashost_iff s (some p) r m).1 h
  cases ha.symm.trans ha'
  exact ⟨hd, rfl, (ipEqual_iff_sameHost ip r.dstIP hip).1 he⟩

theorem hostas_only_named_host (s : Srv) (p : Peer) (ip : Bytes) (r : HostReq) (m : HostMeta)
    (ha : p.addr = .tcp ip) (hip : IsIP ip) (h : hostAS s (some p) r = some m) :
    m.src = s.localIA ∧ m.srcHost = r.srcHost ∧ SameHost ip r.srcIP := by
  obtain ⟨_, t, _, ⟨rfl⟩, ha', _, _, _, hd, he, rfl⟩ := (hostas_iff s (some p) r m).1 h
  cases ha.symm.trans ha'
  exact ⟨hd, rfl, (ipEqual_iff_sameHost ip r.srcIP hip).1 he⟩

theorem hosthost_only_named_host (s : Srv) (p : Peer) (ip : Bytes) (r : HostReq) (m : HostMeta)
    (ha : p.addr = .tcp ip) (hip : IsIP ip) (h : hostHost s (some p) r = some m) :
    m.srcHost = r.srcHost ∧ m.dstHost = r.dstHost ∧
    ((m.src = s.localIA ∧ SameHost ip r.srcIP) ∨ (m.dst = s.localIA ∧ SameHost ip r.dstIP)) := by
  obtain ⟨_, t, _, ⟨rfl⟩, ha', _, _, _, hside, rfl⟩ := (hosthost_iff s (some p) r m).1 h
  cases ha.symm.trans ha'
  refine ⟨rfl, rfl, ?_⟩
  rcases hside with ⟨h1, h2⟩ | ⟨h1, h2⟩
  · exact .inl ⟨h1, (ipEqual_iff_sameHost ip r.srcIP hip).1 h2⟩
  · exact .inr ⟨h1, (ipEqual_iff_sameHost ip r.dstIP hip).1 h2⟩

private theorem needs_tcp {M : Type} {o : Option M} {p : Peer} {rest : M → Peer → Int × Int → Bytes → Prop}
    (hp : p.addr = .other)
    (h : ∀ m, o = some m → ∃ p' t ip, some p = some p' ∧ p'.addr = .tcp ip ∧ rest m p' t ip) : o = none :=
  Option.eq_none_iff_forall_ne_some.2 fun m hm => by
    obtain ⟨_, _, _, ⟨rfl⟩, ha, _⟩ := h m hm
    rw [hp] at ha; cases ha

/-- requesters that are not TCP peers never get a level-2/3 key -/
theorem host_keys_need_tcp_peer (s : Srv) (p : Peer) (r : HostReq) (hp : p.addr = .other) :
    asHost s (some p) r = none ∧ hostAS s (some p) r = none ∧ hostHost s (some p) r = none :=
  ⟨needs_tcp hp fun m => (ashost_iff s _ r m).1, needs_tcp hp fun m => (hostas_iff s _ r m).1,
    needs_tcp hp fun m => (hosthost_iff s _ r m).1⟩

/-- **Never generic.** No level-2/3 key is served for protocol 0 — also not for a protocol id
    that only becomes 0 by the `int32 → uint16` conversion. -/
theorem never_generic (s : Srv) (peer : Option Peer) (r : HostReq) (m : HostMeta)
    (h : asHost s peer r = some m ∨ hostAS s peer r = some m ∨ hostHost s peer r = some m) :
    m.proto ≠ Scion.Drkey.genericProto := by
  rcases h with h | h | h
  · obtain ⟨_, _, _, _, _, _, _, hg, _, _, rfl⟩ := (ashost_iff s peer r m).1 h; exact hg
  · obtain ⟨_, _, _, _, _, _, _, hg, _, _, rfl⟩ := (hostas_iff s peer r m).1 h; exact hg
  · obtain ⟨_, _, _, _, _, _, _, hg, _, rfl⟩ := (hosthost_iff s peer r m).1 h; exact hg

/-! ## level 1 -/

/-- **Level 1.** A level-1 key is derived only for the AS the client certificate authenticates,
    from the local AS's secret, for a predefined protocol — and for every such request. -/
theorem level1_iff (s : Srv) (peer : Option Peer) (proto : Int) (ts : Ts) (m : Level1Meta) :
    level1 s peer proto ts = some m ↔
      ∃ p ia t, peer = some p ∧ p.auth = .tlsCert ia ∧ ts = some t ∧ tsValid ts = true ∧
        Scion.Drkey.isPredefined (protoOf proto) = true ∧ m = ⟨protoOf proto, t, s.localIA, ia⟩ := by
  unfold level1
  cases peer with
  | none => simp
  | some p =>
    obtain ⟨a, auth⟩ := p
    cases auth with
    | tlsCert ia =>
      refine (tsGuard_iff ts _ (fun t => ⟨protoOf proto, t, s.localIA, ia⟩) m).trans ⟨?_, ?_⟩
      · rintro ⟨t, h⟩
        exact ⟨_, ia, t, rfl, rfl, h⟩
      · rintro ⟨_, _, t, ⟨rfl⟩, ⟨rfl⟩, h⟩
        exact ⟨t, h⟩
    | _ => exact ⟨fun h => (nomatch h), fun ⟨_, _, _, hp, ha, _⟩ => by cases hp; cases ha⟩

theorem level1_only_cert_ia (s : Srv) (p : Peer) (proto : Int) (ts : Ts) (m : Level1Meta)
    (h : level1 s (some p) proto ts = some m) :
    p.auth = .tlsCert m.dst ∧ m.src = s.localIA ∧ Scion.Drkey.isPredefined m.proto = true := by
  obtain ⟨p', ia, t, hp, ha, _, _, hpre, rfl⟩ := (level1_iff s (some p) proto ts m).1 h
  cases hp
  exact ⟨ha, rfl, hpre⟩

/-! ## secret values and intra-AS level-1 keys -/

/-- the requester is on the allow-list for the protocol -/
def Allowed (s : Srv) (proto : Nat) (a : PeerAddr) : Prop :=
  ∃ ip h, a = .tcp ip ∧ fromStdIP ip = some h ∧ (h, proto) ∈ s.allowed

theorem allowedHost_iff (s : Srv) (proto : Nat) (a : PeerAddr) :
    allowedHost s proto a = true ↔ Allowed s proto a := by
  unfold allowedHost Allowed
  cases a with
  | other => simp
  | tcp ip => cases hf : fromStdIP ip <;> simp [hf]

/-- **Secret values** go exactly to allow-listed (host, protocol) pairs. -/
theorem sv_iff (s : Srv) (peer : Option Peer) (proto : Int) (ts : Ts) (m : SVMeta) :
    secretValue s peer proto ts = some m ↔
      ∃ p t, peer = some p ∧ ts = some t ∧ tsValid ts = true ∧
        Allowed s (protoOf proto) p.addr ∧ m = ⟨protoOf proto, t⟩ := by
  unfold secretValue
  simp only [← allowedHost_iff]
  exact hostHandler_iff peer ts (fun p => allowedHost s (protoOf proto) p.addr) _ m

theorem sv_only_allowed (s : Srv) (p : Peer) (proto : Int) (ts : Ts) (m : SVMeta)
    (h : secretValue s (some p) proto ts = some m) : Allowed s m.proto p.addr := by
  obtain ⟨p', t, hp, _, _, ha, rfl⟩ := (sv_iff s (some p) proto ts m).1 h
  cases hp; exact ha

/-- **Intra-AS level-1 keys** go exactly to allow-listed hosts, and only when the local AS is the
    source or the destination of the key. -/
theorem intra_level1_iff (s : Srv) (peer : Option Peer) (proto : Int) (ts : Ts) (src dst : Nat)
    (m : Level1Meta) :
    intraLevel1 s peer proto ts src dst = some m ↔
      ∃ p t, peer = some p ∧ (s.localIA = src ∨ s.localIA = dst) ∧ ts = some t ∧ tsValid ts = true ∧
        Allowed s (protoOf proto) p.addr ∧ m = ⟨protoOf proto, t, src, dst⟩ := by
  unfold intraLevel1
  simp only [← allowedHost_iff]
  cases peer with
  | none => simp
  | some p =>
    simp only [ite_none_eq_some, Decidable.not_and_iff_not_or_not, Decidable.not_not, Option.some.injEq,
      exists_and_left, exists_eq_left']
    exact and_congr_right fun _ => tsGuard_iff ts _ _ m

theorem intra_level1_requires_endpoint (s : Srv) (p : Peer) (proto : Int) (ts : Ts) (src dst : Nat)
    (m : Level1Meta) (h : intraLevel1 s (some p) proto ts src dst = some m) :
    (m.src = s.localIA ∨ m.dst = s.localIA) ∧ Allowed s m.proto p.addr := by
  obtain ⟨p', t, hp, hep, _, _, ha, rfl⟩ := (intra_level1_iff s (some p) proto ts src dst m).1 h
  cases hp
  exact ⟨by rcases hep with h | h <;> simp [h], ha⟩

/-- what an allow-list entry matches: the requester's address after unmapping, without zone —
    an entry written as IPv4-mapped literal or with a zone never matches (fail closed) -/
theorem allowed_entry_canonical (s : Srv) (proto : Nat) (a : PeerAddr) (h : Allowed s proto a) :
    ∃ ip e, a = .tcp ip ∧ (e, proto) ∈ s.allowed ∧ e.zone = "" ∧ e.bytes = unmap ip ∧ IsIP ip := by
  obtain ⟨ip, e, rfl, hf, hm⟩ := h
  refine ⟨ip, e, rfl, hm, ?_⟩
  unfold fromStdIP at hf
  unfold unmap IsIP
  split at hf
  · cases hf; simp [*]
  · split at hf
    · split at hf <;> cases hf <;> simp_all
    · cases hf

/-! ## no peer, no key -/

theorem no_peer_no_key (s : Srv) (proto : Int) (ts : Ts) (src dst : Nat) (r : HostReq) :
    level1 s none proto ts = none ∧ intraLevel1 s none proto ts src dst = none ∧
    secretValue s none proto ts = none ∧ asHost s none r = none ∧ hostAS s none r = none ∧
    hostHost s none r = none := ⟨rfl, rfl, rfl, rfl, rfl, rfl⟩

/-! ## histories on one server: no state -/

/-- **Statelessness.** On one server, the answer to a request does not depend on what was asked
    before or after: at every position of every history it is the answer to that request alone. -/
theorem handlers_stateless (s : Srv) (pre post : List Req) (r : Req) :
    (serve s (pre ++ r :: post))[pre.length]? = some (handle s r) := by
  simp [serve]

/-- … in particular for level-1 requests: whatever certificates were verified before, the decision
    is `level1` of the current request, which looks only at the verifier's answer for the chain
    presented now (`Peer.auth`), the protocol id and the timestamp — not even at the address. -/
theorem level1_stateless (s : Srv) (pre post : List Req) (peer : Option Peer) (proto : Int) (ts : Ts) :
    (serve s (pre ++ Req.l1 peer proto ts :: post))[pre.length]? =
      some (.level1 (level1 s peer proto ts)) :=
  handlers_stateless s pre post _

theorem level1_depends_only_on_auth (s : Srv) (a1 a2 : PeerAddr) (auth : Auth) (proto : Int) (ts : Ts) :
    level1 s (some ⟨a1, auth⟩) proto ts = level1 s (some ⟨a2, auth⟩) proto ts := rfl

/-- a chain that does not verify now yields no key, whatever happened earlier on this server -/
theorem level1_unverified_never_served (s : Srv) (pre post : List Req) (a : PeerAddr) (auth : Auth)
    (proto : Int) (ts : Ts) (h : ∀ ia, auth ≠ .tlsCert ia) :
    (serve s (pre ++ Req.l1 (some ⟨a, auth⟩) proto ts :: post))[pre.length]? = some (.level1 none) := by
  rw [level1_stateless]
  cases auth with
  | tlsCert ia => exact absurd rfl (h ia)
  | _ => rfl

/-- a level-1 key handed out anywhere in a history is for the AS named by the certificate chain
    that verified for *that* request -/
theorem level1_history_only_cert_ia (s : Srv) (hist : List Req) (i : Nat) (m : Level1Meta)
    (h : (serve s hist)[i]? = some (.level1 (some m))) :
    ∃ p proto ts, hist[i]? = some (Req.l1 (some p) proto ts) ∧ p.auth = .tlsCert m.dst ∧
      m.src = s.localIA := by
  simp only [serve, List.getElem?_map, Option.map_eq_some_iff] at h
  obtain ⟨r, hr, hh⟩ := h
  cases r with
  | l1 peer proto ts =>
    simp only [handle, Ans.level1.injEq] at hh
    cases peer with
    | none => simp [level1] at hh
    | some p =>
      have := level1_only_cert_ia s p proto ts m hh
      exact ⟨p, proto, ts, hr, this.1, this.2.1⟩
  | _ => simp [handle] at hh

/-! ## T3: the handlers validate before they ask the engine, and the validators' conditions are
    the ones modelled -/

theorem handlers_validate_first :
    Scion.Gen.Drkey.handlerDRKeyLevel1Calls =
      ["FromContext", "New", "validateClientCertificate", "Wrap", "getMeta", "Wrap", "IsPredefined",
       "New", "DeriveLevel1", "Wrap", "keyToLevel1Resp"] ∧
    Scion.Gen.Drkey.handlerDRKeyIntraLevel1Calls =
      ["FromContext", "New", "IA", "IA", "New", "getMeta", "IA", "IA", "Wrap", "validateAllowedHost",
       "Wrap", "GetLevel1Key", "Wrap", "keyToASASResp"] ∧
    Scion.Gen.Drkey.handlerDRKeyASHostCalls =
      ["FromContext", "New", "requestToASHostMeta", "Wrap", "validateASHostReq", "Wrap", "DeriveASHost",
       "Wrap", "keyToASHostResp"] ∧
    Scion.Gen.Drkey.handlerDRKeyHostASCalls =
      ["FromContext", "New", "requestToHostASMeta", "Wrap", "validateHostASReq", "Wrap", "DeriveHostAS",
       "Wrap", "keyToHostASResp"] ∧
    Scion.Gen.Drkey.handlerDRKeyHostHostCalls =
      ["FromContext", "New", "requestToHostHostMeta", "Wrap", "validateHostHostReq", "Wrap",
       "DeriveHostHost", "Wrap", "keyToHostHostResp"] ∧
    Scion.Gen.Drkey.handlerDRKeySecretValueCalls =
      ["FromContext", "New", "secretRequestToMeta", "Wrap", "validateAllowedHost", "Wrap",
       "GetSecretValue", "Wrap", "secretToProtoResp"] := by
  refine ⟨rfl, rfl, rfl, rfl, rfl, rfl⟩

theorem validators_as_modelled :
    Scion.Gen.Drkey.validateASHostReqConds =
      ["meta.ProtoId == drkey.Generic", "err != nil", "!meta.DstIA.Equal(localIA)",
       "!hostAddr.Equal(dstHost)"] ∧
    Scion.Gen.Drkey.validateHostASReqConds =
      ["meta.ProtoId == drkey.Generic", "err != nil", "!meta.SrcIA.Equal(localIA)",
       "!hostAddr.Equal(srcHost)"] ∧
    Scion.Gen.Drkey.validateHostHostReqConds =
      ["meta.ProtoId == drkey.Generic", "err != nil",
       "(!meta.SrcIA.Equal(localIA) || !hostAddr.Equal(srcHost)) && (!meta.DstIA.Equal(localIA) || !hostAddr.Equal(dstHost))"] ∧
    Scion.Gen.Drkey.validateAllowedHostConds = ["!ok", "!ok", "foundSet"] ∧
    Scion.Gen.Drkey.validateClientCertificateConds =
      ["peer.AuthInfo == nil", "!ok", "len(chain) == 0", "err != nil"] ∧
    Scion.Gen.Drkey.hostAddrFromPeerConds = ["!ok"] ∧
    Scion.Drkey.genericProto = Scion.Gen.Drkey.Generic ∧
    Scion.Drkey.predefinedProtos = Scion.Gen.Drkey.predefinedProtocols := by
  refine ⟨rfl, rfl, rfl, rfl, rfl, rfl, rfl, rfl⟩

/-! ## Non-vacuity -/

def exSrv : Srv := ⟨42, [(⟨true, [10, 0, 0, 7], ""⟩, 1)]⟩
def exPeer : Peer := ⟨.tcp [10, 0, 0, 7], .tlsCert 99⟩
def exIP16 : Bytes := [0, 0, 0, 0, 0, 0, 0, 0, 0, 0, 0xff, 0xff, 10, 0, 0, 7]

/-- the host 10.0.0.7 of AS 42 obtains its AS-host key for SCMP … -/
example : asHost exSrv (some exPeer) ⟨1, some (1700000000, 0), 7, 42, [], [1], [], exIP16⟩ =
    some ⟨1, (1700000000, 0), 7, 42, [], [1]⟩ := by decide
/-- … another host does not, nor does anybody for the generic protocol (also not via 65536) -/
example : asHost exSrv (some ⟨.tcp [10, 0, 0, 8], .none⟩) ⟨1, some (1700000000, 0), 7, 42, [], [1], [], exIP16⟩ = none := by decide
example : asHost exSrv (some exPeer) ⟨65536, some (1700000000, 0), 7, 42, [], [1], [], exIP16⟩ = none := by decide
example : SameHost [10, 0, 0, 7] exIP16 := by decide
/-- AS 99's certificate yields a level-1 key for (42 → 99) -/
example : level1 exSrv (some exPeer) 1 (some (1700000000, 0)) = some ⟨1, (1700000000, 0), 42, 99⟩ := by decide
/-- the allow-listed host gets the SCMP secret value, not the one of protocol 7 -/
example : secretValue exSrv (some exPeer) 1 (some (1700000000, 0)) = some ⟨1, (1700000000, 0)⟩ := by decide
example : secretValue exSrv (some exPeer) 7 (some (1700000000, 0)) = none := by decide

/-- genuine level-1 request of AS 99, then an unverifiable certificate on the same server: the
    first is served for 99, the second gets nothing -/
example : serve exSrv [.l1 (some exPeer) 1 (some (1700000000, 0)),
                       .l1 (some ⟨.tcp [10, 0, 0, 9], .tlsBadCert⟩) 1 (some (1700000001, 0))] =
    [.level1 (some ⟨1, (1700000000, 0), 42, 99⟩), .level1 none] := by decide

end Scion.C40
