import Scion.Proofs.Scmp
import Scion.Gen.Scmp
import Scion.Gen.Stun
/-!
# C08 — router packet processing never crashes and never forwards malformed packets

Statement (properties.jsonl): for every byte string received on an external, sibling or internal
link (including STUN messages on the internal link), the router's fast-path and slow-path processing
terminate without panicking.  Every packet the router forwards, delivers or emits decodes as a SCION
packet whose header length, payload length and path pointers are consistent.

What is a theorem here (the part of C08 that is logic):

* `output_consistent` — everything the model of the slow path (`Scion.Scmp.processPacket`) emits
  has `HdrLen·4 = 12 + address header + path`, `PayloadLen =` the bytes after the header, fits the
  16-bit/8-bit fields, lies inside the packet buffer, and its path pointers designate an existing hop
  of the right segment (`CurrHF < NumHops`, `CurrINF = infIndexForHF(CurrHF)`).
* `slow_path_guarded` — in the model every slice/index expression that the Go code does not guard
  itself (`InfoFields[CurrINF]`, `HopFields[CurrHF]`, `RawPacket[:quoteLen]`,
  `buffer[0:quoteLen+headroom]`, the prepends into the headroom / into the end of the buffer, the
  `panic("unsupported slow-path type")`) is in range / unreachable, for every packet whose pointers
  are consistent — which is what `parsePath` (fast path) establishes before anything can reach the
  slow path — every request the fast path can make, every headroom the packet pool can give.
* `computeProcID_guarded` — the model of `udpip.computeProcID` indexes only inside the datagram and
  returns a queue number below the number of queues, for every byte string.
* `stun_guarded` — the model of `stun.Is`/`ParseBindingRequest`/`foreachAttr` (the internal link's
  branch for non-SCION datagrams) slices only inside the datagram, for every byte string.

What is **not** a theorem (and cannot be one in this technique): memory safety / absence of panics of
the *real* Go code (fast path `processPkt`, decoders, `stun`, BFD, the slow path).  That is tied by
T1 only: the engine `scmp` pushes six input streams through the real `Link.receive → computeProcID →
processPkt → slow path` on all link kinds with `recover()`, and re-decodes every forwarded, delivered
or emitted packet with the real decoder and an independent length computation (partial).
-/
namespace Scion.C08
open Scion.Scmp Scion.PathMeta Scion.Util

/-- the full statement over the model, kept visible: the first conjunct (no panic for *all* byte
strings through fast and slow path) is only partially a theorem — see `slow_path_guarded`,
`computeProcID_guarded` for the modelled parts; the fast path is a black box tied by T1. -/
def Statement : Prop :=
  (∀ cfg scope headroom o rq b, WellFormed o b → Consistent b → o.raw.length + headroom ≤ bufSize →
      headroom + maxSCMPPacketLen ≤ bufSize →
      (rq.spType = -1 ∨ rq.spType = -2 ∨ rq.spType = 1 ∨ rq.spType = 4 ∨ rq.spType = 5 ∨ rq.spType = 6) →
      ∀ w, processPacket cfg scope headroom o rq ≠ .panic w) ∧
  (∀ data n seed, 0 < n → computeProcID data n seed ≠ .panic) ∧
  (∀ data, stunParse data ≠ .panic)

/-- Consistency of a packet as a receiver's decoder needs it. -/
def OutputConsistent (r : Reply) : Prop :=
  r.hdrLenField * lineLen = cmnHdrLen + addrHdrLen r.dstType r.srcType + pathLen r.numINF r.numHops ∧
  r.hdrLenField ≤ 255 ∧
  r.payloadLen + r.hdrLenField * lineLen = r.total ∧
  r.payloadLen < 65536 ∧
  r.pm.currHF < r.numHops ∧
  r.pm.currINF = infIdx r.pm r.pm.currHF ∧
  r.numINF = Scion.C19.nonEmptySegs r.pm ∧ r.numHops = sumHops r.pm ∧ Scion.C19.Shape r.pm ∧
  r.off + r.total ≤ bufSize

/-- **Every packet the slow-path model emits is consistent**, given the offending packet's path
pointers were (fast-path guarantee). -/
theorem output_consistent (cfg : Cfg) (scope : Scope) (headroom : Nat) (o : Offender) (rq : Request)
    (b : Base) (hw : WellFormed o b) (hc : Consistent b)
    (r : Reply) (h : processPacket cfg scope headroom o rq = .emit r) : OutputConsistent r := by
  obtain ⟨t, code, e, i, rp, sz, he, rfl⟩ := emit_inv cfg scope headroom o rq r h
  obtain ⟨hl, h1, h2, h3, h4, _, h6⟩ := he.sizes
  obtain ⟨hs, hni, hnh, hcur, hidx⟩ := (he.pathOk b hw hc).consistent
  have hle := he.hdr_le
  have hal := he.aligned
  unfold OutputConsistent
  dsimp only [reply]
  generalize cmnHdrLen + addrHdrLen o.srcType cfg.hostType + pathLen rp.b.numINF rp.b.numHops = L at *
  unfold maxHdrLen at hle
  unfold maxSCMPPacketLen at h4
  unfold lineLen at hal ⊢
  exact ⟨by omega, by omega, by omega, by omega, hcur, hidx, hni, hnh, hs, h6⟩

/-- **Guardedness of the slow path**: no unguarded index or slice of `prepareSCMP` /
`processPacket` is out of range (the model's `panic` outcome is unreachable) for packets with
consistent pointers, requests the fast path makes, and a packet that lies in its buffer behind a
headroom that leaves room for a maximal SCMP message (the pool's headroom is 512). -/
theorem slow_path_guarded (cfg : Cfg) (scope : Scope) (headroom : Nat) (o : Offender) (rq : Request)
    (b : Base) (hw : WellFormed o b) (hc : Consistent b)
    (hbuf : o.raw.length + headroom ≤ bufSize) (hroom : headroom + maxSCMPPacketLen ≤ bufSize)
    (hrq : rq.spType = -1 ∨ rq.spType = -2 ∨ rq.spType = 1 ∨ rq.spType = 4 ∨ rq.spType = 5 ∨ rq.spType = 6) :
    ∀ w, processPacket cfg scope headroom o rq ≠ .panic w := by
  have key : ∀ t code e i w, (t = 1 ∨ t = 4 ∨ t = 5 ∨ t = 6 ∨ t = 131) →
      prepareSCMP cfg scope headroom o rq t code e i ≠ .panic w := by
    intro t code e i w ht hp
    unfold prepareSCMP at hp
    rcases reversePath_ok o b hw hc rfl with ⟨w', hd⟩ | ⟨rp0, peering, hrev, hok⟩
    · rw [hd] at hp; cases hp
    · simp only [hrev] at hp
      rcases externalStep_ok scope rp0 peering hok rfl with ⟨w', hd⟩ | ⟨rp, hext, hok'⟩
      · rw [hd] at hp; cases hp
      · simp only [hext] at hp
        have hlt := consistent_bounds rp.b hok'.consistent
        have hpl := placement_ne_panic cfg headroom o.raw o.srcType cfg.hostType rp.b.numINF rp.b.numHops t
          (needsAuth cfg o t e) e (Nat.le_trans (hdrLen_le _ _ _ _ _ _ hlt.2.2.1 hlt.2.2.2) (by decide))
          (Nat.le_of_eq (actual_eq_predicted _ _ _ _ _ _ ht)) hbuf hroom
        split at hp
        · cases hp
        · rename_i w' hpp; exact hpl w' hpp
        · exact finish_ne_panic _ _ _ _ _ _ _ _ _ _ _ hp
  intro w hp
  rcases processPacket_cases cfg scope headroom o rq hp nofun with ⟨t, code, e, i, hk, he⟩ | ⟨hn, _⟩
  · exact key t code e i w hk.typ he
  · exact hn hrq

/-- **`computeProcID` is total and guarded**: for every byte string it either rejects or returns a
queue number `< n`; no index is out of range (and no division by zero when there is at least one
processor queue). -/
theorem computeProcID_guarded (data : Bytes) (n seed : Nat) (hn : 0 < n) :
    computeProcID data n seed ≠ .panic ∧ ∀ id, computeProcID data n seed = .ok id → id < n := by
  -- the outcome is named, so that every step below works on one copy of the function body
  generalize hr : computeProcID data n seed = r
  unfold computeProcID at hr
  split at hr
  · subst hr; exact ⟨nofun, nofun⟩
  · rename_i hlen
    have hl : 12 ≤ data.length := by unfold cmnHdrLen at hlen; omega
    rw [List.getElem?_eq_getElem (by omega : 4 < data.length),
      List.getElem?_eq_getElem (by omega : 9 < data.length),
      List.getElem?_eq_getElem (by omega : 1 < data.length)] at hr
    dsimp only at hr
    split at hr
    · subst hr; exact ⟨nofun, nofun⟩
    · split at hr
      · subst hr; exact ⟨nofun, nofun⟩
      · rename_i hl2
        rw [if_neg (by rw [List.length_take, List.length_drop, List.length_take, List.length_drop]; omega),
          if_neg (by omega)] at hr
        subst hr
        exact ⟨nofun, fun id h => by cases h; exact Nat.mod_lt _ hn⟩

/-- **The STUN branch of the internal link is guarded**: `stun.Is` / `ParseBindingRequest` /
`foreachAttr` slice only inside the datagram, for every byte string (attribute lengths up to 65535,
padding, truncated attribute headers). -/
theorem stun_guarded (b : Bytes) : stunParse b ≠ .panic := by
  unfold stunParse
  split
  · simp
  · rename_i his
    have hl := stunIs_len b (by simpa using his)
    obtain ⟨ty, hty, _⟩ := slice?_some b 0 2 (by omega)
    rw [hty]
    dsimp only
    split
    · simp
    · obtain ⟨tx, htx, _⟩ := slice?_some b 8 20 (by omega)
      obtain ⟨at', hat, _⟩ := slice?_some b stunHeaderLen b.length (by unfold stunHeaderLen; omega)
      rw [htx, hat]
      dsimp only
      split
      · rename_i hp; exact absurd hp (stunAttrs_no_panic _ _ _)
      · simp
      · split
        · simp
        · obtain ⟨pre, hpre, _⟩ := slice?_some b 0 (b.length - 8) (by omega)
          rw [hpre]; simp

/-- The guards, length computations and slice expressions of `stun.foreachAttr` / `stun.Is` that
`stunAttrs` / `stunIs` transcribe are the ones in the source (regenerated): in particular the bound
check compares the **padded** length with the rest, and the cursor advances by the padded length. -/
theorem stun_source_guards :
    Scion.Gen.Stun.foreachAttr_conds = ["for len(b) > 0", "len(b) < 4", "attrLenWithPad > len(b)", "err != nil"] ∧
    Scion.Gen.Stun.foreachAttr_slices = ["b[:2]", "b[2:4]", "b[4:]", "b[:attrLen]", "b[attrLenWithPad:]"] ∧
    Scion.Gen.Stun.foreachAttr_assigns =
      ["attrLen := int(binary.BigEndian.Uint16(b[2:4]))", "attrLenWithPad := (attrLen + 3) &^ 3"] ∧
    Scion.Gen.Stun.Is_conds =
      ["return len(b) >= headerLen && b[0]&0b11000000 == 0 && string(b[4:8]) == magicCookie"] ∧
    Scion.Gen.Stun.headerLen = stunHeaderLen ∧ Scion.Gen.Stun.attrNumFingerprint = stunFingerprintAttr ∧
    Scion.Gen.Stun.lenFingerprint = 8 :=
  ⟨rfl, rfl, rfl, rfl, rfl, rfl, rfl⟩

/-- Why the padded length matters: the slice `b[attrLenWithPad:]` of the model is out of range as
soon as only the unpadded value fits — a last attribute of length 1 followed by its value byte but
not by its three padding bytes.  (With the guard `attrLen > len(b)` this input would reach it.) -/
example : slice? [0x78] ((1 + 3) / 4 * 4) 1 = none ∧ slice? [0x78] 0 1 = some [0x78] := by decide

/-- and the model refuses that datagram as malformed instead -/
example : stunParse ([0, 1, 0, 5, 0x21, 0x12, 0xa4, 0x42] ++ List.replicate 12 7 ++ [0x80, 0x22, 0, 1, 0x78]) =
    .malformed := by decide

/-- the halves of `Statement` that are about modelled code hold -/
theorem statement_partial : Statement :=
  ⟨fun cfg scope headroom o rq b hw hc hb hr hq => slow_path_guarded cfg scope headroom o rq b hw hc hb hr hq,
   fun data n seed hn => (computeProcID_guarded data n seed hn).1, stun_guarded⟩

/-- the packet pool's headroom (`minHeadroom`, udpip's underlay headroom is 0) satisfies the
hypothesis of `slow_path_guarded`, and the buffer is the one of the source -/
theorem gen_consts :
    bufSize = Scion.Gen.Scmp.bufSize ∧ Scion.Gen.Scmp.minHeadroom + maxSCMPPacketLen ≤ bufSize ∧
    Scion.Gen.Scmp.MaxSCMPHeaderSize ≤ Scion.Gen.Scmp.minHeadroom ∧
    maxSCMPPacketLen = Scion.Gen.Scmp.MaxSCMPPacketLen ∧ cmnHdrLen = Scion.Gen.Scmp.CmnHdrLen :=
  ⟨rfl, by decide, by decide, rfl, rfl⟩

/-! ## non-vacuity -/

def exOffender : Offender :=
  { raw := List.replicate 100 0, pathType := 1, flowID := 5, tc := 0, srcIA := 2, srcType := 0,
    rawSrc := [10, 0, 0, 7], pmWord := 1 * 2^24 + 3 * 2^12,
    infos := [⟨true, false, 9, 1000⟩],
    hops := [List.replicate 12 1, List.replicate 12 2, List.replicate 12 3],
    l4 := .other, trID := 0, trSeq := 0, reqAuthValid := false }

/-- a 3-hop, one-segment packet at hop 1 meets the hypotheses -/
example : WellFormed exOffender ⟨⟨0, 1, 3, 0, 0⟩, 1, 3⟩ ∧ Consistent ⟨⟨0, 1, 3, 0, 0⟩, 1, 3⟩ := by
  exact ⟨⟨by decide, rfl, rfl, by decide⟩,
    by simp [Consistent, Scion.C19.Shape, Scion.C19.nonEmptySegs, sumHops, infIdx]⟩

example : computeProcID [0, 0, 0, 1, 17, 9, 0, 0, 1, 0, 0, 0] 4 99 = .reject := by decide

/-- a binding request whose single attribute announces 65535 bytes is refused, not sliced -/
example : stunParse ([0, 1, 0, 8, 0x21, 0x12, 0xa4, 0x42] ++ List.replicate 12 7 ++ [0x80, 0x28, 0xff, 0xff, 1, 2, 3, 4]) =
    .malformed := by decide

end Scion.C08
