import Scion.Model.Checksum
import Scion.Proofs.BigEndian
/-! Helper lemmas for C20 (one's-complement sum, fold, bit flips). -/
namespace Scion.Checksum
open Scion.Util

theorem fold_le (c : Nat) : fold c ≤ 0xffff := by
  induction c using Nat.strongRecOn with
  | _ c ih =>
    unfold fold
    split
    · assumption
    · exact ih _ (by omega)

theorem fold_mod (c : Nat) : fold c % 65535 = c % 65535 := by
  induction c using Nat.strongRecOn with
  | _ c ih =>
    unfold fold
    split
    · rfl
    · rw [ih _ (by omega)]; omega

theorem fold_eq_zero (c : Nat) : fold c = 0 ↔ c = 0 := by
  induction c using Nat.strongRecOn with
  | _ c ih =>
    unfold fold
    split
    · rfl
    · rw [ih _ (by omega)]; omega

theorem fold_ne_of_diff (S T k : Nat) (hk : k < 16) (h : T = S + 2 ^ k ∨ T + 2 ^ k = S) :
    fold T ≠ fold S := by
  have : 1 ≤ 2 ^ k := Nat.one_le_two_pow
  have : 2 ^ k ≤ 2 ^ 15 := Nat.pow_le_pow_right (by omega) (by omega)
  have a := fold_mod T
  have c := fold_mod S
  intro e
  rw [e] at a
  rcases h with h | h <;> omega

/-- every 16-bit word adds at most `0xffff` -/
theorem sum16_le {l : Bytes} {n : Nat} (h : l.length ≤ 2 * n) : sum16 l ≤ 65535 * n := by
  induction l using sum16.induct generalizing n with
  | case1 => simp [sum16]
  | case2 a => have := a.toNat_lt; simp only [sum16, List.length_cons, List.length_nil] at *; omega
  | case3 a b rest ih =>
    have := a.toNat_lt; have := b.toNat_lt
    simp only [List.length_cons] at h
    have := ih (n := n - 1) (by omega)
    simp only [sum16]
    omega

theorem lenSum_le (n : Nat) : lenSum n ≤ 2 * 65535 := by
  unfold lenSum; omega

theorem sum16_append_even (l1 l2 : Bytes) (h : l1.length % 2 = 0) :
    sum16 (l1 ++ l2) = sum16 l1 + sum16 l2 := by
  induction l1 using sum16.induct with
  | case1 => simp [sum16]
  | case2 a => simp at h
  | case3 a b rest ih =>
    simp only [List.length_cons] at h
    simp only [List.cons_append, sum16]
    rw [ih (by omega)]
    omega

/-- the table of all 256 × 8 cases, evaluated -/
theorem xor_pow_fin : ∀ a : Fin 256, ∀ b : Fin 8,
    ((UInt8.ofNat a.val) ^^^ UInt8.ofNat (2^b.val % 256)).toNat = a.val + 2^b.val ∨
    ((UInt8.ofNat a.val) ^^^ UInt8.ofNat (2^b.val % 256)).toNat + 2^b.val = a.val := by
  decide +kernel

theorem xor_pow_byte (a : UInt8) (b : Nat) (hb : b < 8) :
    (a ^^^ UInt8.ofNat (2^b % 256)).toNat = a.toNat + 2^b ∨
    ((a ^^^ UInt8.ofNat (2^b % 256)).toNat + 2^b = a.toNat) := by
  simpa only [UInt8.ofNat_toNat] using xor_pow_fin ⟨a.toNat, a.toNat_lt⟩ ⟨b, hb⟩

theorem length_flipBit (l : Bytes) (i b : Nat) : (flipBit l i b).length = l.length := by
  induction l generalizing i with
  | nil => simp [flipBit]
  | cons a rest ih => cases i <;> simp [flipBit, ih]

/-- flipping bit `b` of byte `i` moves the word sum by exactly `2^b` (odd offset) or `2^(b+8)`
(even offset), up or down -/
theorem sum16_flipBit (l : Bytes) (i b : Nat) (hi : i < l.length) (hb : b < 8) :
    ∃ k, k < 16 ∧ (sum16 (flipBit l i b) = sum16 l + 2 ^ k ∨ sum16 (flipBit l i b) + 2 ^ k = sum16 l) := by
  have hp : 2 ^ (b + 8) = 2 ^ b * 256 := Nat.pow_add ..
  induction l using sum16.induct generalizing i with
  | case1 => simp at hi
  | case2 a =>
    obtain rfl : i = 0 := by simpa using hi
    have := xor_pow_byte a b hb
    exact ⟨b + 8, by omega, by simp only [flipBit, sum16]; omega⟩
  | case3 a c rest ih =>
    match i with
    | 0 =>
      have := xor_pow_byte a b hb
      exact ⟨b + 8, by omega, by simp only [flipBit, sum16]; omega⟩
    | 1 =>
      have := xor_pow_byte c b hb
      exact ⟨b, by omega, by simp only [flipBit, sum16]; omega⟩
    | j + 2 =>
      obtain ⟨k, hk, h⟩ := ih j (by simpa using hi)
      exact ⟨k, hk, by simp only [flipBit, sum16]; omega⟩

theorem flipBit_append_right (p l : Bytes) (i b : Nat) :
    flipBit (p ++ l) (p.length + i) b = p ++ flipBit l i b := by
  induction p with
  | nil => simp
  | cons a rest ih =>
    simp only [List.cons_append, List.length_cons]
    rw [show rest.length + 1 + i = (rest.length + i) + 1 by omega]
    simp [flipBit, ih]

/-- a checksum word is the big-endian value of its two bytes -/
theorem sum16_natBE2 (n : Nat) : sum16 (natBE 2 n) = n % 65536 :=
  (by simp [natBE, sum16, beNat] : sum16 (natBE 2 n) = beNat (natBE 2 n)).trans (beNat_natBE 2 n)

def getWord : Bytes → Nat → Nat
  | a :: b :: _, 0 => a.toNat * 256 + b.toNat
  | _, 0 => 0
  | [], _ => 0
  | _ :: rest, n+1 => getWord rest n

theorem length_setWord (l : Bytes) (off c : Nat) : (setWord l off c).length = l.length := by
  induction l generalizing off with
  | nil => cases off <;> simp [setWord]
  | cons a rest ih =>
    cases off with
    | zero => cases rest <;> simp [setWord]
    | succ n => simp [setWord, ih]

theorem sum16_setWord (l : Bytes) (off c : Nat) (he : off % 2 = 0) (hl : off + 1 < l.length)
    (hc : c < 65536) : sum16 (setWord l off c) + getWord l off = sum16 l + c := by
  induction l using sum16.induct generalizing off with
  | case1 => simp at hl
  | case2 a => simp at hl
  | case3 a b rest ih =>
    match off with
    | 0 =>
      rw [show setWord (a :: b :: rest) 0 c = natBE 2 c ++ rest by simp [setWord, natBE],
        sum16_append_even _ _ (by rw [length_natBE]), sum16_natBE2, Nat.mod_eq_of_lt hc]
      simp only [sum16, getWord]
      omega
    | 1 => simp at he
    | n + 2 =>
      simp only [List.length_cons] at hl
      have := ih n (by omega) (by omega)
      simp only [setWord, sum16, getWord]
      omega

/-- the 32-bit length enters as its two 16-bit halves -/
theorem sum16_natBE4 (n : Nat) : sum16 (natBE 4 n) = lenSum n := by
  rw [(natBE_add 2 2 n : natBE 4 n = _), sum16_append_even _ _ (by rw [length_natBE]),
    sum16_natBE2, sum16_natBE2, lenSum, show (2:Nat)^32 = 65536 * 65536 from rfl,
    Nat.mod_mul_right_div_self, Nat.mod_mul_right_mod]

theorem pseudoRaw_eq_sum16 (h : PHdr) (length protocol : Nat)
    (hs : h.src.length % 2 = 0) (hd : h.dst.length % 2 = 0) :
    pseudoRaw h length protocol = sum16 (pseudoBytes h length protocol) := by
  unfold pseudoBytes pseudoRaw iaSum
  rw [sum16_append_even, sum16_append_even, sum16_append_even, sum16_append_even,
    sum16_append_even, sum16_natBE4]
  · simp only [sum16, UInt8.toNat_ofNat']
    simp
    omega
  all_goals (simp; try omega)

theorem length_pseudoBytes (h : PHdr) (length protocol : Nat) :
    (pseudoBytes h length protocol).length = 24 + h.dst.length + h.src.length := by
  simp [pseudoBytes]; omega

theorem totalRaw_eq_sum16 (h : PHdr) (length protocol : Nat) (upper : Bytes)
    (hs : h.src.length % 2 = 0) (hd : h.dst.length % 2 = 0) :
    totalRaw h length protocol upper = sum16 (pseudoBytes h length protocol ++ upper) := by
  unfold totalRaw
  rw [sum16_append_even, pseudoRaw_eq_sum16 h length protocol hs hd]
  rw [length_pseudoBytes]; omega

end Scion.Checksum
