import Scion.Model.Net
import Scion.Proofs.NetSpec
import Scion.Proofs.BigEndian
/-!
# C04 — Tampered hop or info fields prevent delivery

Symbolic MAC: the theorems take the explicit hypothesis `MacInj` (the MAC primitive is injective in
its input for the key at hand; 48-bit truncation collisions are outside the model) and prove what
the *code* controls: the MAC input is an injective function of exactly the protected fields
(`macInput_injective`), every router recomputes it over the fields the packet carries
(`routerStep_accepting` in `Scion.Proofs.NetStage`), hence a packet whose current hop/info field was
altered in any protected value is not let through by the router that validates it.
The model `Scion.Net.routerStep` is tied to the real routers by engine `net`, whose C04 run flips
bits of every protected field of real paths and follows the packet through the real routers.
-/
namespace Scion.C04
open Scion.Net

/-- the MAC primitive does not collide under key `k` -/
def MacInj (mac : MacFn) (k : Bytes) : Prop := ∀ a b, mac k a = mac k b → a = b

/-- the values that fit the wire format -/
structure InRange (i : Info) (h : Hop) : Prop where
  seg : i.segID < 65536
  ts : i.ts < 4294967296
  exp : h.exp < 256
  cin : h.cIn < 65536
  ceg : h.cEg < 65536

theorem be16_eq (n : Nat) : be16 n = Scion.Util.natBE 2 n := by simp [be16, Scion.Util.natBE]
theorem be32_eq (n : Nat) : be32 n = Scion.Util.natBE 4 n := by simp [be32, Scion.Util.natBE]

/-- the MAC input determines every protected value (and nothing else enters it) -/
theorem macInput_injective (s1 t1 e1 i1 g1 s2 t2 e2 i2 g2 : Nat)
    (hs1 : s1 < 65536) (hs2 : s2 < 65536) (ht1 : t1 < 4294967296) (ht2 : t2 < 4294967296)
    (he1 : e1 < 256) (he2 : e2 < 256) (hi1 : i1 < 65536) (hi2 : i2 < 65536)
    (hg1 : g1 < 65536) (hg2 : g2 < 65536)
    (h : macInput s1 t1 e1 i1 g1 = macInput s2 t2 e2 i2 g2) :
    s1 = s2 ∧ t1 = t2 ∧ e1 = e2 ∧ i1 = i2 ∧ g1 = g2 := by
  simp only [macInput, be16_eq, be32_eq, List.append_assoc] at h
  obtain ⟨-, h⟩ := List.append_inj h rfl
  obtain ⟨hs, h⟩ := List.append_inj h (by simp)
  obtain ⟨ht, h⟩ := List.append_inj h (by simp)
  obtain ⟨he, h⟩ := List.append_inj h rfl
  obtain ⟨hi, h⟩ := List.append_inj h (by simp)
  obtain ⟨hg, -⟩ := List.append_inj h (by simp)
  simp only [List.cons.injEq, and_true, true_and] at he
  rw [Nat.mod_eq_of_lt he1, Nat.mod_eq_of_lt he2] at he
  exact ⟨Scion.Util.natBE_inj (k := 2) hs1 hs2 hs, Scion.Util.natBE_inj (k := 4) ht1 ht2 ht,
    Scion.Util.ofNat_inj he1 he2 he, Scion.Util.natBE_inj (k := 2) hi1 hi2 hi,
    Scion.Util.natBE_inj (k := 2) hg1 hg2 hg⟩

/-- the protected values of a hop as validated: SegID and timestamp of its info field, its expiry,
    its two interfaces and its MAC -/
def protectedOf (i : Info) (h : Hop) : Nat × Nat × Nat × Nat × Nat × Nat :=
  (i.segID, i.ts, h.exp, h.cIn, h.cEg, h.mac)

/-- the values that enter the MAC computation -/
def inputOf (i : Info) (h : Hop) : Nat × Nat × Nat × Nat × Nat :=
  (i.segID, i.ts, h.exp, h.cIn, h.cEg)

/-- a hop/info pair that verifies no longer verifies after a change of a protected value —
    either one or several of the values entering the MAC with the MAC left alone, or the MAC
    itself with the other values left alone (a change of both at once is a forgery, which the
    model cannot exclude without assumptions about the secrecy of the key) -/
theorem tamper_hop_rejected (mac : MacFn) (k : Bytes) (hinj : MacInj mac k)
    (i i' : Info) (h h' : Hop) (r : InRange i h) (r' : InRange i' h')
    (hok : macOk mac k i h = true) (hne : protectedOf i' h' ≠ protectedOf i h)
    (hone : h'.mac = h.mac ∨ inputOf i' h' = inputOf i h) :
    macOk mac k i' h' = false := by
  simp only [macOk, beq_iff_eq] at hok
  apply Bool.eq_false_iff.2
  intro hok'
  simp only [macOk, beq_iff_eq] at hok'
  rcases hone with hm | hin
  · -- same tag: some input value differs, so the recomputed tag differs
    have heq : mac k (macInput i.segID i.ts h.exp h.cIn h.cEg) =
        mac k (macInput i'.segID i'.ts h'.exp h'.cIn h'.cEg) := by rw [hok, hok', hm]
    have := hinj _ _ heq
    obtain ⟨e1, e2, e3, e4, e5⟩ := macInput_injective _ _ _ _ _ _ _ _ _ _ r.seg r'.seg r.ts r'.ts
      r.exp r'.exp r.cin r'.cin r.ceg r'.ceg this
    apply hne
    simp [protectedOf, e1, e2, e3, e4, e5, hm]
  · -- same input: the tag was changed
    simp only [inputOf, Prod.mk.injEq] at hin
    obtain ⟨e1, e2, e3, e4, e5⟩ := hin
    apply hne
    simp only [protectedOf, e1, e2, e3, e4, e5, Prod.mk.injEq, true_and]
    rw [← hok', ← hok, e1, e2, e3, e4, e5]

/-- **per router**: if the hop field a router is about to validate (or its info field, as it
    stands after the ingress SegID update) carries an altered protected value, the router does not
    let the packet continue: neither forwarded nor delivered.  `c` is the genuine packet as it
    would have arrived, `c'` the tampered one; both are looked at after `updateNonConsDirIngressSegID`. -/
theorem tampered_current_hop_not_forwarded (mac : MacFn) (cfg : RCfg) (hinj : MacInj mac cfg.key)
    (now : Nat) (arr : Arrival) (sl dl : Bool) (c c' : Cursor) (p : Bool)
    (hp' : determinePeer c' = some p)
    (r : InRange (ingUpd c arr p).info (ingUpd c arr p).cur)
    (r' : InRange (ingUpd c' arr p).info (ingUpd c' arr p).cur)
    (hok : macOk mac cfg.key (ingUpd c arr p).info (ingUpd c arr p).cur = true)
    (hne : protectedOf (ingUpd c' arr p).info (ingUpd c' arr p).cur ≠
           protectedOf (ingUpd c arr p).info (ingUpd c arr p).cur)
    (hone : (ingUpd c' arr p).cur.mac = (ingUpd c arr p).cur.mac ∨
            inputOf (ingUpd c' arr p).info (ingUpd c' arr p).cur =
            inputOf (ingUpd c arr p).info (ingUpd c arr p).cur) :
    (routerStep mac cfg now arr sl dl c').accepting = false := by
  apply Bool.eq_false_iff.2
  intro hacc
  obtain ⟨q, hq, hm, _⟩ := routerStep_accepting mac cfg now arr sl dl c' hacc
  rw [hp'] at hq
  cases hq
  have := tamper_hop_rejected mac cfg.key hinj _ _ _ _ r r' hok hne hone
  rw [this] at hm
  cases hm

theorem run_stops (mac : MacFn) (net : Net) (now src dst fuel a r : Nat) (arr : Arrival)
    (c : Cursor) (tr : List (Nat × Nat))
    (h : (routerStep mac ⟨(net a).key, r, (net a).ifaces⟩ now arr (a == src) (a == dst) c).accepting = false) :
    ∃ o, run mac net now src dst (fuel + 1) a r arr c tr = .stopped a r arr o tr :=
  ⟨_, ends_stopped rfl h fuel⟩

theorem send_stops (mac : MacFn) (net : Net) (now src dst : Nat) (c : Cursor)
    (h : (routerStep mac ⟨(net src).key, entryRouter net src c, (net src).ifaces⟩ now .host
      (src == src) (src == dst) c).accepting = false) (a : Nat) (tr : List (Nat × Nat)) (cf : Cursor) :
    send mac net now src dst c ≠ .delivered a tr cf := by
  obtain ⟨o, ho⟩ := run_stops mac net now src dst (2 * (toFlat c).hops.length + 1) src
    (entryRouter net src c) .host c [] h
  rw [send, fuelFor, ho]
  nofun

/-- **C04 at full strength**: on a path as in C02, altering any single protected value of any hop
    or info field prevents delivery (and the packet is stopped no later than at the AS whose hop
    field's MAC input depends on the value). -/
def C04_full : Prop :=
  ∀ (mac : MacFn) (net : Net) (now : Nat) (edges : List Edge) (src dst : Nat) (c c' : Cursor),
    (∀ a, MacInj mac (net a).key) →
    WFNet net → AllUp net → Joinable mac net edges src dst → pathOf edges = some c →
    Unexpired now c →
    -- c' is c with exactly one protected value of one hop or info field changed
    (toFlat c').segLens = (toFlat c).segLens → (toFlat c').currHF = 0 →
    ((toFlat c').infos = (toFlat c).infos ∧
        ∃ k : Nat, (toFlat c').hops[k]? ≠ (toFlat c).hops[k]? ∧
          ∀ j : Nat, j ≠ k → (toFlat c').hops[j]? = (toFlat c).hops[j]?) ∨
      ((toFlat c').hops = (toFlat c).hops ∧
        ∃ k : Nat, (toFlat c').infos[k]? ≠ (toFlat c).infos[k]? ∧
          ∀ j : Nat, j ≠ k → (toFlat c').infos[j]? = (toFlat c).infos[j]?) →
    ∀ a tr cf, send mac net now src dst c' ≠ .delivered a tr cf

/-- **run level, first hop** (`_partial`: the altered value belongs to the first hop field of the
    path or to its info field): a packet that was delivered is no longer delivered — it does not
    even leave the first router, whichever router of the source AS the host hands it to. -/
theorem tamper_first_hop_not_delivered_partial (mac : MacFn) (net : Net) (now src dst : Nat)
    (hinj : MacInj mac (net src).key) (c c' : Cursor)
    (a : Nat) (tr : List (Nat × Nat)) (cf : Cursor)
    (hdel : send mac net now src dst c = .delivered a tr cf)
    (hdp : determinePeer c' = determinePeer c)
    (r : InRange c.info c.cur) (r' : InRange c'.info c'.cur)
    (hne : protectedOf c'.info c'.cur ≠ protectedOf c.info c.cur)
    (hone : c'.cur.mac = c.cur.mac ∨ inputOf c'.info c'.cur = inputOf c.info c.cur) :
    ∀ a' tr' cf', send mac net now src dst c' ≠ .delivered a' tr' cf' := by
  -- the genuine packet passed the first router
  have hacc := Bool.of_not_eq_false fun hb => send_stops mac net now src dst c hb a tr cf hdel
  obtain ⟨p, hp, hm, _⟩ := routerStep_accepting mac _ now .host _ _ c hacc
  -- the tampered one does not; a packet from a host is not touched by the ingress update
  have hrej := tampered_current_hop_not_forwarded mac
    ⟨(net src).key, entryRouter net src c', (net src).ifaces⟩ hinj now .host (src == src) (src == dst)
    c c' p (by rw [hdp]; exact hp)
  rw [ingUpd_internal c .host p rfl] at hm hrej
  rw [ingUpd_internal c' .host p rfl] at hrej
  exact send_stops mac net now src dst c' (hrej r r' hm hne hone)

/-- the ways a single hop field can be altered: one or several of ExpTime / ConsIngress /
    ConsEgress with the MAC left alone, or the MAC with the rest left alone.  In a segment traversed
    against construction direction the first two MAC bytes also enter the SegID under which the hop
    itself is validated, so a change of those two bytes changes tag *and* input at once — a forgery
    as far as a symbolic MAC can tell; there the MAC change is restricted to its last four bytes. -/
def HopTamper (cd : Bool) (h h' : Hop) : Prop :=
  (h'.mac = h.mac ∧ (h'.exp, h'.cIn, h'.cEg) ≠ (h.exp, h.cIn, h.cEg)) ∨
  (h'.mac ≠ h.mac ∧ h'.exp = h.exp ∧ h'.cIn = h.cIn ∧ h'.cEg = h.cEg ∧
    (cd = true ∨ pfx h'.mac = pfx h.mac))

/-- an altered hop field (`HopTamper`) differs from the genuine one in a protected value, in one of
    the two ways `tamper_hop_rejected` covers — each hop taken with the SegID it is validated under -/
theorem hopTamper_protected {cd : Bool} {h h' : Hop} (htam : HopTamper cd h h') (c p : Bool)
    (seg ts : Nat) :
    protectedOf ⟨c, p, usedSeg cd seg h', ts⟩ h' ≠ protectedOf ⟨c, p, usedSeg cd seg h, ts⟩ h ∧
    (h'.mac = h.mac ∨
      inputOf ⟨c, p, usedSeg cd seg h', ts⟩ h' = inputOf ⟨c, p, usedSeg cd seg h, ts⟩ h) := by
  rcases htam with ⟨hm, hne⟩ | ⟨hm, h1, h2, h3, hp⟩
  · refine ⟨fun heq => ?_, Or.inl hm⟩
    simp only [protectedOf, Prod.mk.injEq] at heq
    exact hne (by simp [heq.2.2.1, heq.2.2.2.1, heq.2.2.2.2.1])
  · refine ⟨fun heq => ?_, Or.inr ?_⟩
    · simp only [protectedOf, Prod.mk.injEq] at heq
      exact hm heq.2.2.2.2.2
    · have hus : usedSeg cd seg h' = usedSeg cd seg h := by
        rcases hp with rfl | hp
        · rfl
        · cases cd <;> simp [usedSeg, hp]
      simp [inputOf, hus, h1, h2, h3]

/-- **the altered hop field reaches its AS**: a packet arriving over the ingress interface of the
    hop `ek` (segment traversed in direction `cd`, SegID `seg` on arrival) with the hop field
    altered (`HopTamper`) is stopped by that AS — wherever on the path the hop lies (`before`,
    `done`, `tlh`, `after` arbitrary) -/
theorem tamper_at_arrival_stopped (mac : MacFn) (net : Net) (now src dst : Nat) (cd : Bool) (ts seg : Nat)
    (ek : ASE) (h' : Hop) (before after : List Seg) (done tlh : List Hop)
    (hinj : MacInj mac (net ek.ia).key)
    (hin0 : inF cd ek ≠ 0) (hml : MacAt mac net ts (usedAt cd seg ek) ek)
    (htam : HopTamper cd (hopOf ek.hop) h')
    (hr : InRange ⟨cd, false, usedSeg cd seg (hopOf ek.hop), ts⟩ (hopOf ek.hop))
    (hr' : InRange ⟨cd, false, usedSeg cd seg h', ts⟩ h')
    (fuel : Nat) (tr0 : List (Nat × Nat)) :
    ∃ o, run mac net now src dst (fuel + 1) ek.ia 0 (.ext (inF cd ek))
        ⟨before, ⟨cd, false, seg, ts⟩, done, h', tlh, after⟩ tr0 =
      .stopped ek.ia 0 (.ext (inF cd ek)) o tr0 := by
  obtain ⟨hne, hone⟩ := hopTamper_protected htam cd false seg ts
  have hing : ∀ h : Hop, ingUpd ⟨before, ⟨cd, false, seg, ts⟩, done, h, tlh, after⟩ (.ext (inF cd ek)) false =
      ⟨before, ⟨cd, false, usedSeg cd seg h, ts⟩, done, h, tlh, after⟩ := fun h => by
    rw [ingUpd_ext _ _ false hin0, usedSeg_eq_lastSeg]; rfl
  have hrej := tampered_current_hop_not_forwarded mac (cfgOf net ek.ia) hinj now (.ext (inF cd ek))
    (ek.ia == src) (ek.ia == dst)
    ⟨before, ⟨cd, false, seg, ts⟩, done, hopOf ek.hop, tlh, after⟩
    ⟨before, ⟨cd, false, seg, ts⟩, done, h', tlh, after⟩ false (by simp [determinePeer])
  rw [hing, hing, usedSeg_hopOf] at hrej
  exact run_stops mac net now src dst fuel ek.ia 0 _ _ tr0
    (hrej hr hr' (macOk_of_macAt mac net ts _ ek cd false hml) hne hone)

/-- **run level, any hop of a segment** (`_partial`: single-segment paths — up, core or down, whole
    or shortcut, described by `FL` as every registered edge is (`edge_spec`) — and one border
    router per AS): if the hop field the packet carries for the `(|m1|+1)`-th AS after the source
    is altered (`HopTamper`), the packet travels exactly as the genuine one up to that AS and is
    stopped there — never delivered, and stopped "no later than at the first router that
    validates a hop field whose MAC input depends on the altered value". -/
theorem tamper_hop_stopped_partial (mac : MacFn) (net : Net) (now src dst : Nat) (core cd : Bool)
    (ts : Nat) (hUp : AllUp net) (hSR : SingleRouter net)
    (seg0 : Nat) (e0 : ASE) (m1 : List ASE) (ek : ASE) (h' : Hop) (tlh : List Hop)
    (hinj : MacInj mac (net ek.ia).key)
    (hFL : FL mac net core cd ts seg0 (e0 :: (m1 ++ [ek])))
    (hsrc : src = e0.ia) (hsd : src ≠ dst)
    (hmid : ∀ e ∈ m1, e.ia ≠ src ∧ e.ia ≠ dst ∧ expired now ts e.hop.exp = false)
    (hexp0 : expired now ts e0.hop.exp = false)
    (htam : HopTamper cd (hopOf ek.hop) h')
    (hr : InRange ⟨cd, false, usedSeg cd (Scion.SegID.extractBeta (Scion.SegID.updateSegID seg0 (pfx e0.hop.mac)) (sig m1))
            (hopOf ek.hop), ts⟩ (hopOf ek.hop))
    (hr' : InRange ⟨cd, false, usedSeg cd (Scion.SegID.extractBeta (Scion.SegID.updateSegID seg0 (pfx e0.hop.mac)) (sig m1))
            h', ts⟩ h')
    (fuel : Nat) :
    ∃ o tr, run mac net now src dst (fuel + 2 + m1.length) src 0 .host
        ⟨[], ⟨cd, false, usedAt cd seg0 e0, ts⟩, [], hopOf e0.hop,
          (m1.map fun e => hopOf e.hop) ++ h' :: tlh, []⟩ [] =
      .stopped ek.ia 0 (.ext (inF cd ek)) o tr := by
  obtain ⟨hml, hin0, _⟩ := fl_last mac net core cd ts m1 e0 ek seg0 hFL
  obtain ⟨o, ho⟩ := tamper_at_arrival_stopped mac net now src dst cd ts _ ek h' [] [] _ tlh hinj hin0 hml
    htam hr hr' fuel _
  exact ⟨o, _, Reach.stops (prefix_reach hUp hSR _ _ (Or.inr (by simp)) nofun hFL hsrc hsd hmid hexp0)
    (by omega) ho⟩

/-- **run level, any hop after the first of the SECOND segment** (`_partial`: one border router
    per AS; the first two segments are described by `FL` as every registered edge is; whatever
    follows — the rest of the second segment, a third segment — is arbitrary).  The packet travels
    as the genuine one through the whole first segment, across the segment change and along the
    second segment up to the AS of `ek2`, whose hop field was altered, and is stopped there. -/
theorem tamper_second_segment_hop_stopped_partial (mac : MacFn) (net : Net) (now src dst : Nat)
    (hUp : AllUp net) (hSR : SingleRouter net)
    (core1 cd1 : Bool) (ts1 seg10 : Nat) (e10 : ASE) (mid1 : List ASE) (last1 : ASE)
    (core2 cd2 : Bool) (ts2 seg20 : Nat) (e20 : ASE) (m2 : List ASE) (ek2 : ASE) (h' : Hop)
    (tlh : List Hop) (aft : List Seg) (ha : ∀ s ∈ aft, s.hops.length ≠ 1)
    (hinj : MacInj mac (net ek2.ia).key)
    (hFL1 : FL mac net core1 cd1 ts1 seg10 (e10 :: (mid1 ++ [last1])))
    (hFL2 : FL mac net core2 cd2 ts2 seg20 (e20 :: (m2 ++ [ek2])))
    (hsrc : src = e10.ia) (hsd : src ≠ dst)
    (hmid1 : ∀ e ∈ mid1, e.ia ≠ src ∧ e.ia ≠ dst ∧ expired now ts1 e.hop.exp = false)
    (hexp0 : expired now ts1 e10.hop.exp = false)
    (hjoint : last1.ia = e20.ia) (hls : last1.ia ≠ src) (hld : last1.ia ≠ dst)
    (hexpl : expired now ts1 last1.hop.exp = false) (hexp2 : expired now ts2 e20.hop.exp = false)
    (hxlt : ∀ a b, InLT core1 cd1 a → EgLT core2 cd2 b → ltXover a b = true)
    (hmid2 : ∀ e ∈ m2, e.ia ≠ src ∧ e.ia ≠ dst ∧ expired now ts2 e.hop.exp = false)
    (htam : HopTamper cd2 (hopOf ek2.hop) h')
    (hr : InRange ⟨cd2, false, usedSeg cd2 (Scion.SegID.extractBeta (Scion.SegID.updateSegID seg20 (pfx e20.hop.mac)) (sig m2))
            (hopOf ek2.hop), ts2⟩ (hopOf ek2.hop))
    (hr' : InRange ⟨cd2, false, usedSeg cd2 (Scion.SegID.extractBeta (Scion.SegID.updateSegID seg20 (pfx e20.hop.mac)) (sig m2))
            h', ts2⟩ h')
    (fuel : Nat) :
    ∃ o tr, run mac net now src dst (fuel + 3 + mid1.length + m2.length) src 0 .host
        ⟨[], ⟨cd1, false, usedAt cd1 seg10 e10, ts1⟩, [], hopOf e10.hop,
          (mid1.map fun e => hopOf e.hop) ++ [hopOf last1.hop],
          ⟨⟨cd2, false, usedAt cd2 seg20 e20, ts2⟩,
            hopOf e20.hop :: ((m2.map fun e => hopOf e.hop) ++ h' :: tlh)⟩ :: aft⟩ [] =
      .stopped ek2.ia 0 (.ext (inF cd2 ek2)) o tr := by
  obtain ⟨hml, hin0, _⟩ := fl_last mac net core2 cd2 ts2 m2 e20 ek2 seg20 hFL2
  obtain ⟨o, ho⟩ := tamper_at_arrival_stopped mac net now src dst cd2 ts2 _ ek2 h' _ aft _ tlh hinj hin0 hml
    htam hr hr' fuel _
  exact ⟨o, _, Reach.stops (Reach.trans
    (prefix_reach hUp hSR _ _ (Or.inr (List.forall_mem_cons.2 ⟨by simp, ha⟩)) nofun hFL1 hsrc hsd hmid1 hexp0)
    (cross_reach hUp hSR _ _ nofun ha (by simp) hFL1 hFL2 hjoint hls hld hexpl hexp2 hxlt hmid2))
    (by omega) ho⟩

/-- a router that lets a packet continue across a segment change has validated the first hop
    field of the new segment under the new segment's info field as the packet carries it -/
theorem xover_next_checked (mac : MacFn) (cfg : RCfg) (now : Nat) (arr : Arrival) (sl : Bool) (c : Cursor)
    (hacc : (routerStep mac cfg now arr sl false c).accepting = true)
    (hp : determinePeer c = some false) (hx : (ingUpd c arr false).isXover = true) :
    ∃ c2, (ingUpd c arr false).incPath = some c2 ∧ macOk mac cfg.key c2.info c2.cur = true := by
  cases hstep : routerStep mac cfg now arr sl false c with
  | deliver cf =>
    obtain ⟨_, _, hdl, _⟩ := routerStep_deliver_inv _ _ _ _ _ _ _ _ hstep
    cases hdl
  | forward e c' =>
    obtain ⟨s, x, hs, _, hxo, _⟩ := routerStep_forward_inv _ _ _ _ _ _ _ _ _ hstep
    obtain ⟨hdp, hsc, _, _⟩ := stIngress_ok _ _ _ _ _ _ _ _ hs
    rw [hp] at hdp
    have hsp : s.peering = false := (Option.some.inj hdp).symm
    obtain ⟨_, hxc⟩ := stXover_ok _ _ _ _ _ hxo
    rw [hsc, hsp] at hxc
    rcases hxc with ⟨_, _, hno⟩ | ⟨_, _, hinc, _, hmac⟩
    · rw [hx] at hno; simp at hno
    · exact ⟨x.c, hinc, hmac⟩
  | slow t k e c' => rw [hstep] at hacc; cases hacc
  | alert b e c' => rw [hstep] at hacc; cases hacc
  | drop => rw [hstep] at hacc; cases hacc

/-- `xover_tampered_rejected` for any alteration of the pair (info field of the new segment, its
    first hop field) that `tamper_hop_rejected` covers — in particular a changed SegID or timestamp
    of the new segment's info field with the hop field left alone -/
theorem xover_tampered_rejected_gen (mac : MacFn) (cfg : RCfg) (now i : Nat) (sl : Bool)
    (hinj : MacInj mac cfg.key) (before : List Seg) (info1 : Info) (done : List Hop) (h1 : Hop)
    (i2 i2' : Info) (h2 h2' : Hop) (t2 : List Hop) (aft : List Seg)
    (hpe : info1.peer = false) (hgen : macOk mac cfg.key i2 h2 = true)
    (hr : InRange i2 h2) (hr' : InRange i2' h2')
    (hne : protectedOf i2' h2' ≠ protectedOf i2 h2)
    (hone : h2'.mac = h2.mac ∨ inputOf i2' h2' = inputOf i2 h2) :
    (routerStep mac cfg now (.ext i) sl false
      ⟨before, info1, done, h1, [], ⟨i2', h2' :: t2⟩ :: aft⟩).accepting = false := by
  apply Bool.eq_false_iff.2
  intro hacc
  obtain ⟨sid, hsid⟩ := ingUpd_setSeg ⟨before, info1, done, h1, [], ⟨i2', h2' :: t2⟩ :: aft⟩ (.ext i) false
  obtain ⟨c2, hinc, hmac⟩ := xover_next_checked mac cfg now _ sl _ hacc (by simp [determinePeer, hpe])
    (by rw [hsid]; rfl)
  rw [hsid] at hinc
  have hc2 : c2.info = i2' ∧ c2.cur = h2' := by
    simp only [setSeg, Cursor.incPath, Option.some.injEq] at hinc
    subst hinc; exact ⟨rfl, rfl⟩
  rw [hc2.1, hc2.2] at hmac
  have := tamper_hop_rejected mac cfg.key hinj i2 i2' h2 h2' hr hr' hgen hne hone
  rw [this] at hmac
  cases hmac

/-- the router at a segment change does not let a packet continue whose next segment starts
    with an altered hop field -/
theorem xover_tampered_rejected (mac : MacFn) (cfg : RCfg) (now i : Nat) (sl : Bool)
    (hinj : MacInj mac cfg.key) (before : List Seg) (info1 : Info) (done : List Hop) (h1 : Hop)
    (i2 : Info) (h2 h2' : Hop) (t2 : List Hop) (aft : List Seg)
    (hpe : info1.peer = false) (hgen : macOk mac cfg.key i2 h2 = true)
    (hr : InRange i2 h2) (hr' : InRange i2 h2') (htam : HopTamper true h2 h2') :
    (routerStep mac cfg now (.ext i) sl false
      ⟨before, info1, done, h1, [], ⟨i2, h2' :: t2⟩ :: aft⟩).accepting = false := by
  obtain ⟨hne, hone⟩ := hopTamper_protected htam i2.consDir i2.peer i2.segID i2.ts
  exact xover_tampered_rejected_gen mac cfg now i sl hinj before info1 done h1 i2 i2 h2 h2' t2 aft hpe hgen
    hr hr' hne hone

/-- run level of `xover_tampered_rejected_gen`: the joint AS `a` stops the packet -/
theorem xover_tampered_stopped (mac : MacFn) (net : Net) (now src dst a i : Nat)
    (hinj : MacInj mac (net a).key) (hld : a ≠ dst) (before : List Seg) (info1 : Info)
    (done : List Hop) (h1 : Hop) (i2 i2' : Info) (h2 h2' : Hop) (t2 : List Hop) (aft : List Seg)
    (hpe : info1.peer = false) (hgen : macOk mac (net a).key i2 h2 = true)
    (hr : InRange i2 h2) (hr' : InRange i2' h2')
    (hne : protectedOf i2' h2' ≠ protectedOf i2 h2)
    (hone : h2'.mac = h2.mac ∨ inputOf i2' h2' = inputOf i2 h2) (fuel : Nat) (tr0 : List (Nat × Nat)) :
    ∃ o, run mac net now src dst (fuel + 1) a 0 (.ext i)
        ⟨before, info1, done, h1, [], ⟨i2', h2' :: t2⟩ :: aft⟩ tr0 = .stopped a 0 (.ext i) o tr0 := by
  apply run_stops
  rw [show (a == dst) = false by simp [hld]]
  exact xover_tampered_rejected_gen mac ⟨(net a).key, 0, (net a).ifaces⟩ now i _ hinj before info1 done h1
    i2 i2' h2 h2' t2 aft hpe hgen hr hr' hne hone

/-- **run level, the first hop field of the SECOND segment** (the one validated at the segment
    change, by the last AS of the first segment; `_partial`: one border router per AS).  Its SegID
    is the info field's as the packet carries it, so any change of the hop field is covered
    (`HopTamper true`).  The packet is stopped at the joint AS. -/
theorem tamper_xover_hop_stopped_partial (mac : MacFn) (net : Net) (now src dst : Nat)
    (hUp : AllUp net) (hSR : SingleRouter net)
    (core1 cd1 : Bool) (ts1 seg10 : Nat) (e10 : ASE) (mid1 : List ASE) (last1 : ASE)
    (cd2 : Bool) (ts2 β2 : Nat) (e20 : ASE) (h2' : Hop) (t2 : List Hop) (aft : List Seg)
    (ha : ∀ s ∈ aft, s.hops.length ≠ 1) (ht2 : t2 ≠ [])
    (hinj : MacInj mac (net last1.ia).key)
    (hFL1 : FL mac net core1 cd1 ts1 seg10 (e10 :: (mid1 ++ [last1])))
    (hsrc : src = e10.ia) (hsd : src ≠ dst)
    (hmid1 : ∀ e ∈ mid1, e.ia ≠ src ∧ e.ia ≠ dst ∧ expired now ts1 e.hop.exp = false)
    (hexp0 : expired now ts1 e10.hop.exp = false)
    (hjoint : last1.ia = e20.ia) (hld : last1.ia ≠ dst)
    (hm2 : MacAt mac net ts2 β2 e20)
    (htam : HopTamper true (hopOf e20.hop) h2')
    (hr : InRange ⟨cd2, false, β2, ts2⟩ (hopOf e20.hop)) (hr' : InRange ⟨cd2, false, β2, ts2⟩ h2')
    (fuel : Nat) :
    ∃ o tr, run mac net now src dst (fuel + 2 + mid1.length) src 0 .host
        ⟨[], ⟨cd1, false, usedAt cd1 seg10 e10, ts1⟩, [], hopOf e10.hop,
          (mid1.map fun e => hopOf e.hop) ++ [hopOf last1.hop],
          ⟨⟨cd2, false, β2, ts2⟩, h2' :: t2⟩ :: aft⟩ [] =
      .stopped last1.ia 0 (.ext (inF cd1 last1)) o tr := by
  obtain ⟨hne, hone⟩ := hopTamper_protected htam cd2 false β2 ts2
  obtain ⟨o, ho⟩ := xover_tampered_stopped mac net now src dst last1.ia (inF cd1 last1) hinj hld [] ⟨cd1, false, _, ts1⟩ _ _
    ⟨cd2, false, β2, ts2⟩ ⟨cd2, false, β2, ts2⟩ (hopOf e20.hop) h2' t2 aft rfl
    (by rw [hjoint]; exact macOk_of_macAt mac net ts2 β2 e20 cd2 false hm2) hr hr' hne hone fuel _
  exact ⟨o, _, Reach.stops (prefix_reach hUp hSR _ _ (Or.inr (List.forall_mem_cons.2 ⟨by simpa using ht2, ha⟩)) nofun
    hFL1 hsrc hsd hmid1 hexp0) (by omega) ho⟩

/-- **run level, any hop after the first of the THIRD segment** (`_partial`: one border router per
    AS; the three segments described by `FL`; the rest of the third segment is arbitrary) -/
theorem tamper_third_segment_hop_stopped_partial (mac : MacFn) (net : Net) (now src dst : Nat)
    (hUp : AllUp net) (hSR : SingleRouter net)
    (core1 cd1 : Bool) (ts1 seg10 : Nat) (e10 : ASE) (mid1 : List ASE) (last1 : ASE)
    (core2 cd2 : Bool) (ts2 seg20 : Nat) (e20 : ASE) (mid2 : List ASE) (last2 : ASE)
    (core3 cd3 : Bool) (ts3 seg30 : Nat) (e30 : ASE) (m3 : List ASE) (ek3 : ASE) (h' : Hop)
    (tlh : List Hop) (aft : List Seg) (ha : ∀ s ∈ aft, s.hops.length ≠ 1)
    (hinj : MacInj mac (net ek3.ia).key)
    (hFL1 : FL mac net core1 cd1 ts1 seg10 (e10 :: (mid1 ++ [last1])))
    (hFL2 : FL mac net core2 cd2 ts2 seg20 (e20 :: (mid2 ++ [last2])))
    (hFL3 : FL mac net core3 cd3 ts3 seg30 (e30 :: (m3 ++ [ek3])))
    (hsrc : src = e10.ia) (hsd : src ≠ dst)
    (hmid1 : ∀ e ∈ mid1, e.ia ≠ src ∧ e.ia ≠ dst ∧ expired now ts1 e.hop.exp = false)
    (hexp0 : expired now ts1 e10.hop.exp = false)
    (hjoint1 : last1.ia = e20.ia) (hls1 : last1.ia ≠ src) (hld1 : last1.ia ≠ dst)
    (hexpl1 : expired now ts1 last1.hop.exp = false) (hexp20 : expired now ts2 e20.hop.exp = false)
    (hxlt1 : ∀ a b, InLT core1 cd1 a → EgLT core2 cd2 b → ltXover a b = true)
    (hmid2 : ∀ e ∈ mid2, e.ia ≠ src ∧ e.ia ≠ dst ∧ expired now ts2 e.hop.exp = false)
    (hjoint2 : last2.ia = e30.ia) (hls2 : last2.ia ≠ src) (hld2 : last2.ia ≠ dst)
    (hexpl2 : expired now ts2 last2.hop.exp = false) (hexp30 : expired now ts3 e30.hop.exp = false)
    (hxlt2 : ∀ a b, InLT core2 cd2 a → EgLT core3 cd3 b → ltXover a b = true)
    (hmid3 : ∀ e ∈ m3, e.ia ≠ src ∧ e.ia ≠ dst ∧ expired now ts3 e.hop.exp = false)
    (htam : HopTamper cd3 (hopOf ek3.hop) h')
    (hr : InRange ⟨cd3, false, usedSeg cd3 (Scion.SegID.extractBeta (Scion.SegID.updateSegID seg30 (pfx e30.hop.mac)) (sig m3))
            (hopOf ek3.hop), ts3⟩ (hopOf ek3.hop))
    (hr' : InRange ⟨cd3, false, usedSeg cd3 (Scion.SegID.extractBeta (Scion.SegID.updateSegID seg30 (pfx e30.hop.mac)) (sig m3))
            h', ts3⟩ h')
    (fuel : Nat) :
    ∃ o tr, run mac net now src dst (fuel + 4 + mid1.length + mid2.length + m3.length) src 0 .host
        ⟨[], ⟨cd1, false, usedAt cd1 seg10 e10, ts1⟩, [], hopOf e10.hop,
          (mid1.map fun e => hopOf e.hop) ++ [hopOf last1.hop],
          ⟨⟨cd2, false, usedAt cd2 seg20 e20, ts2⟩,
            hopOf e20.hop :: ((mid2.map fun e => hopOf e.hop) ++ [hopOf last2.hop])⟩ ::
          ⟨⟨cd3, false, usedAt cd3 seg30 e30, ts3⟩,
            hopOf e30.hop :: ((m3.map fun e => hopOf e.hop) ++ h' :: tlh)⟩ :: aft⟩ [] =
      .stopped ek3.ia 0 (.ext (inF cd3 ek3)) o tr := by
  obtain ⟨hml, hin0, _⟩ := fl_last mac net core3 cd3 ts3 m3 e30 ek3 seg30 hFL3
  obtain ⟨o, ho⟩ := tamper_at_arrival_stopped mac net now src dst cd3 ts3 _ ek3 h' _ aft _ tlh hinj hin0 hml
    htam hr hr' fuel _
  exact ⟨o, _, Reach.stops (Reach.trans
    (prefix_reach hUp hSR _ _ (Or.inr (List.forall_mem_cons.2 ⟨by simp, List.forall_mem_cons.2 ⟨by simp, ha⟩⟩)) nofun
      hFL1 hsrc hsd hmid1 hexp0) (Reach.trans
    (cross_reach hUp hSR _ _ nofun (List.forall_mem_cons.2 ⟨by simp, ha⟩) (by simp) hFL1 hFL2 hjoint1 hls1 hld1
      hexpl1 hexp20 hxlt1 hmid2)
    (cross_reach hUp hSR _ _ (by simp) ha (by simp) hFL2 hFL3 hjoint2 hls2 hld2 hexpl2 hexp30 hxlt2 hmid3)))
    (by omega) ho⟩

/-- **run level, the INFO FIELD of the second segment** (SegID or timestamp altered, hop fields
    left alone; `_partial`: one border router per AS): the first hop field of the second segment
    is validated at the segment change under the info field as the packet carries it, so the
    packet is stopped at the joint AS. -/
theorem tamper_second_info_stopped_partial (mac : MacFn) (net : Net) (now src dst : Nat)
    (hUp : AllUp net) (hSR : SingleRouter net)
    (core1 cd1 : Bool) (ts1 seg10 : Nat) (e10 : ASE) (mid1 : List ASE) (last1 : ASE)
    (cd2 : Bool) (ts2 β2 ts2' β2' : Nat) (e20 : ASE) (t2 : List Hop) (aft : List Seg)
    (ha : ∀ s ∈ aft, s.hops.length ≠ 1) (ht2 : t2 ≠ [])
    (hinj : MacInj mac (net last1.ia).key)
    (hFL1 : FL mac net core1 cd1 ts1 seg10 (e10 :: (mid1 ++ [last1])))
    (hsrc : src = e10.ia) (hsd : src ≠ dst)
    (hmid1 : ∀ e ∈ mid1, e.ia ≠ src ∧ e.ia ≠ dst ∧ expired now ts1 e.hop.exp = false)
    (hexp0 : expired now ts1 e10.hop.exp = false)
    (hjoint : last1.ia = e20.ia) (hld : last1.ia ≠ dst)
    (hm2 : MacAt mac net ts2 β2 e20)
    (htam : (β2', ts2') ≠ (β2, ts2))
    (hr : InRange ⟨cd2, false, β2, ts2⟩ (hopOf e20.hop))
    (hr' : InRange ⟨cd2, false, β2', ts2'⟩ (hopOf e20.hop))
    (fuel : Nat) :
    ∃ o tr, run mac net now src dst (fuel + 2 + mid1.length) src 0 .host
        ⟨[], ⟨cd1, false, usedAt cd1 seg10 e10, ts1⟩, [], hopOf e10.hop,
          (mid1.map fun e => hopOf e.hop) ++ [hopOf last1.hop],
          ⟨⟨cd2, false, β2', ts2'⟩, hopOf e20.hop :: t2⟩ :: aft⟩ [] =
      .stopped last1.ia 0 (.ext (inF cd1 last1)) o tr := by
  obtain ⟨o, ho⟩ := xover_tampered_stopped mac net now src dst last1.ia (inF cd1 last1) hinj hld [] ⟨cd1, false, _, ts1⟩ _ _
    ⟨cd2, false, β2, ts2⟩ ⟨cd2, false, β2', ts2'⟩ (hopOf e20.hop) (hopOf e20.hop) t2 aft rfl
    (by rw [hjoint]; exact macOk_of_macAt mac net ts2 β2 e20 cd2 false hm2) hr hr'
    (by
      intro heq
      simp only [protectedOf, Prod.mk.injEq] at heq
      exact htam (by simp [heq.1, heq.2.1]))
    (Or.inl rfl) fuel _
  exact ⟨o, _, Reach.stops (prefix_reach hUp hSR _ _ (Or.inr (List.forall_mem_cons.2 ⟨by simpa using ht2, ha⟩)) nofun
    hFL1 hsrc hsd hmid1 hexp0) (by omega) ho⟩

/-- **run level, the first hop field or the info field of the THIRD segment** (validated at the
    second segment change by the last AS of the second segment; `_partial`: one border router per
    AS).  `i3`/`h3` are the genuine info field and first hop field, `i3'`/`h3'` what the packet
    carries: any alteration covered by `tamper_hop_rejected` (hop field altered as in
    `HopTamper true`, or SegID / timestamp of the info field altered). -/
theorem tamper_third_xover_stopped_partial (mac : MacFn) (net : Net) (now src dst : Nat)
    (hUp : AllUp net) (hSR : SingleRouter net)
    (core1 cd1 : Bool) (ts1 seg10 : Nat) (e10 : ASE) (mid1 : List ASE) (last1 : ASE)
    (core2 cd2 : Bool) (ts2 seg20 : Nat) (e20 : ASE) (mid2 : List ASE) (last2 : ASE)
    (i3 i3' : Info) (e30 : ASE) (h3' : Hop) (t3 : List Hop) (aft : List Seg)
    (ha : ∀ s ∈ aft, s.hops.length ≠ 1) (ht3 : t3 ≠ [])
    (hinj : MacInj mac (net last2.ia).key)
    (hFL1 : FL mac net core1 cd1 ts1 seg10 (e10 :: (mid1 ++ [last1])))
    (hFL2 : FL mac net core2 cd2 ts2 seg20 (e20 :: (mid2 ++ [last2])))
    (hsrc : src = e10.ia) (hsd : src ≠ dst)
    (hmid1 : ∀ e ∈ mid1, e.ia ≠ src ∧ e.ia ≠ dst ∧ expired now ts1 e.hop.exp = false)
    (hexp0 : expired now ts1 e10.hop.exp = false)
    (hjoint1 : last1.ia = e20.ia) (hls1 : last1.ia ≠ src) (hld1 : last1.ia ≠ dst)
    (hexpl1 : expired now ts1 last1.hop.exp = false) (hexp20 : expired now ts2 e20.hop.exp = false)
    (hxlt1 : ∀ a b, InLT core1 cd1 a → EgLT core2 cd2 b → ltXover a b = true)
    (hmid2 : ∀ e ∈ mid2, e.ia ≠ src ∧ e.ia ≠ dst ∧ expired now ts2 e.hop.exp = false)
    (hjoint2 : last2.ia = e30.ia) (hld2 : last2.ia ≠ dst)
    (hgen : macOk mac (net e30.ia).key i3 (hopOf e30.hop) = true)
    (hr : InRange i3 (hopOf e30.hop)) (hr' : InRange i3' h3')
    (hne : protectedOf i3' h3' ≠ protectedOf i3 (hopOf e30.hop))
    (hone : h3'.mac = (hopOf e30.hop).mac ∨ inputOf i3' h3' = inputOf i3 (hopOf e30.hop))
    (fuel : Nat) :
    ∃ o tr, run mac net now src dst (fuel + 3 + mid1.length + mid2.length) src 0 .host
        ⟨[], ⟨cd1, false, usedAt cd1 seg10 e10, ts1⟩, [], hopOf e10.hop,
          (mid1.map fun e => hopOf e.hop) ++ [hopOf last1.hop],
          ⟨⟨cd2, false, usedAt cd2 seg20 e20, ts2⟩,
            hopOf e20.hop :: ((mid2.map fun e => hopOf e.hop) ++ [hopOf last2.hop])⟩ ::
          ⟨i3', h3' :: t3⟩ :: aft⟩ [] =
      .stopped last2.ia 0 (.ext (inF cd2 last2)) o tr := by
  have ha3 : ∀ s ∈ (⟨i3', h3' :: t3⟩ : Seg) :: aft, s.hops.length ≠ 1 :=
    List.forall_mem_cons.2 ⟨by simpa using ht3, ha⟩
  obtain ⟨o, ho⟩ := xover_tampered_stopped mac net now src dst last2.ia (inF cd2 last2) hinj hld2 _ ⟨cd2, false, _, ts2⟩ _ _
    i3 i3' (hopOf e30.hop) h3' t3 aft rfl (by rw [hjoint2]; exact hgen) hr hr' hne hone fuel _
  exact ⟨o, _, Reach.stops (Reach.trans
    (prefix_reach hUp hSR _ _ (Or.inr (List.forall_mem_cons.2 ⟨by simp, ha3⟩)) nofun hFL1 hsrc hsd hmid1 hexp0)
    (cross_reach hUp hSR _ _ nofun ha3 (by simp) hFL1 hFL2 hjoint1 hls1 hld1 hexpl1 hexp20 hxlt1 hmid2))
    (by omega) ho⟩

/-- an injective "MAC": the input itself, read as a number in base 257 with digits 1…256 -/
def encMac : MacFn := fun _ inp => inp.foldr (fun b acc => b.toNat + 1 + 257 * acc) 0

/-- the hypothesis `MacInj` is satisfiable -/
theorem encMac_inj (k : Bytes) : MacInj encMac k := by
  intro a
  induction a with
  | nil =>
    intro b h
    cases b with
    | nil => rfl
    | cons y ys =>
      simp only [encMac, List.foldr] at h
      omega
  | cons x xs ih =>
    intro b h
    cases b with
    | nil =>
      simp only [encMac, List.foldr] at h
      omega
    | cons y ys =>
      -- digits 1…256 in base 257: the last digit and the rest are determined
      have h : x.toNat + 1 + 257 * encMac k xs = y.toNat + 1 + 257 * encMac k ys := h
      have hx := x.toNat_lt
      have hy := y.toNat_lt
      obtain ⟨h1, h2⟩ : x.toNat = y.toNat ∧ encMac k xs = encMac k ys := by omega
      rw [ih ys h2, UInt8.toNat_inj.1 h1]

end Scion.C04
