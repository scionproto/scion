import Scion.Model.LinkDown
import Scion.Gen.R2Bfd
/-! C15 — traffic is not sent over links that BFD declares down.
    Theorems about `Scion.LinkDown.step/run` for every configuration and every history of BFD messages,
    detection timeouts and packets, in any interleaving. -/
namespace Scion.C15
open Scion.LinkDown

/-- `IsUp` of a link: no session, or the session is in state Up. -/
theorem isUp_iff (l : Link) : l.isUp = true ↔ l.session = none ∨ l.session = some .up := by
  unfold Link.isUp
  cases l.session <;> simp

/-! ### one step -/

def Static (s : State) : Nat × List (Nat × Nat) × List (Scope × Nat) :=
  (s.localIA, s.ifaces, s.links.map fun l => (l.scope, l.ifID))

theorem setSession_static (ls : List Link) (i : Nat) (f : St → St) :
    (setSession ls i f).map (fun l => (l.scope, l.ifID)) = ls.map fun l => (l.scope, l.ifID) := by
  apply List.ext_getElem?
  intro j
  simp only [setSession, List.getElem?_map, List.getElem?_modify]
  cases ls[j]? with
  | none => rfl
  | some l => by_cases h : i = j <;> simp [h]

theorem step_links (s : State) (e : Event) :
    (step s e).1 = s ∨ ∃ i f, (step s e).1 = { s with links := setSession s.links i f } := by
  cases e with
  | pkt a b | ohp b => exact Or.inl rfl
  | recv ifID r | timeout ifID =>
    simp only [step]
    cases s.linkIdx ifID with
    | none => exact Or.inl rfl
    | some i => exact Or.inr ⟨_, _, rfl⟩
  | recvDisc ifID r yd =>
    simp only [step]
    cases s.linkIdx ifID with
    | none => exact Or.inl rfl
    | some i =>
      dsimp only
      split
      · exact Or.inr ⟨_, _, rfl⟩
      · exact Or.inl rfl

/-- only packets are forwarded: a BFD event is answered with the session state -/
theorem step_fwd {s : State} {e : Event} {x : Nat} (h : (step s e).2 = .fwd x) :
    (∃ a b, e = .pkt a b) ∨ ∃ b, e = .ohp b := by
  cases e with
  | pkt a b => exact Or.inl ⟨a, b, rfl⟩
  | ohp b => exact Or.inr ⟨b, rfl⟩
  | recv ifID r | timeout ifID => simp only [step] at h; split at h <;> cases h
  | recvDisc ifID r yd =>
    simp only [step] at h
    split at h
    · cases h
    · split at h <;> cases h

theorem step_static (s : State) (e : Event) : Static (step s e).1 = Static s := by
  rcases step_links s e with h | ⟨i, f, h⟩ <;> rw [h]
  simp [Static, setSession_static]

theorem setSession_session (ls : List Link) (i j : Nat) (f : St → St) :
    ((setSession ls i f)[j]?).map (·.session) =
      if i = j then (ls[j]?).map (fun l => l.session.map f) else (ls[j]?).map (·.session) := by
  simp only [setSession, List.getElem?_modify]
  cases ls[j]? with
  | none => simp
  | some l => by_cases h : i = j <;> simp [h]

/-- **BFD messages drive exactly the session of the link they arrive on**: after an accepted message
    with remote state `r` on the link with index `i`, that link's session (if it has one) is
    `recvStep old r`; every other link is unchanged. -/
theorem recv_effect (s : State) (ifID i : Nat) (r : St) (hi : s.linkIdx ifID = some i) (j : Nat) :
    (((step s (.recv ifID r)).1.links)[j]?).map (·.session) =
      if i = j then (s.links[j]?).map (fun l => l.session.map fun st => recvStep st r)
      else (s.links[j]?).map (·.session) := by
  simp only [step, hi]
  exact setSession_session s.links i j _

/-- the same for the detection time elapsing -/
theorem timeout_effect (s : State) (ifID i : Nat) (hi : s.linkIdx ifID = some i) (j : Nat) :
    (((step s (.timeout ifID)).1.links)[j]?).map (·.session) =
      if i = j then (s.links[j]?).map (fun l => l.session.map timerStep)
      else (s.links[j]?).map (·.session) := by
  simp only [step, hi]
  exact setSession_session s.links i j _

/-- **A control message with Your Discriminator 0 and State Init or Up never reaches the session**: no
    state changes, so a Down link cannot be brought Up by a single unsolicited Init/Up packet -/
theorem zero_disc_init_up_discarded (s : State) (ifID : Nat) (r : St) (hr : r = .init ∨ r = .up) :
    (step s (.recvDisc ifID r 0)).1 = s := by
  rcases hr with rfl | rfl <;> simp only [step] <;> cases s.linkIdx ifID <;> rfl

theorem pkt_no_effect (s : State) (a b : Nat) : (step s (.pkt a b)).1 = s := rfl

/-- **Decision for one packet**: a packet that would use interface `egress` is forwarded over it iff the
    link behind it is up; otherwise the answer is SCMP ExternalInterfaceDown {local IA, egress} on an
    external link and SCMP InternalConnectivityDown {local IA, ingress, egress} on a sibling link. -/
theorem pkt_decision (s : State) (ingress egress : Nat) (l : Link) (hl : s.link egress = some l) :
    (step s (.pkt ingress egress)).2 =
      if l.isUp = true then .fwd egress
      else if l.scope = .external then .extDown s.localIA egress
      else .intDown s.localIA ingress egress := by
  simp only [step, egressUp, hl]
  by_cases hu : l.isUp = true
  · simp [hu]
  · by_cases hs : l.scope = .external <;> simp [hu, hs]

/-! ### all histories -/

theorem run_static (s : State) (h : List Event) : ∀ t ∈ run s h, Static t.1 = Static s := by
  induction h generalizing s with
  | nil => intro t ht; cases ht
  | cons e es ih =>
    intro t ht
    simp only [run, List.mem_cons] at ht
    rcases ht with rfl | ht
    · rfl
    · rw [ih _ t ht, step_static]

theorem run_is_step (s : State) (h : List Event) : ∀ t ∈ run s h, t.2.2 = (step t.1 t.2.1).2 := by
  induction h generalizing s with
  | nil => intro t ht; cases ht
  | cons e es ih =>
    intro t ht
    simp only [run, List.mem_cons] at ht
    rcases ht with rfl | ht
    · rfl
    · exact ih _ t ht

/-- **The full statement**: in every history of BFD messages, timeouts and packets, in any interleaving,
    whenever a packet is forwarded over interface `e`, the link behind `e` has, at that moment, either no
    BFD session or a session in state Up. -/
def DownNeverForwarded : Prop :=
  ∀ (s0 : State) (h : List Event), ∀ t ∈ run s0 h, ∀ e, t.2.2 = .fwd e →
    ∃ l, t.1.link e = some l ∧ (l.session = none ∨ l.session = some .up)

def _root_.Scion.LinkDown.Event.isOhp : Event → Bool
  | .ohp _ => true
  | _ => false

/-- **Invariant, proved for SCION- and EPIC-path packets** (`_partial`: one-hop-path packets are excluded —
    `processOHP` forwards them without looking at the link state, see `ohp_forwarded_over_down_link`; this is
    the recorded known finding `C15/ohp-forwarded-over-down-link`). In every history, in any interleaving and
    whatever one-hop packets are interspersed, a SCION/EPIC packet is forwarded over interface `e` only in a
    state where the link behind `e` has no BFD session or its session is Up. -/
theorem down_never_forwarded_partial (s0 : State) (h : List Event) :
    ∀ t ∈ run s0 h, t.2.1.isOhp = false → ∀ e, t.2.2 = .fwd e →
      ∃ l, t.1.link e = some l ∧ (l.session = none ∨ l.session = some .up) := by
  intro t ht hno e hout
  have hs := run_is_step s0 h t ht
  rw [hout] at hs
  rcases step_fwd hs.symm with ⟨a, b, hev⟩ | ⟨b, hev⟩
  · rw [hev] at hs
    cases hl : t.1.link b with
    | none => simp [step, egressUp, hl] at hs
    | some l =>
      rw [pkt_decision t.1 a b l hl] at hs
      by_cases hu : l.isUp = true
      · rw [if_pos hu] at hs
        cases hs
        exact ⟨l, hl, (isUp_iff l).mp hu⟩
      · rw [if_neg hu] at hs
        split at hs <;> cases hs
  · rw [hev] at hno; cases hno

/-- **Negation witness for the full statement**: a one-hop packet is forwarded over an external link
    whose session is Down (the model reproduces `processOHP`; reproduced on the real router by the
    engine, key `C15/ohp-forwarded-over-down-link`). -/
theorem ohp_forwarded_over_down_link : ¬ DownNeverForwarded := by
  intro h
  let s0 : State := { localIA := 5, links := [⟨.internal, 0, none⟩, ⟨.external, 1, some .down⟩],
                      ifaces := [(0, 0), (1, 1)] }
  obtain ⟨l, hl, hu⟩ := h s0 [.ohp 1] (s0, .ohp 1, .fwd 1) (by simp [run, step]) 1 rfl
  have : l = ⟨.external, 1, some .down⟩ := by
    have : s0.link 1 = some ⟨.external, 1, some .down⟩ := by decide
    rw [this] at hl; exact (Option.some.inj hl).symm
  subst this
  rcases hu with hu | hu <;> cases hu

/-- **The right SCMP answer**: in every history, a packet that would use interface `e` while the link
    behind it is not up is answered with ExternalInterfaceDown (external link) naming the local AS (the
    one configured at the start) and `e`, resp. InternalConnectivityDown (sibling link) naming the local
    AS, the ingress interface and `e`. -/
theorem down_answer (s0 : State) (h : List Event) :
    ∀ t ∈ run s0 h, ∀ i e l, t.2.1 = .pkt i e → t.1.link e = some l → l.isUp = false →
      t.2.2 = if l.scope = .external then .extDown s0.localIA e else .intDown s0.localIA i e := by
  intro t ht i e l hev hl hu
  have hia : t.1.localIA = s0.localIA := congrArg Prod.fst (run_static s0 h t ht)
  rw [run_is_step s0 h t ht, hev, pkt_decision t.1 i e l hl, hu, hia]
  rfl

/-- **Forwarding resumes once the session is up** and **links without BFD are always usable**: in every
    history, a packet that would use interface `e` is forwarded over `e` whenever the link has no session
    or its session is Up at that moment. -/
theorem up_forwards (s0 : State) (h : List Event) :
    ∀ t ∈ run s0 h, ∀ i e l, t.2.1 = .pkt i e → t.1.link e = some l →
      (l.session = none ∨ l.session = some .up) → t.2.2 = .fwd e := by
  intro t ht i e l hev hl hu
  rw [run_is_step s0 h t ht, hev, pkt_decision t.1 i e l hl, (isUp_iff l).mpr hu]
  rfl

/-- a link configured without BFD never gets a session, whatever happens -/
theorem no_bfd_stays (s : State) (e : Event) (j : Nat) (l : Link)
    (hl : s.links[j]? = some l) (hn : l.session = none) :
    ∃ l', (step s e).1.links[j]? = some l' ∧ l'.session = none ∧ l'.scope = l.scope := by
  rcases step_links s e with h | ⟨i, f, h⟩ <;> rw [h]
  · exact ⟨l, hl, hn, rfl⟩
  · simp only [setSession, List.getElem?_modify, hl]
    by_cases h' : i = j <;> simp [h', hn]

theorem no_bfd_always (s : State) (h : List Event) (j : Nat) (l : Link)
    (hl : s.links[j]? = some l) (hn : l.session = none) :
    ∃ l', (final s h).links[j]? = some l' ∧ l'.session = none := by
  induction h generalizing s l with
  | nil => exact ⟨l, hl, hn⟩
  | cons e es ih =>
    obtain ⟨l', hl', hn', _⟩ := no_bfd_stays s e j l hl hn
    exact ih (step s e).1 l' hl' hn'

/-- **Bring-up from any state**: whatever state a session is in (including the never-started zero value),
    the peer reporting Down and then Init brings it to Up, so packets flow again. -/
theorem recv_down_init_reaches_up (st : St) : recvStep (recvStep st .down) .init = .up := by
  cases st <;> rfl

/-- a received AdminDown never wedges the session: it is Down afterwards (and can come up again) -/
theorem recv_adminDown_is_down (st : St) : recvStep st .adminDown = .down := by
  cases st <;> rfl

/-- the session only ever becomes Up by a message from the peer, never by a timeout -/
theorem timer_never_up (st : St) (h : timerStep st = .up) : False := by
  cases st <;> simp [timerStep, transition] at h

/-- a detection timeout takes an Up or Init session down -/
theorem timer_takes_down : timerStep .up = .down ∧ timerStep .init = .down ∧ timerStep .down = .down := by
  decide

/-! ### T3: facts regenerated from the source on every run -/

def stNum : St → Nat
  | .adminDown => 0 | .down => 1 | .init => 2 | .up => 3
def stOf : Nat → Option St
  | 0 => some .adminDown | 1 => some .down | 2 => some .init | 3 => some .up | _ => none
def evOfNat : Nat → Option Ev
  | 0 => some .adminDown | 1 => some .down | 2 => some .init | 3 => some .up | 4 => some .timer
  | 5 => some .adminUp | _ => none

def rowOk (row : Nat × Nat × Nat) : Bool :=
  match stOf row.1, evOfNat row.2.1 with
  | some s, some e => stNum (transition s e) == row.2.2
  | _, _ => false

/-- the model's `transition` is the function written in router/bfd/fsm.go: every row of the nested
    switch agrees, and the switch has a row for each of the 4 × 6 (state, event) pairs -/
theorem gen_transition_table :
    Scion.Gen.R2Bfd.transitionRows.all rowOk = true ∧
    (List.range 4).all (fun s => (List.range 6).all fun e =>
      Scion.Gen.R2Bfd.transitionRows.any fun r => r.1 == s && r.2.1 == e) = true := by decide

/-- `IsUp` of the session and of the three link kinds is what the model says: state Up; no session or
    session up; always true for the internal link -/
theorem gen_isUp :
    Scion.Gen.R2Bfd.isUp_Session = ["up := s.getLocalState() == stateUp", "return up"] ∧
    Scion.Gen.R2Bfd.isUp_connectedLink = ["return l.bfdSession == nil || l.bfdSession.IsUp()"] ∧
    Scion.Gen.R2Bfd.isUp_detachedLink = ["return l.bfdSession == nil || l.bfdSession.IsUp()"] ∧
    Scion.Gen.R2Bfd.isUp_internalLink = ["return true"] := ⟨rfl, rfl, rfl, rfl⟩

/-- `validateEgressUp` is the last check of `process()` before the packet is committed to the egress
    link (only `processEgress` follows), it tests `IsUp` of the egress link and chooses the SCMP type by
    the link's scope; the SCMP type numbers are the ones the driver prints -/
theorem gen_egressUp_shape :
    (Scion.Gen.R2Bfd.processCallees.reverse.take 4).reverse =
      ["validateEgressID", "handleEgressRouterAlert", "validateEgressUp", "processEgress"] ∧
    Scion.Gen.R2Bfd.processCallees.count "validateEgressUp" = 1 ∧
    Scion.Gen.R2Bfd.egressUpConds = ["!egressLink.IsUp()", "egressLink.Scope() != External"] ∧
    Scion.Gen.R2Bfd.egressUpTypes = ["SCMPTypeInternalConnectivityDown", "SCMPTypeExternalInterfaceDown"] ∧
    Scion.Gen.R2Bfd.SCMPTypeExternalInterfaceDown = 5 ∧
    Scion.Gen.R2Bfd.SCMPTypeInternalConnectivityDown = 6 := ⟨rfl, by decide, rfl, rfl, rfl, rfl⟩

/-- T3 / processing loop: in `dataPlane.runProcessor` every case of `switch disp` except `pForward` ends the
    loop iteration on EVERY path (each arm of the slow-path `select` included), so a packet that
    `validateEgressUp` put on the slow path never reaches the forwarding code after the switch
    (`fwLink.Send`) - also when the slow-path queue is full -/
theorem gen_runProcessor_only_forward_reaches_send :
    (∀ c ∈ Scion.Gen.R2Bfd.runProcessorCases, c.2 = false → c.1 = "pForward") ∧
    Scion.Gen.R2Bfd.runProcessorCases.lookup "pSlowPath" = some true ∧
    Scion.Gen.R2Bfd.runProcessorCases.lookup "pForward" = some false ∧
    Scion.Gen.R2Bfd.runProcessorAfterSwitch.count "fwLink.Send" = 1 := by decide

/-! Non-vacuity: external link (interface 1) and sibling link (interface 7), both with BFD. -/
def ex0 : State :=
  { localIA := 5, links := [⟨.internal, 0, none⟩, ⟨.external, 1, some .down⟩, ⟨.sibling, 0, some .down⟩],
    ifaces := [(0, 0), (1, 1), (7, 2)] }

example : (run ex0 [.pkt 0 1, .recv 1 .down, .recv 1 .init, .pkt 0 1, .pkt 1 7, .timeout 1, .pkt 2 1, .pkt 1 0]).map (·.2.2) =
    [.extDown 5 1, .bfd (some .init), .bfd (some .up), .fwd 1, .intDown 5 1 7, .bfd (some .down), .extDown 5 1, .fwd 0] := by
  decide

end Scion.C15
