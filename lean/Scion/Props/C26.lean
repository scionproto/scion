import Scion.Proofs.Select
import Scion.Gen.Beacon
/-!
# C26 — Beacon selection returns the shortest beacons plus the most diverse one

Model: `Scion.Model.Select` (`baseAlgo.SelectBeacons`,
`selectMostDiverse`, `Beacon.Diversity`), tied to `control/beacon/selection_algo.go` by
`harness/cmd/bselect` (real `DefaultSelectionAlgorithm().SelectBeacons` on random candidate lists).

All theorems hold for *every* candidate list (ordered by length or not) and every `k`.
-/
namespace Scion.C26
open Scion.Select

/-- `n ≤ k`: all candidates are returned, in their order -/
theorem select_all (k : Int) (bs : List Beacon) (h : (bs.length : Int) ≤ k) :
    select k bs = some bs :=
  if_pos h

/-- The statement's rule for the last element: `x` is chosen from `rest` given the `k-1` first
ones `firsts`, with reference beacon `best` (the first candidate). -/
def IsChoice (best : Beacon) (firsts rest : List Beacon) (x : Beacon) : Prop :=
  ((∃ r ∈ rest, ∀ f ∈ firsts, diversity best r > diversity best f) →
      -- most diverse of the rest; among equally diverse the shortest; among those the first
      ∃ pre post, rest = pre ++ x :: post ∧
        (∀ p ∈ pre, Better best x p) ∧ (∀ q ∈ post, ¬ Better best q x)) ∧
  ((¬ ∃ r ∈ rest, ∀ f ∈ firsts, diversity best r > diversity best f) →
      rest.head? = some x)

/-- what `IsChoice`'s first branch means in the words of the statement -/
theorem choice_is_most_diverse_shortest (best x : Beacon) (pre post : List Beacon)
    (hpre : ∀ p ∈ pre, Better best x p) (hpost : ∀ q ∈ post, ¬ Better best q x) :
    ∀ r ∈ pre ++ x :: post,
      diversity best r ≤ diversity best x ∧ (diversity best r = diversity best x → x.len ≤ r.len) := by
  intro r hr
  rcases List.mem_append.1 hr with hp | hq
  · have := hpre r hp
    unfold Better at this
    omega
  · rcases List.mem_cons.1 hq with rfl | hq
    · omega
    · have := hpost r hq
      unfold Better at this
      omega

theorem IsChoice.mem {best : Beacon} {firsts rest : List Beacon} {x : Beacon}
    (h : IsChoice best firsts rest x) : x ∈ rest := by
  by_cases hc : ∃ r ∈ rest, ∀ f ∈ firsts, diversity best r > diversity best f
  · obtain ⟨pre, post, hs, _, _⟩ := h.1 hc
    rw [hs]; simp
  · exact List.mem_of_mem_head? (h.2 hc)

theorem selectMain_spec (bs : List Beacon) (k1 : Nat) (hk : 1 ≤ k1) (hlt : k1 < bs.length) :
    ∃ b0 x, bs.head? = some b0 ∧ selectMain bs k1 = some (bs.take k1 ++ [x]) ∧
      IsChoice b0 (bs.take k1) (bs.drop k1) x := by
  obtain ⟨r0, t, rfl⟩ := List.exists_cons_of_length_pos (Nat.zero_lt_of_lt hlt)
  obtain ⟨m, rfl⟩ := Nat.exists_eq_add_of_le' hk
  obtain ⟨nx, rest', hdrop⟩ := List.exists_cons_of_length_pos (l := (r0 :: t).drop (m + 1))
    (by rw [List.length_drop]; exact Nat.sub_pos_of_lt hlt)
  obtain ⟨pre1, x1, post1, hs1, he1, hpre1, hpost1⟩ :=
    selectMostDiverse_spec r0 (r0 :: t.take m) (by simp)
  obtain ⟨pre2, x2, post2, hs2, he2, hpre2, hpost2⟩ :=
    selectMostDiverse_spec r0 (nx :: rest') (by simp)
  have hmax1 := choice_is_most_diverse_shortest r0 x1 pre1 post1 hpre1 hpost1
  have hmax2 := choice_is_most_diverse_shortest r0 x2 pre2 post2 hpre2 hpost2
  rw [← hs1] at hmax1
  rw [← hs2] at hmax2
  have hx1 : x1 ∈ r0 :: t.take m := by rw [hs1]; simp
  have hx2 : x2 ∈ nx :: rest' := by rw [hs2]; simp
  unfold selectMain
  simp only [List.take_succ_cons, hdrop, he1, he2]
  by_cases hgt : (diversity r0 x2 : Int) > (diversity r0 x1 : Int)
  · rw [if_pos hgt]
    refine ⟨r0, x2, rfl, rfl, fun _ => ⟨pre2, post2, hs2, hpre2, hpost2⟩, fun hno => ?_⟩
    refine absurd ⟨x2, hx2, fun f hf => ?_⟩ hno
    have := (hmax1 f hf).1
    omega
  · rw [if_neg hgt]
    refine ⟨r0, nx, rfl, rfl, fun ⟨r, hr, hall⟩ => ?_, fun _ => rfl⟩
    have := hall x1 hx1
    have := (hmax2 r hr).1
    omega

theorem select_mid {k : Int} {bs : List Beacon} (h1 : ¬ (bs.length : Int) ≤ k) (h2 : ¬ k ≤ 1) :
    ∃ b0 x, bs.head? = some b0 ∧ select k bs = some (bs.take (k - 1).toNat ++ [x]) ∧
      IsChoice b0 (bs.take (k - 1).toNat) (bs.drop (k - 1).toNat) x := by
  rw [select, if_neg h1, if_neg h2]
  exact selectMain_spec bs _ (by omega) (by omega)

/-- `2 ≤ k < n`: the result is the `k-1` first candidates followed by exactly one further
candidate chosen by the statement's rule. -/
theorem select_shape (k : Nat) (hk : 2 ≤ k) (bs : List Beacon) (hn : k < bs.length) :
    ∃ b0 x, bs.head? = some b0 ∧
      select (k : Int) bs = some (bs.take (k - 1) ++ [x]) ∧
      IsChoice b0 (bs.take (k - 1)) (bs.drop (k - 1)) x := by
  have := select_mid (k := k) (bs := bs) (by omega) (by omega)
  rwa [show ((k : Int) - 1).toNat = k - 1 by omega] at this

/-- the selection never panics (for `k = 1 < n` this is the repair 8fabcd5; the revert makes the
model return `none` there and this theorem fails) -/
theorem select_total (k : Int) (bs : List Beacon) : ∃ r, select k bs = some r := by
  by_cases h1 : (bs.length : Int) ≤ k
  · exact ⟨_, select_all k bs h1⟩
  by_cases h2 : k ≤ 1
  · exact ⟨_, by rw [select, if_neg h1, if_pos h2]⟩
  · obtain ⟨_, x, _, h, _⟩ := select_mid h1 h2
    exact ⟨_, h⟩

/-- `k = 1 < n`: exactly the first candidate (DESIGN §7a: only "one candidate from the list,
no panic" is demanded of the code) -/
theorem select_one (bs : List Beacon) (hn : 1 < bs.length) :
    select 1 bs = some (bs.take 1) := by
  unfold select
  have h1 : ¬ ((bs.length : Int) ≤ 1) := by omega
  rw [if_neg h1]
  rfl

/-- every result is a sub-list of the candidates (hence `result ⊆ bs`, order preserved, no
candidate invented or duplicated) -/
theorem select_sublist (k : Int) (bs r : List Beacon) (h : select k bs = some r) :
    r.Sublist bs := by
  by_cases h1 : (bs.length : Int) ≤ k
  · rw [select_all k bs h1] at h; cases h; exact List.Sublist.refl _
  by_cases h2 : k ≤ 1
  · rw [select, if_neg h1, if_pos h2] at h; cases h; exact List.take_sublist _ _
  · obtain ⟨b0, x, _, hsel, hch⟩ := select_mid h1 h2
    rw [hsel] at h
    cases h
    have := (List.Sublist.refl (bs.take (k - 1).toNat)).append (List.singleton_sublist.2 hch.mem)
    rwa [List.take_append_drop] at this

/-- exactly `min k n` candidates are returned (`0` for `k ≤ 0`) -/
theorem select_length (k : Int) (bs r : List Beacon) (h : select k bs = some r) :
    (r.length : Int) = min (max k 0) bs.length := by
  by_cases h1 : (bs.length : Int) ≤ k
  · rw [select_all k bs h1] at h; cases h; omega
  by_cases h2 : k ≤ 1
  · rw [select, if_neg h1, if_pos h2] at h
    cases h
    rw [List.length_take]
    omega
  · obtain ⟨_, x, _, hsel, _⟩ := select_mid h1 h2
    rw [hsel] at h
    cases h
    rw [List.length_append, List.length_take, List.length_singleton]
    omega

/-- regenerated facts: with the default policy (`BestSetSize` 20 of up to `CandidateSetSize` 100
candidates) the selection runs in the `2 ≤ k` regime of `select_shape`, and the initial `minLen`
of `selectMostDiverse` is `math.MaxUint16` -/
theorem gen_consts :
    2 ≤ Scion.Gen.Beacon.DefaultBestSetSize ∧
    Scion.Gen.Beacon.DefaultBestSetSize ≤ Scion.Gen.Beacon.DefaultCandidateSetSize ∧
    maxUint16 = 2 ^ 16 - 1 := by decide

/-! ### non-vacuity -/

/-- three candidates, `k = 2`: the third shares no link with the first, the second shares one —
the most diverse one (id 3) is chosen instead of the shorter second. -/
example : select 2 [⟨1, [(1, 1), (2, 1)]⟩, ⟨2, [(1, 1), (3, 2)]⟩, ⟨3, [(4, 1), (5, 2), (6, 1)]⟩]
    = some [⟨1, [(1, 1), (2, 1)]⟩, ⟨3, [(4, 1), (5, 2), (6, 1)]⟩] := by decide

/-- equal diversity everywhere: fall back to the first remaining candidate -/
example : select 2 [⟨1, [(1, 1)]⟩, ⟨2, [(1, 1), (3, 2)]⟩, ⟨3, [(1, 1), (5, 2), (6, 1)]⟩]
    = some [⟨1, [(1, 1)]⟩, ⟨2, [(1, 1), (3, 2)]⟩] := by decide

example : ∃ bs : List Beacon, 2 < bs.length ∧
    (∃ r ∈ bs.drop 1, ∀ f ∈ bs.take 1, diversity ⟨1, [(1, 1), (2, 1)]⟩ r > diversity ⟨1, [(1, 1), (2, 1)]⟩ f) :=
  ⟨[⟨1, [(1, 1), (2, 1)]⟩, ⟨2, [(1, 1), (3, 2)]⟩, ⟨3, [(4, 1), (5, 2), (6, 1)]⟩], by decide, by decide⟩

end Scion.C26
