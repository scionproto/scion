import Scion.Proofs.NetEdge
/-! Peering paths: the peering hops, the run along a peering path, from chains and edges to runs; C02 and C03 for them. -/
namespace Scion.Net
open Scion.SegID (updateSegID extractBeta xorAll calculateBeta)

/-! ### Peering hops: the SegID is left alone, the pointers move across the peering link -/

theorem ltSame_peer_child (a b : LinkType) (ha : a = LinkType.peer) (hb : EgLT false true b) :
    ltSame a b = true := by
  rw [ha, (EgLT_iff _ _ b).1 hb]; rfl

theorem ltSame_child_peer (a b : LinkType) (ha : InLT false false a) (hb : b = LinkType.peer) :
    ltSame a b = true := by
  rw [hb, (InLT_iff _ _ a).1 ha]; rfl

theorem macOk_of_peerOK {mac : MacFn} {net : Net} {ts seg : Nat} {x : ASE} {p : PeerE} (cd : Bool)
    (h : PeerOK mac net ts seg x p) : macOk mac (net x.ia).key ⟨cd, true, seg, ts⟩ (hopOf p.hop) = true := by
  obtain ⟨_, _, _, _, _, _, hm⟩ := h
  simpa [macOk, hopOf] using hm.symm

section
variable {mac : MacFn} {net : Net} {now src dst : Nat}
variable (hWF : WFNet net) (hUp : AllUp net) (hSR : SingleRouter net)
include hWF hUp hSR

/-- the peering link of the peer entry `p` of `x` crossed: the packet `c'` the router of `x` sends out over it
    arrives at the peering AS of the other segment -/
theorem reach_peer_link {ts β' : Nat} {x : ASE} {p : PeerE} {arr : Arrival} {c c' : Cursor} {tr : List (Nat × Nat)}
    (hok : PeerOK mac net ts β' x p)
    (hstep : ∀ f, (net x.ia).iface p.hop.cIn = some f → p.hop.cIn ≠ 0 → f.up = true → f.owner = 0 →
      f.lt = LinkType.peer →
      routerStep mac (cfgOf net x.ia) now arr (x.ia == src) (x.ia == dst) c = .forward p.hop.cIn c') :
    Reach mac net now src dst 1 ⟨x.ia, 0, arr, c, tr⟩
      ⟨p.peerAS, 0, .ext p.peerIf, c', tr ++ [(x.ia, p.hop.cIn), (p.peerAS, p.peerIf)]⟩ := by
  obtain ⟨f, hf, hlt, hpas, hpif, _, _⟩ := hok
  obtain ⟨h0, _, g, hg, _, _, _⟩ := hWF _ _ _ hf
  have := reach_ext (tr := tr) (hstep f hf h0 (hUp _ _ _ hf) (hSR _ _ _ hf) hlt) hf (hSR _ _ _ hf) hg
  rwa [hSR _ _ _ hg, ← hpas, ← hpif] at this

/-- the peering AS of the up segment, packet from a neighbour: sent over the peering link, pointers
    moved to the down segment, SegID left alone -/
theorem peer_out_hop {ts seg : Nat} {x : ASE} {pU : PeerE} {done : List Hop} (i1 : Info) (h1 : Hop)
    (t1 : List Hop) {gi : Iface} {tr : List (Nat × Nat)}
    (hok : PeerOK mac net ts seg x pU) (hin0 : x.hop.cEg ≠ 0)
    (hgi : (net x.ia).iface x.hop.cEg = some gi) (hgilt : InLT false false gi.lt)
    (hxs : x.ia ≠ src) (hxd : x.ia ≠ dst) (hexpp : expired now ts pU.hop.exp = false) :
    Reach mac net now src dst 1
      ⟨x.ia, 0, .ext x.hop.cEg, ⟨[], ⟨false, true, seg, ts⟩, done, hopOf pU.hop, [], [⟨i1, h1 :: t1⟩]⟩, tr⟩
      ⟨pU.peerAS, 0, .ext pU.peerIf, ⟨[⟨⟨false, true, seg, ts⟩, done ++ [hopOf pU.hop]⟩], i1, [], h1, t1, []⟩,
        tr ++ [(x.ia, pU.hop.cIn), (pU.peerAS, pU.peerIf)]⟩ := by
  have hpeg := hok.choose_spec.2.2.2.2.1
  refine reach_peer_link hWF hUp hSR hok fun f hf h0 hup hown hlt => ?_
  rw [beq_false_of_ne hxs, beq_false_of_ne hxd]
  have hing := ingUpd_ext ⟨[], ⟨false, true, seg, ts⟩, done, hopOf pU.hop, [], [⟨i1, h1 :: t1⟩]⟩ x.hop.cEg true hin0
  exact routerStep_ext_forward mac (cfgOf net x.ia) now _ _ true gi f _ rfl rfl hin0 hpeg.symm rfl rfl hexpp
    (by rw [hing]; exact macOk_of_peerOK false hok) rfl rfl hgi hf h0 hup hown
    (ltSame_child_peer _ _ hgilt hlt) (by rw [hing, egUpd_peer]; rfl)

/-- the same when the source AS itself is the peering AS: the packet comes from a host -/
theorem peer_out_host_hop {ts seg : Nat} {x : ASE} {pU : PeerE} (i1 : Info) (h1 : Hop) (t1 : List Hop)
    (hok : PeerOK mac net ts seg x pU) (hsrc : src = x.ia) (hsd : src ≠ dst)
    (hexpp : expired now ts pU.hop.exp = false) :
    Reach mac net now src dst 1
      ⟨src, 0, .host, ⟨[], ⟨false, true, seg, ts⟩, [], hopOf pU.hop, [], [⟨i1, h1 :: t1⟩]⟩, []⟩
      ⟨pU.peerAS, 0, .ext pU.peerIf, ⟨[⟨⟨false, true, seg, ts⟩, [hopOf pU.hop]⟩], i1, [], h1, t1, []⟩,
        [(x.ia, pU.hop.cIn), (pU.peerAS, pU.peerIf)]⟩ := by
  subst hsrc
  refine reach_peer_link hWF hUp hSR hok fun f hf h0 hup hown _ => ?_
  rw [beq_self_eq_true, beq_false_of_ne hsd]
  exact routerStep_host_forward mac (cfgOf net x.ia) now _ true f _ rfl rfl rfl rfl hexpp
    (macOk_of_peerOK false hok) rfl hf h0 hup hown (by rw [egUpd_peer]; rfl)

/-- the peering AS of the down segment: the packet arrives over the peering link and is sent on along the
    segment, SegID left alone -/
theorem peer_in_hop {ts seg : Nat} {xD e1 : ASE} {pD : PeerE} (s0 : Seg) {l : List Hop} (t0 : Hop) (tl : List Hop)
    {tr : List (Nat × Nat)}
    (hok : PeerOK mac net ts seg xD pD) (hl : LinkF net false true xD e1)
    (hxs : xD.ia ≠ src) (hxd : xD.ia ≠ dst) (hexpp : expired now ts pD.hop.exp = false) :
    Reach mac net now src dst 1
      ⟨xD.ia, 0, .ext pD.hop.cIn, ⟨[s0], ⟨true, true, seg, ts⟩, [], hopOf pD.hop, l ++ t0 :: tl, []⟩, tr⟩
      ⟨e1.ia, 0, .ext (inF true e1), mkCur [s0] ⟨true, true, seg, ts⟩ [hopOf pD.hop] (l ++ t0 :: tl) [],
        tr ++ [(xD.ia, outF true xD), (e1.ia, inF true e1)]⟩ := by
  have hmac := macOk_of_peerOK true hok
  obtain ⟨fp, hfp, hfplt, _, _, hpeg, _⟩ := hok
  have hout : (hopOf pD.hop).cEg = outF true xD := hpeg
  refine reach_link hUp hSR hl fun f hf ho0 hup hown hEg => ?_
  rw [beq_false_of_ne hxs, beq_false_of_ne hxd, ← hout] at *
  have hi0 := (hWF _ _ _ hfp).1
  have hing := ingUpd_ext ⟨[s0], ⟨true, true, seg, ts⟩, [], hopOf pD.hop, l ++ t0 :: tl, []⟩ pD.hop.cIn true hi0
  exact routerStep_ext_forward mac (cfgOf net xD.ia) now _ _ true fp f _ rfl rfl hi0 rfl
    (by show ((l ++ t0 :: tl).isEmpty && true) = false; rw [isEmpty_false (by simp)]; rfl) (Bool.and_false _) hexpp
    (by rw [hing]; exact hmac) rfl rfl hfp hf ho0 hup hown
    (ltSame_peer_child _ _ hfplt hEg)
    (by rw [hing, egUpd_peer]; exact incPath_mkCur [s0] _ [] _ _ [] (by simp))

omit hUp hSR in
/-- the peering AS of the down segment is also the destination AS -/
theorem peer_in_ends {ts seg : Nat} {xD : ASE} {pD : PeerE} (s0 : Seg) {tr : List (Nat × Nat)}
    (hok : PeerOK mac net ts seg xD pD) (hdst : dst = xD.ia) (hsd : src ≠ dst)
    (hexpp : expired now ts pD.hop.exp = false) :
    Ends mac net now src dst 1
      ⟨xD.ia, 0, .ext pD.hop.cIn, ⟨[s0], ⟨true, true, seg, ts⟩, [], hopOf pD.hop, [], []⟩, tr⟩
      (.delivered dst tr ⟨[s0], ⟨true, true, seg, ts⟩, [], hopOf pD.hop, [], []⟩) := by
  subst hdst
  have hmac := macOk_of_peerOK true hok
  obtain ⟨fp, hfp, _⟩ := hok
  have hi0 := (hWF _ _ _ hfp).1
  have hing := ingUpd_ext ⟨[s0], ⟨true, true, seg, ts⟩, [], hopOf pD.hop, [], []⟩ pD.hop.cIn true hi0
  have := routerStep_ext_deliver mac (cfgOf net xD.ia) now pD.hop.cIn
    ⟨[s0], ⟨true, true, seg, ts⟩, [], hopOf pD.hop, [], []⟩ true rfl rfl hi0 rfl rfl hexpp
    (by rw [hing]; exact hmac) rfl
  rw [hing] at this
  exact ends_deliver (by rw [beq_false_of_ne (Ne.symm hsd), beq_self_eq_true]; exact this)

end

section
variable (mac : MacFn) (net : Net) (now src dst : Nat) (ts : Nat)
variable (hWF : WFNet net) (hUp : AllUp net) (hSR : SingleRouter net)
include hWF hUp hSR

/-- **up segment of a peering path, at least two ASes**: from a host of the AS of `top` to the
    arrival, over the peering link, at the peering AS of the down segment -/
theorem peer_up_multi_run (bU : Nat) (top : ASE) (r : List ASE) (x : ASE) (pU : PeerE)
    (hpU : pU ∈ x.peers)
    (hFL : FL mac net false false ts bU (top :: (r ++ [x])))
    (hsrc : src = top.ia) (hsd : src ≠ dst) (hxs : x.ia ≠ src) (hxd : x.ia ≠ dst)
    (hmid : ∀ e ∈ r, e.ia ≠ src ∧ e.ia ≠ dst ∧ expired now ts e.hop.exp = false)
    (hexpt : expired now ts top.hop.exp = false) (hexpp : expired now ts pU.hop.exp = false)
    (i1 : Info) (h1 : Hop) (t1 : List Hop) :
    Reach mac net now src dst (1 + r.length + 1)
      ⟨src, 0, .host, ⟨[], ⟨false, true, updateSegID bU (pfx top.hop.mac), ts⟩, [], hopOf top.hop,
        (r.map fun e => hopOf e.hop) ++ [hopOf pU.hop], [⟨i1, h1 :: t1⟩]⟩, []⟩
      ⟨pU.peerAS, 0, .ext pU.peerIf,
        ⟨[⟨⟨false, true, extractBeta (updateSegID bU (pfx top.hop.mac)) (sig r), ts⟩,
          (hopOf top.hop :: r.map fun e => hopOf e.hop) ++ [hopOf pU.hop]⟩], i1, [], h1, t1, []⟩,
        (top.ia, top.hop.cIn) :: ((firstOf r x).ia, (firstOf r x).hop.cEg) :: fTrace false r x ++
          [(x.ia, pU.hop.cIn), (pU.peerAS, pU.peerIf)]⟩ := by
  have hpre := prefix_reach (pr := true) hUp hSR (hopOf pU.hop) [] (after := [⟨i1, h1 :: t1⟩]) (Or.inl rfl)
    (fun _ => rfl) hFL hsrc hsd hmid hexpt
  obtain ⟨hml, hin0, gi, hgi, hgilt⟩ := fl_last mac net false false ts r top x bU hFL
  have hok := hml.2 pU hpU
  -- the peer entry is validated under the SegID the packet carries: the ingress update is undone
  have hcancel : ∀ A σ : Nat, updateSegID (updateSegID A σ) σ = A := by
    intro A σ; simp only [updateSegID]; exact Scion.SegID.xor_cancel A σ
  simp only [usedAt, Bool.false_eq_true, if_false, hcancel] at hok
  simpa [usedAt, outF, inF, hsrc] using
    hpre.trans (peer_out_hop hWF hUp hSR i1 h1 t1 hok hin0 hgi hgilt hxs hxd hexpp)

end

/-! ## From chains and edges to runs -/

/-- metadata interfaces of the entries from `x` on -/
theorem consIfaces_chain (mac : MacFn) (net : Net) (core : Bool) (ts : Nat) (rest : List ASE) :
    ∀ (x : ASE) (β : Nat), Chain mac net core ts β (x :: rest) → (rest.getLastD x).hop.cEg = 0 →
      (if x.hop.cEg ≠ 0 then [(x.ia, x.hop.cEg)] else []) ++
        (rest.map fun y => [(y.ia, y.hop.cIn)] ++ (if y.hop.cEg ≠ 0 then [(y.ia, y.hop.cEg)] else [])).flatten
      = linkTrace true (x :: rest) := by
  induction rest with
  | nil => intro x β _ h0; simp at h0; simp [linkTrace, h0]
  | cons y r ih =>
    intro x β hc h0
    simp only [Chain] at hc
    obtain ⟨_, ⟨f, _, _, _, _, hx0⟩, hrest⟩ := hc
    have := ih y _ hrest (by rw [List.getLastD_cons] at h0; exact h0)
    simp only [List.map_cons, List.flatten_cons, linkTrace, outF, inF, hx0, ne_eq, not_false_eq_true, if_true]
    rw [← this]
    simp

/-- the used part of a peering edge: the entries from `x`, the entry at the shortcut, on -/
theorem peer_edge_common (mac : MacFn) (net : Net) (e : Edge) (x : ASE)
    (hx : e.seg.entries[e.shortcut]? = some x) (hval : e.Valid mac net) :
    ∃ pre rest, e.seg.entries = pre ++ x :: rest ∧ pre.length = e.shortcut ∧
      Chain mac net e.core e.seg.ts (extractBeta e.seg.s0 (sig pre)) (x :: rest) ∧
      (rest.getLastD x).hop.cEg = 0 := by
  obtain ⟨hreg, hlt, _, _, _⟩ := hval
  obtain ⟨pre, x', rest, hent, hpl⟩ := edge_split_at e hlt
  have hxx : x = x' := by
    rw [hent, ← hpl] at hx
    simp at hx; exact hx.symm
  subst hxx
  obtain ⟨hchain, _, ⟨last', hlast', hlast0⟩, _⟩ := registered_chain mac net e.core e.seg hreg
  rw [hent] at hchain hlast'
  refine ⟨pre, rest, hent, hpl, chain_drop mac net e.core e.seg.ts e.seg.s0 pre _ hchain, ?_⟩
  rw [List.getLast?_append, getLast?_cons_getLastD, Option.some_or] at hlast'
  cases hlast'; exact hlast0

/-- SegID path combination gives an up segment that ends in a peering hop -/
def upStart (β : Nat) (x : ASE) (rest : List ASE) : Nat :=
  match rest with
  | [] => updateSegID β (pfx x.hop.mac)
  | _ :: _ => extractBeta β (sig ((x :: rest).dropLast))

theorem upStart_snoc (β : Nat) (x : ASE) (mid : List ASE) (last : ASE) :
    upStart β x (mid ++ [last]) = extractBeta β (sig (x :: mid)) := by
  have h : x :: (mid ++ [last]) = (x :: mid) ++ [last] := by simp
  cases mid with
  | nil => simp [upStart, sig, extractBeta]
  | cons y ys =>
    simp only [upStart, List.cons_append]
    rw [show x :: y :: (ys ++ [last]) = (x :: y :: ys) ++ [last] by simp, List.dropLast_concat]

section
variable (mac : MacFn) (net : Net) (now src dst : Nat) (ts : Nat)
variable (hWF : WFNet net) (hUp : AllUp net) (hSR : SingleRouter net)
include hWF hUp hSR

/-- the down segment of a peering path, any length: from the arrival over the peering link at the
    AS of `xD` to the delivery in the last AS -/
theorem peer_down_run (β : Nat) (xD : ASE) (rest : List ASE) (pD : PeerE) (hpD : pD ∈ xD.peers)
    (hc : Chain mac net false ts β (xD :: rest))
    (hdst : dst = (rest.getLastD xD).ia) (hsd : src ≠ dst)
    (hns : ∀ e ∈ xD :: rest, e.ia ≠ src) (hnd : ((xD :: rest).map (·.ia)).Nodup)
    (hexp : ∀ e ∈ rest, expired now ts e.hop.exp = false) (hexpp : expired now ts pD.hop.exp = false)
    (s0 : Seg) (tr0 : List (Nat × Nat)) :
    ∃ cf, Ends mac net now src dst (1 + rest.length)
        ⟨xD.ia, 0, .ext pD.hop.cIn, ⟨[s0], ⟨true, true, updateSegID β (pfx xD.hop.mac), ts⟩, [], hopOf pD.hop,
          rest.map (fun e => hopOf e.hop), []⟩, tr0⟩
        (.delivered dst (tr0 ++ linkTrace true (xD :: rest)) cf) ∧
      reverseCursor cf = mkCur [] ⟨false, true, upStart β xD rest, ts⟩ []
        (rest.reverse.map (fun e => hopOf e.hop) ++ [hopOf pD.hop]) [revSeg s0] := by
  cases rest with
  | nil =>
    simp only [Chain] at hc
    exact ⟨_, by simpa [linkTrace] using peer_in_ends hWF s0 (tr := tr0) (hc.2 pD hpD) hdst hsd hexpp,
      by simp [reverseCursor, mkCur, upStart, flipInfo]⟩
  | cons y r =>
    obtain ⟨mid, last, hml⟩ := exists_snoc y r
    rw [hml] at hc hdst hns hnd hexp ⊢
    rw [List.getLastD_concat] at hdst
    have hFL := chain_FL mac net false ts hWF _ _ hc
    obtain ⟨hxl, hmidn⟩ := nd_facts xD mid last hnd
    have hxd : xD.ia ≠ dst := by rw [hdst]; exact hxl
    refine ⟨⟨[s0], ⟨true, true, extractBeta (updateSegID β (pfx xD.hop.mac)) (sig mid), ts⟩,
      hopOf pD.hop :: mid.map (fun e => hopOf e.hop), hopOf last.hop, [], []⟩, ?_,
      by rw [upStart_snoc]; simp [reverseCursor, mkCur, flipInfo, List.map_reverse, sig, extractBeta]⟩
    obtain ⟨hm, hl⟩ := fl_head _ _ _ _ _ _ _ _ _ hFL
    have := (peer_in_hop hWF hUp hSR s0 (hopOf last.hop) [] (tr := tr0) (hm.2 pD hpD) hl (hns xD (by simp)) hxd
      hexpp).ends
      (fl_tail_ends hUp hSR true hFL
        (fun e he => ⟨hns e (by simp [he]), by rw [hdst]; exact (hmidn e he).2, hexp e (by simp [he])⟩)
        (hexp last (by simp)) hdst hsd [s0] [hopOf pD.hop] (Or.inl rfl) (fun _ => rfl) (List.cons_ne_nil _ _) _)
    rw [← List.cons_append, fTrace_link]
    simpa [usedAt, hopOf, fTrace, outF, inF, Nat.add_assoc, Nat.add_comm] using this

/-- the up segment of a peering path, any length: from a host of the last AS of the used part to
    the arrival, over the peering link, at the peering AS of the down segment -/
theorem peer_up_run (β : Nat) (x : ASE) (rest : List ASE) (pU : PeerE) (hpU : pU ∈ x.peers)
    (hc : Chain mac net false ts β (x :: rest))
    (hsrc : src = (rest.getLastD x).ia) (hsd : src ≠ dst)
    (hnd' : ∀ e ∈ x :: rest, e.ia ≠ dst) (hnd : ((x :: rest).map (·.ia)).Nodup)
    (hexp : ∀ e ∈ rest, expired now ts e.hop.exp = false) (hexpp : expired now ts pU.hop.exp = false)
    (i1 : Info) (h1 : Hop) (t1 : List Hop) :
    ∃ sU,
      Reach mac net now src dst (1 + rest.length)
        ⟨src, 0, .host, mkCur [] ⟨false, true, upStart β x rest, ts⟩ []
          (rest.reverse.map (fun e => hopOf e.hop) ++ [hopOf pU.hop]) [⟨i1, h1 :: t1⟩], []⟩
        ⟨pU.peerAS, 0, .ext pU.peerIf, ⟨[sU], i1, [], h1, t1, []⟩,
          (linkTrace true (x :: rest)).reverse ++ [(x.ia, pU.hop.cIn), (pU.peerAS, pU.peerIf)]⟩ ∧
      revSeg sU = ⟨⟨true, true, updateSegID β (pfx x.hop.mac), ts⟩,
        hopOf pU.hop :: rest.map (fun e => hopOf e.hop)⟩ := by
  cases rest with
  | nil =>
    simp only [Chain] at hc
    exact ⟨⟨⟨false, true, updateSegID β (pfx x.hop.mac), ts⟩, [hopOf pU.hop]⟩,
      by simpa [mkCur, upStart, linkTrace] using peer_out_host_hop hWF hUp hSR i1 h1 t1 (hc.2 pU hpU) hsrc hsd hexpp,
      by simp [revSeg, flipInfo]⟩
  | cons y r =>
    obtain ⟨mid, last, hml⟩ := exists_snoc y r
    rw [hml] at hc hsrc hnd' hnd hexp ⊢
    rw [upStart_snoc]
    rw [List.getLastD_concat] at hsrc
    have hFL := fl_mirror mac net false true ts _ _ (chain_FL mac net false ts hWF _ _ hc)
    have hrev : (x :: (mid ++ [last])).reverse = last :: (mid.reverse ++ [x]) := by simp
    rw [hrev] at hFL
    have hndr : ((last :: (mid.reverse ++ [x])).map (·.ia)).Nodup := by
      have := nodup_rev _ hnd
      rw [← List.map_reverse, hrev] at this
      exact this
    obtain ⟨hlx, hmidn⟩ := nd_facts last mid.reverse x hndr
    have hrun := peer_up_multi_run mac net now src dst ts hWF hUp hSR _ last mid.reverse x pU hpU
      hFL hsrc hsd (by rw [hsrc]; exact Ne.symm hlx) (hnd' x (by simp))
      (fun e he => ⟨by rw [hsrc]; exact (hmidn e he).1,
        hnd' e (by simp at he; simp [he]), hexp e (by simp at he; simp [he])⟩)
      (hexp last (by simp)) hexpp i1 h1 t1
    have hseg : updateSegID (extractBeta β (sig (x :: (mid ++ [last])))) (pfx last.hop.mac) =
        extractBeta β (sig (x :: mid)) := extractBeta_sig_snoc β (x :: mid) last
    rw [hseg] at hrun
    rw [show 1 + (mid ++ [last]).length = 1 + mid.reverse.length + 1 by simp; omega]
    have hcur : mkCur [] ⟨false, true, extractBeta β (sig (x :: mid)), ts⟩ []
        ((mid ++ [last]).reverse.map (fun e => hopOf e.hop) ++ [hopOf pU.hop]) [⟨i1, h1 :: t1⟩] =
        ⟨[], ⟨false, true, extractBeta β (sig (x :: mid)), ts⟩, [], hopOf last.hop,
          (mid.reverse.map fun e => hopOf e.hop) ++ [hopOf pU.hop], [⟨i1, h1 :: t1⟩]⟩ := by
      simp [mkCur]
    have htr : (linkTrace true (x :: (mid ++ [last]))).reverse ++ [(x.ia, pU.hop.cIn), (pU.peerAS, pU.peerIf)] =
        (last.ia, last.hop.cIn) :: ((firstOf mid.reverse x).ia, (firstOf mid.reverse x).hop.cEg) ::
          fTrace false mid.reverse x ++ [(x.ia, pU.hop.cIn), (pU.peerAS, pU.peerIf)] := by
      rw [← List.cons_append, fTrace_link, fTrace_reverse]
      simp [fTrace, outF, inF]
    rw [hcur, htr]
    refine ⟨_, hrun, ?_⟩
    have hsU : extractBeta (extractBeta β (sig (x :: mid))) (sig mid.reverse) =
        updateSegID β (pfx x.hop.mac) := by
      rw [sig_reverse, Scion.SegID.extractBeta_eq _ (sig mid).reverse, Scion.SegID.xorAll_reverse,
        Scion.SegID.extractBeta_eq _ (sig (x :: mid))]
      simp only [sig, List.map_cons, Scion.SegID.xorAll, updateSegID]
      rw [← Nat.xor_assoc, Scion.SegID.xor_cancel]
    simp [revSeg, flipInfo, hsU, List.map_reverse]

end

theorem startCursor_mkCur (i : Info) (l : List Hop) (rest : List Seg) (hl : l ≠ []) :
    startCursor (⟨i, l⟩ :: rest) = some (mkCur [] i [] l rest) := by
  cases l with
  | nil => exact absurd rfl hl
  | cons h t => rfl

theorem kind_zero (e : Edge) (h : e.kind = 0) : e.core = false ∧ e.down = false := by
  unfold Edge.kind at h
  cases hc : e.core <;> cases hd : e.down <;> simp_all

theorem kind_two (e : Edge) (h : e.kind = 2) : e.core = false ∧ e.down = true := by
  unfold Edge.kind at h
  cases hc : e.core <;> cases hd : e.down <;> simp_all

/-- the up edge of a peering path as path combination renders it -/
theorem peer_up_edgeSeg (e : Edge) (k : Nat) (hpeer : e.peer = some k) (hdown : e.down = false)
    (pre : List ASE) (x : ASE) (rest : List ASE) (p : PeerE)
    (hent : e.seg.entries = pre ++ x :: rest) (hpl : pre.length = e.shortcut)
    (hp : x.peers[k]? = some p) :
    edgeSeg e = some ⟨⟨false, true, upStart (extractBeta e.seg.s0 (sig pre)) x rest, e.seg.ts⟩,
      rest.reverse.map (fun y => hopOf y.hop) ++ [hopOf p.hop]⟩ := by
  have hdrop : e.seg.entries.drop e.shortcut = x :: rest := by rw [hent, ← hpl]; simp
  have hcalc : calculateBeta false e.shortcut true e.seg.s0 (sigmas e.seg) =
      some (upStart (extractBeta e.seg.s0 (sig pre)) x rest) := by
    rw [sigmas_eq, hent, ← hpl]
    cases rest with
    | nil =>
      have := Scion.SegID.calc_up_single e.seg.s0 (sig pre) (pfx x.hop.mac) true
      simpa [sig, upStart] using this
    | cons y r =>
      obtain ⟨mid, last, hml⟩ := exists_snoc y r
      rw [hml, upStart_snoc]
      have := Scion.SegID.calc_up_multi e.seg.s0 (sig pre) (pfx x.hop.mac) (pfx last.hop.mac) (sig mid) true
      rw [Scion.SegID.extractBeta_eq _ (sig (x :: mid))]
      simpa [sig, Scion.SegID.xorAll, updateSegID, Nat.xor_assoc] using this
  simp [edgeSeg, edgeHops, hdown, hpeer, hdrop, hcalc, hp, List.map_reverse]

theorem peer_down_edgeSeg (e : Edge) (k : Nat) (hpeer : e.peer = some k) (hdown : e.down = true)
    (pre : List ASE) (x : ASE) (rest : List ASE) (p : PeerE)
    (hent : e.seg.entries = pre ++ x :: rest) (hpl : pre.length = e.shortcut)
    (hp : x.peers[k]? = some p) :
    edgeSeg e = some ⟨⟨true, true, updateSegID (extractBeta e.seg.s0 (sig pre)) (pfx x.hop.mac), e.seg.ts⟩,
      hopOf p.hop :: rest.map (fun y => hopOf y.hop)⟩ := by
  have hdrop : e.seg.entries.drop e.shortcut = x :: rest := by rw [hent, ← hpl]; simp
  have hcalc : calculateBeta true e.shortcut true e.seg.s0 (sigmas e.seg) =
      some (updateSegID (extractBeta e.seg.s0 (sig pre)) (pfx x.hop.mac)) := by
    rw [sigmas_eq, hent, ← hpl]
    have := Scion.SegID.calc_down e.seg.s0 (sig pre) (pfx x.hop.mac) (sig rest) true
    simpa [sig] using this
  simp [edgeSeg, edgeHops, hdown, hpeer, hdrop, hcalc, hp]

theorem segs_mkCur (i : Info) (l : List Hop) (rest : List Seg) (hl : l ≠ []) :
    (mkCur [] i [] l rest).segs = ⟨i, l⟩ :: rest := by
  cases l with
  | nil => exact absurd rfl hl
  | cons h t => simp [mkCur, Cursor.segs, Cursor.curSeg]

theorem unexpired_mkCur (now : Nat) (i : Info) (l : List Hop) (s : Seg) (hl : l ≠ []) :
    Unexpired now (mkCur [] i [] l [s]) ↔
      (∀ h ∈ l, expired now i.ts h.exp = false) ∧ ∀ h ∈ s.hops, expired now s.info.ts h.exp = false := by
  simp [Unexpired, segs_mkCur _ _ _ hl]

/-- C02 over peering paths, with what C03 needs about the delivered packet: reversed, it carries
    the path that path combination builds from the same two segments used the other way round -/
theorem peering_accepted_rev (mac : MacFn) (net : Net) (now src dst : Nat)
    (hWF : WFNet net) (hUp : AllUp net) (hSR : SingleRouter net)
    (eu ed : Edge) (c : Cursor) (ku kd : Nat) (hup : eu.peer = some ku) (hdp : ed.peer = some kd)
    (hJ : Joinable mac net [eu, ed] src dst) (hp : pathOf [eu, ed] = some c)
    (hexp : Unexpired now c) :
    ∃ cf, send mac net now src dst c = .delivered dst (pathIfaces [eu, ed]) cf ∧
      pathOf [{ ed with down := false }, { eu with down := true }] = some (reverseCursor cf) ∧
      Unexpired now (reverseCursor cf) := by
  obtain ⟨_, _, hval, hjoints, _, hhead, hlast, hnd⟩ := hJ
  have hj := hjoints.1
  simp only [Joint, hup, hdp] at hj
  obtain ⟨hk0, hk2, x1, x2, p1, p2, hx1, hx2, hp1, hp2, hpa1, hpa2, hpi1, hpi2⟩ := hj
  obtain ⟨huc, hud⟩ := kind_zero eu hk0
  obtain ⟨hdc, hdd⟩ := kind_two ed hk2
  obtain ⟨preU, restU, hentU, hplU, hcU, hl0U⟩ := peer_edge_common mac net eu x1 hx1 (hval eu (by simp))
  obtain ⟨preD, restD, hentD, hplD, hcD, hl0D⟩ := peer_edge_common mac net ed x2 hx2 (hval ed (by simp))
  rw [huc] at hcU
  rw [hdc] at hcD
  have hmU : p1 ∈ x1.peers := List.mem_of_getElem? hp1
  have hmD : p2 ∈ x2.peers := List.mem_of_getElem? hp2
  have hsU := peer_up_edgeSeg eu ku hup hud preU x1 restU p1 hentU hplU hp1
  have hsD := peer_down_edgeSeg ed kd hdp hdd preD x2 restD p2 hentD hplD hp2
  have hc : c = mkCur [] ⟨false, true, upStart (extractBeta eu.seg.s0 (sig preU)) x1 restU, eu.seg.ts⟩ []
      (restU.reverse.map (fun y => hopOf y.hop) ++ [hopOf p1.hop])
      [⟨⟨true, true, updateSegID (extractBeta ed.seg.s0 (sig preD)) (pfx x2.hop.mac), ed.seg.ts⟩,
        hopOf p2.hop :: restD.map (fun y => hopOf y.hop)⟩] := by
    simp only [pathOf, segsOf, hsU, hsD] at hp
    rw [startCursor_mkCur _ _ _ (by simp)] at hp
    cases hp; rfl
  have hdropU : eu.seg.entries.drop eu.shortcut = x1 :: restU := by rw [hentU, ← hplU]; simp
  have hdropD : ed.seg.entries.drop ed.shortcut = x2 :: restD := by rw [hentD, ← hplD]; simp
  have hases : pathASes [eu, ed] = ((x1 :: restU).map (·.ia)).reverse ++ (x2 :: restD).map (·.ia) := by
    simp [pathASes, hup, Edge.ases, Edge.used, hud, hdd, hdropU, hdropD]
  rw [hases] at hhead hlast hnd
  have hsrc : src = (restU.getLastD x1).ia := by
    rw [List.head?_append, List.head?_reverse, List.getLast?_map, getLast?_cons_getLastD] at hhead
    exact (Option.some.inj hhead).symm
  have hdst : dst = (restD.getLastD x2).ia := by
    rw [List.getLast?_append, List.getLast?_map, getLast?_cons_getLastD] at hlast
    exact (Option.some.inj hlast).symm
  have hndU : ((x1 :: restU).map (·.ia)).Nodup := by
    have := (List.nodup_append.1 hnd).1
    have h2 := nodup_rev _ this
    simpa using h2
  have hndD := (List.nodup_append.1 hnd).2.1
  have hdisj := (List.nodup_append.1 hnd).2.2
  have hUD : ∀ e ∈ x1 :: restU, ∀ e' ∈ x2 :: restD, e.ia ≠ e'.ia := by
    intro e he e' he'
    exact hdisj e.ia (by rw [List.mem_reverse]; exact List.mem_map.2 ⟨e, he, rfl⟩) e'.ia
      (List.mem_map.2 ⟨e', he', rfl⟩)
  have hsd : src ≠ dst := by
    rw [hsrc, hdst]; exact hUD _ (List.getLastD_mem_cons) _ (List.getLastD_mem_cons)
  rw [hc] at hexp
  obtain ⟨hexpU, hexpD⟩ := (unexpired_mkCur now _ _ _ (by simp)).1 hexp
  obtain ⟨sU, hrunU, hrevU⟩ := peer_up_run mac net now src dst eu.seg.ts hWF hUp hSR
    (extractBeta eu.seg.s0 (sig preU)) x1 restU p1 hmU hcU hsrc hsd
    (fun e he => by rw [hdst]; exact hUD e he _ (List.getLastD_mem_cons)) hndU
    (fun e he => hexpU (hopOf e.hop) (by simp; exact Or.inl ⟨e, he, rfl⟩))
    (hexpU (hopOf p1.hop) (by simp))
    ⟨true, true, updateSegID (extractBeta ed.seg.s0 (sig preD)) (pfx x2.hop.mac), ed.seg.ts⟩
    (hopOf p2.hop) (restD.map fun y => hopOf y.hop)
  obtain ⟨cf, hrunD, hrevD⟩ := peer_down_run mac net now src dst ed.seg.ts hWF hUp hSR
    (extractBeta ed.seg.s0 (sig preD)) x2 restD p2 hmD hcD hdst hsd
    (fun e he => by rw [hsrc]; exact Ne.symm (hUD _ (List.getLastD_mem_cons) e he)) hndD
    (fun e he => hexpD (hopOf e.hop) (by simp; exact Or.inr ⟨e, he, rfl⟩))
    (hexpD (hopOf p2.hop) (by simp))
    sU
    ((linkTrace true (x1 :: restU)).reverse ++ [(x1.ia, p1.hop.cIn), (p1.peerAS, p1.peerIf)])
  rw [hrevU] at hrevD
  have hback : pathOf [{ ed with down := false }, { eu with down := true }] = some (reverseCursor cf) := by
    have hsD' := peer_up_edgeSeg { ed with down := false } kd hdp rfl preD x2 restD p2 hentD hplD hp2
    have hsU' := peer_down_edgeSeg { eu with down := true } ku hup rfl preU x1 restU p1 hentU hplU hp1
    simp only [pathOf, segsOf, hsD', hsU']
    rw [startCursor_mkCur _ _ _ (by simp), hrevD]
  have hexpb : Unexpired now (reverseCursor cf) := by
    rw [hrevD]
    exact (unexpired_mkCur now _ _ _ (by simp)).2
      ⟨fun h hh => hexpD h (by simpa [or_comm] using hh), fun h hh => hexpU h (by simpa [or_comm] using hh)⟩
  refine ⟨cf, ?_, hback, hexpb⟩
  have hif : pathIfaces [eu, ed] = (linkTrace true (x1 :: restU)).reverse ++
      [(x1.ia, p1.hop.cIn), (p1.peerAS, p1.peerIf)] ++ linkTrace true (x2 :: restD) := by
    have h1 := consIfaces_chain mac net false eu.seg.ts restU x1 _ hcU hl0U
    have h2 := consIfaces_chain mac net false ed.seg.ts restD x2 _ hcD hl0D
    simp only [pathIfaces, List.map_cons, List.map_nil, List.flatten_cons, List.flatten_nil,
      List.append_nil, edgeIfaces, hdropU, hdropD, hup, hdp, hp1, hp2, hud, hdd, Bool.false_eq_true,
      if_false, if_true, List.append_assoc, h1, h2]
    simp [hpa1, hpi1]
  unfold send
  rw [entryRouter_zero net hSR, hif]
  rw [hpa1, hpi1] at hrunU hrunD ⊢
  -- two router invocations per hop field are granted, one is used
  refine hc ▸ (hrunU.ends hrunD).of_le ?_
  rw [fuelFor_eq, segs_mkCur _ _ _ (by simp)]
  simp only [List.map_cons, List.map_nil, List.flatten_cons, List.flatten_nil, List.length_append,
    List.length_cons, List.length_nil, List.length_map, List.length_reverse]
  omega

/-- **C02, peering paths**: up segment (any number of hops ≥ 1) ending in a peer entry, peering
    link, down segment starting with the matching peer entry; one border router per AS -/
theorem peering_accepted (mac : MacFn) (net : Net) (now src dst : Nat)
    (hWF : WFNet net) (hUp : AllUp net) (hSR : SingleRouter net)
    (eu ed : Edge) (c : Cursor) (ku kd : Nat) (hup : eu.peer = some ku) (hdp : ed.peer = some kd)
    (hJ : Joinable mac net [eu, ed] src dst) (hp : pathOf [eu, ed] = some c)
    (hexp : Unexpired now c) :
    ∃ cf, send mac net now src dst c = .delivered dst (pathIfaces [eu, ed]) cf := by
  obtain ⟨cf, h, _⟩ := peering_accepted_rev mac net now src dst hWF hUp hSR eu ed c ku kd hup hdp hJ hp hexp
  exact ⟨cf, h⟩

/-- the two edges of a peering path used the other way round are again what path combination
    may join (`Joinable` is symmetric) -/
theorem joinable_flip_peering (mac : MacFn) (net : Net) (eu ed : Edge) (src dst ku kd : Nat)
    (hup : eu.peer = some ku) (hdp : ed.peer = some kd)
    (hJ : Joinable mac net [eu, ed] src dst) :
    Joinable mac net [{ ed with down := false }, { eu with down := true }] dst src := by
  obtain ⟨_, _, hval, hjoints, _, hhead, hlast, hnd⟩ := hJ
  have hj := hjoints.1
  simp only [Joint, hup, hdp] at hj
  obtain ⟨hk0, hk2, x1, x2, p1, p2, hx1, hx2, hp1, hp2, hpa1, hpa2, hpi1, hpi2⟩ := hj
  obtain ⟨huc, hud⟩ := kind_zero eu hk0
  obtain ⟨hdc, hdd⟩ := kind_two ed hk2
  have hases : pathASes [{ ed with down := false }, { eu with down := true }] =
      (pathASes [eu, ed]).reverse := by
    simp [pathASes, hup, hdp, Edge.ases, Edge.used, hud, hdd]
  refine ⟨by simp, by simp, ?_, ?_, by simp, ?_, ?_, ?_⟩
  · intro e he
    simp only [List.mem_cons, List.not_mem_nil, or_false] at he
    rcases he with rfl | rfl
    · exact hval ed (by simp)
    · exact hval eu (by simp)
  · refine ⟨?_, trivial⟩
    simp only [Joint, hup, hdp]
    exact ⟨by simp [Edge.kind, hdc], by simp [Edge.kind, huc],
      x2, x1, p2, p1, hx2, hx1, hp2, hp1, hpa2, hpa1, hpi2, hpi1⟩
  · rw [hases, List.head?_reverse]; exact hlast
  · rw [hases, List.getLast?_reverse]; exact hhead
  · rw [hases]; exact nodup_rev _ hnd

theorem pathIfaces_flip_peering (eu ed : Edge) (hud : eu.down = false) (hdd : ed.down = true) :
    pathIfaces [{ ed with down := false }, { eu with down := true }] =
      (pathIfaces [eu, ed]).reverse := by
  have h1 := edgeIfaces_flip eu
  have h2 := edgeIfaces_flip ed
  rw [hud] at h1
  rw [hdd] at h2
  simp only [Bool.not_false, Bool.not_true] at h1 h2
  simp [pathIfaces, h1, h2]

end Scion.Net
