import Scion.Proofs.TrustStore
import Scion.Gen.Pki1Trc
/-!
# C35 — The trust store only advances along verified TRC successions

Property theorems only.  Model: `Scion.TrustStore` (`NotifyTRC`, `loadTRCs`, the TRC table);
tied to the real `trust.FetchingProvider`, `trust.LoadTRCs` and the SQLite trust DB by
`harness/cmd/truststore`.  `Ver pred fetched` stands for `fetched.Verify(&pred.TRC) == nil`
(C32); theorems that need to know what verification implies about IDs take `VerLinks Ver`,
which C32 proves of the verification model (`update_accept_imp_link`, and a base TRC is never
accepted with a predecessor).  All theorems hold for every table, every notification, every
fetcher script (errors and wrong TRCs at any step) and every history.
-/
namespace Scion.C35
open Scion.TrustStore

/-- **A TRC with another base number is never accepted this way**: a notification whose base
number differs from the latest stored TRC's fails, fetches nothing and stores nothing. -/
theorem base_mismatch_rejected (Ver : Rec → Rec → Bool) (db : DB) (isd base serial : Nat)
    (allow : Bool) (script : List Fetch) (cur : Rec) (hl : latest db isd = some cur)
    (hb : cur.base ≠ base) :
    let r := notify Ver db isd base serial allow script
    r.db = db ∧ r.fetches = 0 ∧ r.out = .baseMismatch ∧ r.out.isOk = false := by
  unfold notify
  simp [hl, hb, Out.isOk]

/-- the part of C35 about one notification -/
structure NotifySpec (Ver : Rec → Rec → Bool) (db : DB) (isd serial : Nat) (script : List Fetch)
    (r : NotifyRes) : Prop where
  grows : ∀ x ∈ db, x ∈ r.db
  /-- what is new is exactly the chain … -/
  added : ∀ x ∈ r.db, x ∈ db ∨ x ∈ r.chain
  stored : ∀ x ∈ r.chain, x ∈ r.db
  /-- … which consists of the fetcher's first responses, in order (so: stored strictly in order) -/
  in_order : script.take r.chain.length = r.chain.map Fetch.trc
  /-- at most one request beyond what was stored: it stops at the first failure -/
  stops : r.fetches ≤ r.chain.length + 1
  /-- success means every missing TRC was stored -/
  complete : ∀ cur, latest db isd = some cur → r.out.isOk = true → cur.serial < serial →
    r.chain.length = serial - cur.serial
  /-- each stored TRC was verified against the previously latest one -/
  verified : ∀ cur, latest db isd = some cur → Chain Ver cur r.chain

/-- the two ways a notification can go: nothing happens, or the fetch loop runs from the
latest stored TRC -/
theorem notify_cases (Ver : Rec → Rec → Bool) (db : DB) (isd base serial : Nat) (allow : Bool)
    (script : List Fetch) :
    (∃ o, notify Ver db isd base serial allow script = ⟨db, [], 0, o⟩ ∧
      (o.isOk = true → ∀ cur, latest db isd = some cur → ¬ cur.serial < serial) ∧
      (∀ cur, latest db isd = some cur → cur.base = base → cur.serial < serial → allow = false)) ∨
    (∃ cur, latest db isd = some cur ∧ cur.base = base ∧ cur.serial < serial ∧ allow = true ∧
      notify Ver db isd base serial allow script =
        ⟨(loop Ver (serial - cur.serial) db cur script).db,
         (loop Ver (serial - cur.serial) db cur script).chain,
         (loop Ver (serial - cur.serial) db cur script).fetches,
         .loop (loop Ver (serial - cur.serial) db cur script).stop⟩) := by
  unfold notify
  cases hl : latest db isd with
  | none => exact .inl ⟨_, rfl, nofun, nofun⟩
  | some cur =>
    dsimp only
    by_cases h1 : cur.base ≠ base
    · rw [if_pos h1]
      exact .inl ⟨_, rfl, nofun, fun _ e hb => absurd hb (Option.some.inj e ▸ h1)⟩
    rw [if_neg h1]
    by_cases h2 : serial ≤ cur.serial
    · rw [if_pos h2]
      exact .inl ⟨_, rfl, fun _ c hc => by cases hc; omega, fun c hc => by cases hc; omega⟩
    rw [if_neg h2]
    by_cases h3 : allow = false
    · rw [if_pos h3]
      exact .inl ⟨_, rfl, nofun, fun _ _ _ _ => h3⟩
    rw [if_neg h3]
    exact .inr ⟨cur, rfl, Decidable.not_not.mp h1, by omega, Bool.of_not_eq_false h3, rfl⟩

theorem notify_noop (Ver : Rec → Rec → Bool) (db : DB) (isd base serial : Nat) (allow : Bool)
    (script : List Fetch)
    (h : latest db isd = none ∨ (∃ cur, latest db isd = some cur ∧
      (cur.base ≠ base ∨ serial ≤ cur.serial ∨ allow = false))) :
    (notify Ver db isd base serial allow script).db = db ∧
    (notify Ver db isd base serial allow script).fetches = 0 := by
  rcases notify_cases Ver db isd base serial allow script with ⟨o, heq, _⟩ | ⟨cur, hl, hb, hs, ha, _⟩
  · rw [heq]; exact ⟨rfl, rfl⟩
  · rcases h with h | ⟨c, h, hc⟩ <;> rw [hl] at h <;> cases h
    rcases hc with hc | hc | hc
    · exact absurd hb hc
    · omega
    · rw [ha] at hc; cases hc

/-- **Stored in order, each verified, stop at the first failure** — for every table, target ID
and fetcher script. -/
theorem stored_in_order_each_verified (Ver : Rec → Rec → Bool) (db : DB) (isd base serial : Nat)
    (allow : Bool) (script : List Fetch) :
    NotifySpec Ver db isd serial script (notify Ver db isd base serial allow script) := by
  rcases notify_cases Ver db isd base serial allow script with ⟨o, heq, ho, _⟩ | ⟨cur, hl, _, _, _, heq⟩
  · rw [heq]
    exact { grows := fun x h => h, added := fun x h => Or.inl h, stored := by simp,
            in_order := by simp, stops := by simp,
            complete := fun cur hc hok hlt => absurd hlt (ho hok cur hc),
            verified := fun _ _ => trivial }
  · rw [heq]
    have s := loop_spec Ver (serial - cur.serial) db cur script
    generalize loop Ver (serial - cur.serial) db cur script = res at s ⊢
    exact
      { grows := s.sub, added := s.added, stored := s.stored, in_order := s.prefix_
        stops := by
          by_cases hd : res.stop = .done
          · have := s.done hd; simp only; omega
          · by_cases he : res.stop = .scriptEnd
            · have := s.scriptEnd he; simp only; omega
            · have := s.failFetches hd he; simp only; omega
        complete := by
          intro c hc hok _
          rw [hl] at hc; cases hc
          have : res.stop = .done := by
            cases hst : res.stop <;> simp [Out.isOk, hst] at hok ⊢
          exact (s.done this).1
        verified := by intro c hc; rw [hl] at hc; cases hc; exact s.chain }

/-- **What stops the loop.**  If the loop ran and did not store all missing TRCs, the response
to the last request was an error, a TRC that does not verify against the last accepted one, or
a TRC whose ID is already taken by a different TRC in the table. -/
theorem stops_at_first_failure (Ver : Rec → Rec → Bool) (db : DB) (isd base serial : Nat)
    (script : List Fetch) (cur : Rec) (hl : latest db isd = some cur) (hb : cur.base = base)
    (hs : cur.serial < serial) :
    let r := notify Ver db isd base serial true script
    r.chain.length < serial - cur.serial →
      r.out.isOk = false ∧
      (script[r.chain.length]? = none ∨
       script[r.chain.length]? = some .err ∨
       ∃ f, script[r.chain.length]? = some (.trc f) ∧
         (Ver (lastOf cur r.chain) f = false ∨
          ∃ x ∈ r.db, x.isd = f.isd ∧ x.base = f.base ∧ x.serial = f.serial ∧ x.fp ≠ f.fp)) := by
  rcases notify_cases Ver db isd base serial true script with ⟨o, _, _, hno⟩ | ⟨c, hc, _, _, _, heq⟩
  · cases hno cur hl hb hs
  rw [hl] at hc; cases hc
  rw [heq]
  have s := loop_spec Ver (serial - cur.serial) db cur script
  intro r hlt
  cases hst : (loop Ver (serial - cur.serial) db cur script).stop with
  | done => have := s.done hst; simp only [r] at hlt; omega
  | fetchErr => exact ⟨by simp [r, Out.isOk, hst], Or.inr (Or.inl (s.fetchErr hst))⟩
  | verifyErr =>
    obtain ⟨f, h1, h2⟩ := s.verifyErr hst
    exact ⟨by simp [r, Out.isOk, hst], Or.inr (Or.inr ⟨f, h1, Or.inl h2⟩)⟩
  | insertErr =>
    obtain ⟨f, h1, _, h3⟩ := s.insertErr hst
    exact ⟨by simp [r, Out.isOk, hst], Or.inr (Or.inr ⟨f, h1, Or.inr h3⟩)⟩
  | scriptEnd =>
    have := (s.scriptEnd hst).1
    exact ⟨by simp [r, Out.isOk, hst], Or.inl (by simp only [r]; rw [List.getElem?_eq_none]; omega)⟩

/-- **IDs of what is stored.**  Given what verification guarantees (C32), the TRCs a
notification stores carry the ISD and base number of the previously latest TRC and the serial
numbers `latest+1, latest+2, …` without gap — in particular never another base number and never
beyond the notified serial. -/
theorem stored_ids (Ver : Rec → Rec → Bool) (hV : VerLinks Ver) (db : DB) (isd base serial : Nat)
    (allow : Bool) (script : List Fetch) (cur : Rec) (hl : latest db isd = some cur) :
    let r := notify Ver db isd base serial allow script
    ∀ i (hi : i < r.chain.length), r.chain[i].isd = isd ∧ r.chain[i].base = cur.base ∧
      r.chain[i].serial = cur.serial + i + 1 ∧ r.chain[i].serial ≤ serial := by
  intro r i hi
  have sp := stored_in_order_each_verified Ver db isd base serial allow script
  have ids := chain_ids hV (sp.verified cur hl) i hi
  have hisd := (latest_some hl).2.1
  refine ⟨by rw [ids.1, hisd], ids.2.1, ids.2.2, ?_⟩
  have hlen : r.chain.length ≤ serial - cur.serial := by
    show (notify Ver db isd base serial allow script).chain.length ≤ _
    rcases notify_cases Ver db isd base serial allow script with ⟨o, heq, _⟩ | ⟨c, hc, _, _, _, heq⟩
    · rw [heq]; exact Nat.zero_le _
    · rw [hl] at hc; cases hc
      rw [heq]; exact (loop_spec Ver (serial - cur.serial) db cur script).len
  rw [ids.2.2]
  omega

/-! ### histories -/

theorem step_grows (Ver : Rec → Rec → Bool) (s : State) (op : Op) :
    ∀ x ∈ s.db, x ∈ (step Ver s op).db := by
  cases op with
  | notify isd base serial allow script =>
    exact (stored_in_order_each_verified Ver s.db isd base serial allow script).grows
  | load files => exact (load_spec s.db files).1

theorem run_grows (Ver : Rec → Rec → Bool) (s : State) (ops : List Op) :
    ∀ x ∈ s.db, x ∈ (run Ver s ops).db := by
  induction ops generalizing s with
  | nil => intro x h; exact h
  | cons op ops ih =>
    intro x h
    exact ih (step Ver s op) x (step_grows Ver s op x h)

/-- **The latest stored TRC never regresses**, over every history of notifications and loads
(with arbitrary fetch failures and wrong TRCs): whatever was the latest TRC of an ISD, the latest
TRC afterwards is not older (`ORDER BY base, serial`). -/
theorem latest_monotone (Ver : Rec → Rec → Bool) (s : State) (ops : List Op) (isd : Nat) (a : Rec)
    (h : latest s.db isd = some a) :
    ∃ b, latest (run Ver s ops).db isd = some b ∧ newer a b = false :=
  latest_mono (run_grows Ver s ops) h

/-- every stored TRC either came from the local directory or was verified against a TRC that is
in the store -/
def Grounded (Ver : Rec → Rec → Bool) (s : State) : Prop :=
  ∀ r ∈ s.db, r ∈ s.loaded ∨ ∃ p ∈ s.db, Ver p r = true

theorem chain_grounded {Ver : Rec → Rec → Bool} {cur : Rec} {chain : List Rec}
    (h : Chain Ver cur chain) : ∀ r ∈ chain, ∃ p, (p = cur ∨ p ∈ chain) ∧ Ver p r = true := by
  induction chain generalizing cur with
  | nil => intro r hr; cases hr
  | cons f fs ih =>
    intro r hr
    rcases List.mem_cons.mp hr with rfl | hr
    · exact ⟨cur, Or.inl rfl, h.1⟩
    · obtain ⟨p, hp, hv⟩ := ih h.2 r hr
      exact ⟨p, .inr (List.mem_cons.mpr hp), hv⟩

theorem step_grounded (Ver : Rec → Rec → Bool) (s : State) (op : Op) (h : Grounded Ver s) :
    Grounded Ver (step Ver s op) := by
  cases op with
  | notify isd base serial allow script =>
    have sp := stored_in_order_each_verified Ver s.db isd base serial allow script
    intro r hr
    rcases sp.added r hr with hold | hnew
    · rcases h r hold with h1 | ⟨p, hp, hv⟩
      · exact Or.inl h1
      · exact Or.inr ⟨p, sp.grows p hp, hv⟩
    · -- a new TRC: the loop ran, so there was a latest TRC
      rcases notify_cases Ver s.db isd base serial allow script with ⟨o, heq, _⟩ | ⟨cur, hl, _⟩
      · rw [heq] at hnew; cases hnew
      · obtain ⟨p, hp, hv⟩ := chain_grounded (sp.verified cur hl) r hnew
        refine Or.inr ⟨p, ?_, hv⟩
        rcases hp with rfl | hp
        · exact sp.grows p (latest_some hl).1
        · exact sp.stored p hp
  | load files =>
    have ls := load_spec s.db files
    intro r hr
    rcases ls.2.1 r hr with hold | hnew
    · rcases h r hold with h1 | ⟨p, hp, hv⟩
      · exact Or.inl (List.mem_append_left _ h1)
      · exact Or.inr ⟨p, ls.1 p hp, hv⟩
    · exact Or.inl (List.mem_append_right _ hnew)

/-- **Only verified successions, over all histories.**  Starting from an empty store, after any
history every stored TRC was either loaded from the local directory or verified as successor of
a TRC in the store. -/
theorem grounded_run (Ver : Rec → Rec → Bool) (s : State) (ops : List Op) (h : Grounded Ver s) :
    Grounded Ver (run Ver s ops) := by
  induction ops generalizing s with
  | nil => exact h
  | cons op ops ih => exact ih (step Ver s op) (step_grounded Ver s op h)

theorem grounded_from_empty (Ver : Rec → Rec → Bool) (ops : List Op) :
    Grounded Ver (run Ver ⟨[], []⟩ ops) :=
  grounded_run Ver _ ops (by intro r hr; cases hr)

/-- **TRCs loaded from disk whose validity starts in the future are ignored**: whatever
`loadTRCs` adds to the table comes from a file that is not in the future; nothing is removed. -/
theorem loadTRCs_ignores_future (db : DB) (files : List File) :
    (∀ x ∈ db, x ∈ (load db files).db) ∧
    (∀ x ∈ (load db files).db, x ∈ db ∨ File.trc x false ∈ files) := by
  have ls := load_spec db files
  refine ⟨ls.1, ?_⟩
  intro x hx
  rcases ls.2.1 x hx with h | h
  · exact Or.inl h
  · exact Or.inr (ls.2.2 x h)

/-- **T3.** The fetch loop of `NotifyTRC` runs over `latest+1 … id.Serial`, and in each round
fetches, verifies against the current TRC, inserts and only then advances the current TRC;
`loadTRCs` skips a file iff now is before the TRC's `NotBefore` (regenerated from `/repo`). -/
theorem gen_notify_loop :
    Gen.Pki1Trc.notifyLoop = ["serial := trc.TRC.ID.Serial + 1", "serial <= id.Serial", "serial++"] ∧
    Gen.Pki1Trc.notifyLoopCalls = ["TRC(o.server)", "Verify(&trc.TRC)", "InsertTRC(fetched)"] ∧
    Gen.Pki1Trc.notifyLoopAssigns =
      ["toFetch := cppki.TRCID{ISD: id.ISD, Base: id.Base, Serial: serial}",
       "fetched, err := p.Fetcher.TRC(ctx, toFetch, o.server)", "trc = fetched"] ∧
    Gen.Pki1Trc.loadFutureCond = "time.Now().Before(trc.TRC.Validity.NotBefore)" :=
  ⟨rfl, rfl, rfl, rfl⟩

/-! ### Non-vacuity -/

def r1 : Rec := ⟨1, 1, 1, 10⟩
def r2 : Rec := ⟨1, 1, 2, 20⟩
def r3 : Rec := ⟨1, 1, 3, 30⟩
def r3bad : Rec := ⟨1, 1, 3, 31⟩
def exVer : Rec → Rec → Bool := fun p f =>
  f.isd == p.isd && f.base == p.base && f.serial == p.serial + 1 &&
    ((p.fp, f.fp) == (10, 20) || (p.fp, f.fp) == (20, 30))

example : VerLinks exVer := by
  intro p f h
  simp only [exVer, Bool.and_eq_true, beq_iff_eq] at h
  exact ⟨h.1.1.1, h.1.1.2, h.1.2⟩

-- two missing TRCs fetched, verified and stored in order
example : (notify exVer [r1] 1 1 3 true [.trc r2, .trc r3]).db = [r1, r2, r3] := by rfl
-- a wrong TRC at the second step: the first is kept, the loop stops, the result is an error
example : (notify exVer [r1] 1 1 3 true [.trc r2, .trc r3bad]).db = [r1, r2] ∧
    (notify exVer [r1] 1 1 3 true [.trc r2, .trc r3bad]).out = .loop .verifyErr ∧
    (notify exVer [r1] 1 1 3 true [.trc r2, .trc r3bad, .trc r3]).fetches = 2 := by
  refine ⟨rfl, rfl, rfl⟩
-- a fetch error at the first step: nothing stored
example : (notify exVer [r1] 1 1 3 true [.err, .trc r2]).db = [r1] := by rfl
-- another base number
example : (notify exVer [r1] 1 2 3 true [.trc r2]).out = .baseMismatch := by rfl
-- a future TRC on disk is ignored, a current one is loaded
example : (load [] [.trc r2 true, .trc r1 false]).db = [r1] := by rfl

end Scion.C35
