import Scion.Model.Plumb
import Scion.Gen.Plumb
/-!
# C17 — configured socket buffer sizes reach the matching socket option

*Statement.* For every router configuration, the configured receive buffer size is requested as
the receive buffer and the configured send buffer size as the send buffer of every underlay
socket the router opens (internal, sibling and external links).

Two layers:

* `Scion.Plumb` is the hand-written model (tied to the running code by engine `rcfg`: a spy
  `ConnOpener` records the `conn.Config` of every socket of every link kind for all three
  provider-factory call sites and for the real start-up path);
* `Scion.Gen.Plumb` is **regenerated from the Go AST on every run**: the `RunConfig` literal of
  `NewConnector`, the positional arguments of each provider-factory call in `dataplane.go`, the
  parameter list and struct literal of `udpip.newProvider`, the `conn.Config` literal at each
  `connOpener.Open` call and the `Set{Read,Write}Buffer` calls of `initConnUDP`.  The theorems
  `gen_*` below are statements about *that* text, so a reordering anywhere along the chain makes
  the kernel reject them.
-/
namespace Scion.C17

section Model
open Scion.Plumb

/-- every socket, whichever factory call site created its provider and whichever `Open` call
created it, is opened with exactly the configured sizes, each in its own field -/
theorem plumb_correct (s : Site) (o : OpenSite) (rc : RunConfig) :
    (plumb s o rc).receiveBufferSize = rc.rcv ∧ (plumb s o rc).sendBufferSize = rc.snd := by
  cases s <;> cases o <;> exact ⟨rfl, rfl⟩

/-- and the kernel is asked for them under the matching option (a size of 0 leaves the system
default untouched, as documented for the configuration keys) -/
theorem sockopts_correct (s : Site) (o : OpenSite) (rc : RunConfig) :
    (sockOpts (plumb s o rc)).soRcvBuf = (if rc.rcv ≠ 0 then some rc.rcv else none) ∧
    (sockOpts (plumb s o rc)).soSndBuf = (if rc.snd ≠ 0 then some rc.snd else none) := by
  cases s <;> cases o <;> exact ⟨rfl, rfl⟩

/-- the batch size does not leak into either buffer size -/
theorem plumb_ignores_batch (s : Site) (o : OpenSite) (rc : RunConfig) (b : Int) :
    plumb s o { rc with batch := b } = plumb s o rc := by
  cases s <;> cases o <;> rfl

end Model

/-! ### the same, about the text of the source (T3) -/

namespace Gen
open Scion.Gen.Plumb

/-- apply the factory to the positional arguments of a call site -/
def applyFactory : List Int → Option Provider
  | [a, b, c] => some (newProvider a b c)
  | _ => none

/-- the chain from the router configuration to the two socket options, through call site `site`
and `Open` call `open_` -/
def effective (site : RunConfig → List Int) (open_ : Provider → ConnConfig) (config : RouterConfig) :
    Option (Option Int × Option Int) :=
  (applyFactory (site (newConnectorRunConfig config))).map
    (fun u => (soRcvBuf (open_ u), soSndBuf (open_ u)))

/-- what C17 demands of it -/
def Spec (config : RouterConfig) : Option (Option Int × Option Int) :=
  some (if config.ReceiveBufferSize ≠ 0 then some config.ReceiveBufferSize else none,
        if config.SendBufferSize ≠ 0 then some config.SendBufferSize else none)

end Gen

open Scion.Gen.Plumb in
/-- the two options after all of `initConnUDP`'s calls, each as a function of its own field -/
theorem requested_eq (c : ConnConfig) :
    requested c = (if c.ReceiveBufferSize ≠ 0 then some c.ReceiveBufferSize else none,
      if c.SendBufferSize ≠ 0 then some c.SendBufferSize else none) := by
  unfold requested
  split <;> split <;> rfl

open Scion.Gen.Plumb in
/-- **T3.** For every provider-factory call site and every `Open` call found in the current
source, the configured receive size is what `SetReadBuffer` gets and the configured send size is
what `SetWriteBuffer` gets. -/
theorem gen_plumb_correct (config : RouterConfig) :
    ∀ site ∈ sites, ∀ o ∈ opens, Gen.effective site o config = Gen.Spec config := by
  intro site hs o ho
  simp only [sites, opens, List.mem_cons, List.not_mem_nil, or_false] at hs ho
  -- each chain evaluates to `some ((requested c).1, (requested c).2)` with the configured sizes in `c`
  rcases hs with rfl | rfl | rfl <;> rcases ho with rfl | rfl <;> exact congrArg some (requested_eq _)

def optIsReceive : String → Option Bool
  | "SO_RCVBUF" => some true
  | "SO_RCVBUFFORCE" => some true
  | "SO_SNDBUF" => some false
  | "SO_SNDBUFFORCE" => some false
  | _ => none

open Scion.Gen.Plumb in
/-- **T3.** Every call of `initConnUDP` that sets a buffer-size option (plain, forced, retried …)
sets a *receive* option from `cfg.ReceiveBufferSize` inside the `cfg.ReceiveBufferSize != 0`
block, or a *send* option from `cfg.SendBufferSize` inside the `cfg.SendBufferSize != 0` block;
and both directions are set at least once. -/
theorem gen_sockopt_calls :
    bufSetCalls.all (fun (g, _, opt, field) =>
      g == field &&
      (optIsReceive opt == some (field == "ReceiveBufferSize")) &&
      (field == "ReceiveBufferSize" || field == "SendBufferSize")) = true ∧
    bufSetCalls.any (fun (_, _, opt, _) => optIsReceive opt == some true) = true ∧
    bufSetCalls.any (fun (_, _, opt, _) => optIsReceive opt == some false) = true := by
  decide

open Scion.Gen.Plumb in
/-- **T3.** The shape the model was written against: three call sites (construction, external
interface, next hop), two `Open` calls, the factory is what `udpip` registers, and the default
opener hands the configuration on untouched. -/
theorem gen_shape :
    siteNames = ["makeDataPlane", "AddExternalInterface", "AddNextHop"] ∧
    openNames = ["newConnectedLink", "NewInternalLink"] ∧
    newProviderParams = ["batchSize", "receiveBufferSize", "sendBufferSize"] ∧
    registrations = [["router.AddUnderlay", "\"udpip\"", "newProvider"]] ∧
    defaultOpenerParams = ["l", "r", "c"] ∧
    defaultOpenerCalls = [["conn.New", "l", "r", "c"]] :=
  ⟨rfl, rfl, rfl, rfl, rfl, rfl⟩

open Scion.Gen.Plumb in
/-- **T3 ↔ model.** The generated chain and the hand-written model agree on every configuration
(so the T1 tie of the model is a tie of the generated text as well). -/
theorem gen_eq_model (config : RouterConfig) (s : Plumb.Site) (o : Plumb.OpenSite) :
    ∀ site ∈ sites, ∀ op ∈ opens,
      Gen.effective site op config =
        some ((Plumb.sockOpts (Plumb.plumb s o ⟨config.BatchSize, config.ReceiveBufferSize,
                  config.SendBufferSize⟩)).soRcvBuf,
              (Plumb.sockOpts (Plumb.plumb s o ⟨config.BatchSize, config.ReceiveBufferSize,
                  config.SendBufferSize⟩)).soSndBuf) := by
  intro site hs op ho
  rw [gen_plumb_correct config site hs op ho, (sockopts_correct s o _).1, (sockopts_correct s o _).2]
  rfl

/-! ### non-vacuity -/

/-- distinct sizes tell the two fields apart (`ConnConfig` lists send first): receive 1111 and
send 2222 arrive as receive 1111 and send 2222 -/
example : (Plumb.plumb .addNextHop .connectedLink ⟨64, 1111, 2222⟩) = ⟨2222, 1111⟩ := rfl

example : Gen.effective Scion.Gen.Plumb.site0_makeDataPlane Scion.Gen.Plumb.open_NewInternalLink
    ⟨1, 1, 64, 1111, 0⟩ = some (some 1111, none) := by decide

end Scion.C17
