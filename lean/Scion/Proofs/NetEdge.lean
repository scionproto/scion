import Scion.Proofs.NetSpec
/-! From joinable edge lists (no peering) to segment descriptions: C02 for all of them, and C03 through the mirror
image of a path, which is again a well-formed path. -/
namespace Scion.Net
open Scion.SegID (updateSegID extractBeta xorAll calculateBeta)

theorem getLast?_cons_snoc {α} (x : α) (mid : List α) (last : α) :
    (x :: (mid ++ [last])).getLast? = some last :=
  List.getLast?_concat (l := x :: mid)

theorem getLast?_pre_cons_snoc {α} (pre : List α) (x : α) (mid : List α) (last : α) :
    (pre ++ x :: (mid ++ [last])).getLast? = some last := by
  rw [List.getLast?_append, getLast?_cons_snoc]; simp

theorem getLast?_cons_getLastD {α} (x : α) (rest : List α) : (x :: rest).getLast? = some (rest.getLastD x) := by
  rw [List.getLast?_cons, List.getLastD_eq_getLast?]

theorem exists_snoc {α} (y : α) (r : List α) : ∃ mid last, y :: r = mid ++ [last] :=
  ⟨(y :: r).dropLast, (y :: r).getLast (by simp), (List.dropLast_concat_getLast (by simp)).symm⟩

theorem nodup_rev {α} (l : List α) (h : l.Nodup) : l.reverse.Nodup := by
  simpa [List.Nodup, List.pairwise_reverse] using h.imp (fun hab => Ne.symm hab)

/-! ### The entries of an edge -/

theorem sigmas_eq (s : PSeg) : sigmas s = sig s.entries := rfl

theorem chain_ceg_ne (mac : MacFn) (net : Net) (core : Bool) (ts : Nat) (l : List ASE) :
    ∀ (β : Nat) (last : ASE), Chain mac net core ts β (l ++ [last]) → ∀ y ∈ l, y.hop.cEg ≠ 0 := by
  induction l with
  | nil => intro β last _ y hy; simp at hy
  | cons x xs ih =>
    intro β last hc y hy
    have hne : xs ++ [last] = firstOf xs last :: (xs ++ [last]).tail := by
      cases xs <;> simp [firstOf]
    simp only [List.cons_append] at hc
    rw [hne] at hc
    simp only [Chain] at hc
    obtain ⟨_, ⟨f, _, _, _, _, h0⟩, hrest⟩ := hc
    rw [← hne] at hrest
    simp only [List.mem_cons] at hy
    rcases hy with rfl | hy
    · exact h0
    · exact ih _ last hrest y hy

theorem edge_split_at (e : Edge) (h : e.shortcut < e.seg.entries.length) :
    ∃ pre x rest, e.seg.entries = pre ++ x :: rest ∧ pre.length = e.shortcut := by
  obtain ⟨x, rest, hd⟩ : ∃ x rest, e.seg.entries.drop e.shortcut = x :: rest := by
    cases hh : e.seg.entries.drop e.shortcut with
    | nil => simp at hh; omega
    | cons x rest => exact ⟨x, rest, rfl⟩
  exact ⟨e.seg.entries.take e.shortcut, x, rest, by rw [← hd, List.take_append_drop], by simp; omega⟩

theorem edge_split (e : Edge) (h1 : e.shortcut + 1 < e.seg.entries.length) :
    ∃ pre x mid last, e.seg.entries = pre ++ x :: (mid ++ [last]) ∧ pre.length = e.shortcut := by
  obtain ⟨pre, x, rest, hent, hpl⟩ := edge_split_at e (by omega)
  cases rest with
  | nil =>
    have := congrArg List.length hent
    simp only [List.length_append, List.length_cons, List.length_nil] at this
    omega
  | cons y r =>
    obtain ⟨mid, last, hml⟩ := exists_snoc y r
    exact ⟨pre, x, mid, last, by rw [hent, hml], hpl⟩

/-- metadata interfaces of the ASes after the first one of a down traversal -/
theorem ifaces_down_tail (mid : List ASE) (last : ASE) (hm : ∀ y ∈ mid, y.hop.cEg ≠ 0)
    (hl : last.hop.cEg = 0) :
    ((mid ++ [last]).map fun y =>
        [(y.ia, y.hop.cIn)] ++ (if y.hop.cEg ≠ 0 then [(y.ia, y.hop.cEg)] else [])).flatten =
      ((firstOf mid last).ia, (firstOf mid last).hop.cIn) :: fTrace true mid last := by
  induction mid with
  | nil => simp [firstOf, fTrace, hl]
  | cons y ys ih =>
    have hy := hm y (by simp)
    rw [List.cons_append, List.map_cons, List.flatten_cons, ih (fun z hz => hm z (by simp [hz]))]
    simp [firstOf, fTrace, outF, inF, hy]

/-! ## The mirror image of a segment -/

theorem usedAt_mirror (cd : Bool) (seg : Nat) (e : ASE) :
    usedAt (!cd) (updateSegID seg (pfx e.hop.mac)) e = usedAt cd seg e := by
  cases cd <;> simp [usedAt, updateSegID, Scion.SegID.xor_cancel]

theorem fl_snoc (mac : MacFn) (net : Net) (core cd : Bool) (ts : Nat) (r : List ASE) :
    ∀ (b : Nat) (lastR x : ASE), r.getLast? = some lastR → FL mac net core cd ts b r →
      LinkF net core cd lastR x → MacAt mac net ts (usedAt cd (extractBeta b (sig r)) x) x →
      FL mac net core cd ts b (r ++ [x]) := by
  induction r with
  | nil => intro b lastR x hl; simp at hl
  | cons y ys ih =>
    intro b lastR x hl hc hlink hm
    cases ys with
    | nil =>
      simp at hl
      subst hl
      simp only [List.cons_append, List.nil_append, FL]
      refine ⟨hc, hlink, ?_⟩
      simpa [sig, extractBeta, FL] using hm
    | cons z zs =>
      obtain ⟨h1, h2, h3⟩ := hc
      simp only [List.cons_append, FL]
      refine ⟨h1, h2, ?_⟩
      apply ih _ lastR x (by simpa using hl) h3 hlink
      simpa [sig, extractBeta] using hm

/-- a segment read from the other end is a segment of the opposite direction -/
theorem fl_mirror (mac : MacFn) (net : Net) (core cd : Bool) (ts : Nat) (l : List ASE) :
    ∀ seg, FL mac net core cd ts seg l →
      FL mac net core (!cd) ts (extractBeta seg (sig l)) l.reverse := by
  induction l with
  | nil => intro _ _; trivial
  | cons x xs ih =>
    intro seg hc
    cases xs with
    | nil =>
      simp only [List.reverse_cons, List.reverse_nil, List.nil_append, FL, sig, List.map, extractBeta,
        List.foldl]
      rw [usedAt_mirror]
      exact hc
    | cons y ys =>
      obtain ⟨h1, h2, h3⟩ := hc
      have ih' := ih _ h3
      have hb : extractBeta seg (sig (x :: y :: ys)) =
          extractBeta (updateSegID seg (pfx x.hop.mac)) (sig (y :: ys)) := by
        simp [sig, extractBeta]
      rw [hb, List.reverse_cons]
      apply fl_snoc mac net core (!cd) ts _ _ y x (by simp) ih' (linkF_symm net core cd x y h2)
      rw [sig_reverse, Scion.SegID.extractBeta_eq _ (sig (y :: ys)).reverse,
        Scion.SegID.xorAll_reverse, Scion.SegID.extractBeta_eq _ (sig (y :: ys))]
      have : updateSegID seg (pfx x.hop.mac) ^^^ xorAll (sig (y :: ys)) ^^^ xorAll (sig (y :: ys)) =
          updateSegID seg (pfx x.hop.mac) := Scion.SegID.xor_cancel _ _
      rw [this, usedAt_mirror]
      exact h1

def SegSpec.mirror (s : SegSpec) : SegSpec :=
  ⟨!s.cd, s.core, s.ts, extractBeta s.seg0 (sig s.l), s.last, s.mid.reverse, s.e0⟩

theorem mirror_l (s : SegSpec) : s.mirror.l = s.l.reverse := by
  simp [SegSpec.mirror, SegSpec.l]

theorem mirror_fl (mac : MacFn) (net : Net) (s : SegSpec)
    (h : FL mac net s.core s.cd s.ts s.seg0 s.l) :
    FL mac net s.mirror.core s.mirror.cd s.mirror.ts s.mirror.seg0 s.mirror.l := by
  rw [mirror_l]
  exact fl_mirror mac net s.core s.cd s.ts s.l s.seg0 h

theorem trace_link (s : SegSpec) : s.trace = linkTrace s.cd s.l := by
  cases hm : s.mid with
  | nil => simp [SegSpec.trace, SegSpec.l, hm, linkTrace, fTrace, firstOf]
  | cons y ys =>
    have := fTrace_link s.cd (y :: ys) s.last
    simp only [SegSpec.trace, SegSpec.l, hm, firstOf, List.cons_append] at this ⊢
    simp [linkTrace, this]

theorem trace_mirror (s : SegSpec) : s.mirror.trace = s.trace.reverse := by
  rw [trace_link, trace_link, mirror_l]
  exact linkTrace_reverse s.cd s.l

theorem mirror_seg (cd : Bool) (seg0 : Nat) (e0 : ASE) (mid : List ASE) (last : ASE) :
    usedAt (!cd) (extractBeta seg0 (sig (e0 :: (mid ++ [last])))) last =
      usedAt cd (extractBeta (updateSegID seg0 (pfx e0.hop.mac)) (sig mid)) last := by
  have h : extractBeta seg0 (sig (e0 :: (mid ++ [last]))) =
      updateSegID (extractBeta (updateSegID seg0 (pfx e0.hop.mac)) (sig mid)) (pfx last.hop.mac) := by
    simp [sig, extractBeta, List.foldl_append]
  rw [h, usedAt_mirror]

/-- the used part of an edge without peering, in construction order, with the interfaces of the path
    metadata when it is used in that order -/
theorem edge_facts (mac : MacFn) (net : Net) (e : Edge) (hpeer : e.peer = none) (hval : e.Valid mac net) :
    ∃ pre x mid last, e.seg.entries = pre ++ x :: (mid ++ [last]) ∧ pre.length = e.shortcut ∧
      Chain mac net e.core e.seg.ts (extractBeta e.seg.s0 (sig pre)) (x :: (mid ++ [last])) ∧
      edgeIfaces { e with down := true } = (x.ia, x.hop.cEg) ::
        ((firstOf mid last).ia, (firstOf mid last).hop.cIn) :: fTrace true mid last := by
  obtain ⟨hreg, _, _, hlen, _⟩ := hval
  obtain ⟨pre, x, mid, last, hent, hpl⟩ := edge_split e (hlen hpeer)
  obtain ⟨hchain, _, ⟨last', hlast', hlast0⟩, _⟩ := registered_chain mac net e.core e.seg hreg
  rw [hent] at hchain
  have hl' : last' = last := by
    rw [hent, getLast?_pre_cons_snoc] at hlast'; cases hlast'; rfl
  subst hl'
  have hdrop : e.seg.entries.drop e.shortcut = x :: (mid ++ [last']) := by
    rw [hent, ← hpl]; simp
  have hc1 := chain_drop mac net e.core e.seg.ts e.seg.s0 pre _ hchain
  refine ⟨pre, x, mid, last', hent, hpl, hc1, ?_⟩
  have hce := chain_ceg_ne mac net e.core e.seg.ts (x :: mid) (extractBeta e.seg.s0 (sig pre)) last'
    (by simpa using hc1)
  have hx0 : x.hop.cEg ≠ 0 := hce x (by simp)
  have := ifaces_down_tail mid last' (fun y hy => hce y (by simp [hy])) hlast0
  simp only [edgeIfaces, hdrop, hpeer, if_true, hx0, ne_eq, not_false_eq_true, this]
  simp

theorem edgeIfaces_flip (e : Edge) :
    edgeIfaces { e with down := !e.down } = (edgeIfaces e).reverse := by
  simp only [edgeIfaces]
  cases e.down <;> (split <;> simp)

/-! ## From joinable edge lists (no peering) to segment descriptions, and C02 for all of them -/

/-- an edge without peering, described as a `SegSpec`: in construction direction the chain of its
    entries, against it the mirror image of that -/
theorem edge_spec (mac : MacFn) (net : Net) (hWF : WFNet net) (e : Edge) (hpeer : e.peer = none)
    (hval : e.Valid mac net) :
    ∃ s : SegSpec, s.cd = e.down ∧ s.core = e.core ∧ s.ts = e.seg.ts ∧ edgeSeg e = some s.toSeg ∧
      FL mac net s.core s.cd s.ts s.seg0 s.l ∧ e.ases = s.l.map (·.ia) ∧ edgeIfaces e = s.trace := by
  obtain ⟨pre, x, mid, last, hent, hpl, hc, hi⟩ := edge_facts mac net e hpeer hval
  have hdrop : e.seg.entries.drop e.shortcut = x :: (mid ++ [last]) := by rw [hent, ← hpl]; simp
  have hfl := chain_FL mac net e.core e.seg.ts hWF _ _ hc
  have htr : edgeIfaces { e with down := true } =
      SegSpec.trace ⟨true, e.core, e.seg.ts, extractBeta e.seg.s0 (sig pre), x, mid, last⟩ := by
    rw [hi]; simp [SegSpec.trace, outF, inF]
  cases hd : e.down with
  | true =>
    have hcalc : calculateBeta true e.shortcut false e.seg.s0 (sigmas e.seg) =
        some (extractBeta e.seg.s0 (sig pre)) := by
      rw [sigmas_eq, hent, ← hpl]
      have := Scion.SegID.calc_down e.seg.s0 (sig pre) (pfx x.hop.mac) (sig (mid ++ [last])) false
      simpa [sig] using this
    refine ⟨⟨true, e.core, e.seg.ts, extractBeta e.seg.s0 (sig pre), x, mid, last⟩, rfl, rfl, rfl, ?_,
      hfl, ?_, ?_⟩
    · simp [edgeSeg, edgeHops, hd, hpeer, hdrop, hcalc, SegSpec.toSeg, SegSpec.hops, SegSpec.l, usedAt]
    · simp [Edge.ases, Edge.used, hd, hdrop, SegSpec.l]
    · rw [← htr, ← hd]
  | false =>
    have hcalc : calculateBeta false e.shortcut false e.seg.s0 (sigmas e.seg) =
        some (updateSegID (extractBeta e.seg.s0 (sig pre)) (pfx x.hop.mac) ^^^ xorAll (sig mid)) := by
      rw [sigmas_eq, hent, ← hpl]
      have := Scion.SegID.calc_up_multi e.seg.s0 (sig pre) (pfx x.hop.mac) (pfx last.hop.mac) (sig mid) false
      simpa [sig] using this
    refine ⟨SegSpec.mirror ⟨true, e.core, e.seg.ts, extractBeta e.seg.s0 (sig pre), x, mid, last⟩, rfl, rfl,
      rfl, ?_, mirror_fl mac net _ hfl, ?_, ?_⟩
    · have hseg : usedAt false (extractBeta (extractBeta e.seg.s0 (sig pre)) (sig (x :: (mid ++ [last])))) last =
          updateSegID (extractBeta e.seg.s0 (sig pre)) (pfx x.hop.mac) ^^^ xorAll (sig mid) := by
        show updateSegID (extractBeta _ (sig ((x :: mid) ++ [last]))) (pfx last.hop.mac) = _
        rw [extractBeta_sig_snoc, ← Scion.SegID.extractBeta_eq]
        rfl
      simp [edgeSeg, edgeHops, hd, hpeer, hdrop, hcalc, SegSpec.toSeg, SegSpec.hops,
        List.map_reverse, SegSpec.mirror, SegSpec.l, hseg]
    · rw [mirror_l]
      simp [Edge.ases, Edge.used, hd, hdrop, SegSpec.l, List.map_reverse]
    · obtain ⟨sg, co, dn, sc, pe⟩ := e
      cases hd
      rw [trace_mirror, ← htr]
      exact edgeIfaces_flip ⟨sg, co, true, sc, pe⟩

/-- links and joints of a list of segment descriptions (no distinctness, no expiry) -/
def SpecsLink (mac : MacFn) (net : Net) : SegSpec → List SegSpec → Prop
  | s, [] => FL mac net s.core s.cd s.ts s.seg0 s.l
  | s, s2 :: r =>
    FL mac net s.core s.cd s.ts s.seg0 s.l ∧ s.last.ia = s2.e0.ia ∧ XLT s s2 ∧ SpecsLink mac net s2 r

def specASes : SegSpec → List SegSpec → List Nat
  | s, [] => s.l.map (·.ia)
  | s, s2 :: r => (s.e0 :: s.mid).map (·.ia) ++ specASes s2 r

def specIfaces (s : SegSpec) (rest : List SegSpec) : List (Nat × Nat) :=
  s.trace ++ (rest.map SegSpec.trace).flatten

def skind (s : SegSpec) : Nat := if s.core then 1 else if s.cd then 2 else 0

theorem xlt_of_kind (s s2 : SegSpec) (h : skind s < skind s2) : XLT s s2 := by
  intro a b ha hb
  rw [(InLT_iff _ _ a).1 ha, (EgLT_iff _ _ b).1 hb]
  exact ltXover_table _ _ _ _ h

theorem getLast?_l (s : SegSpec) : (s.l.map (·.ia)).getLast? = some s.last.ia := by
  simp only [SegSpec.l, List.map_cons, List.map_append, List.map_nil]
  exact getLast?_cons_snoc _ _ _

theorem dropLast_l (s : SegSpec) : (s.l.map (·.ia)).dropLast = (s.e0 :: s.mid).map (·.ia) := by
  simp only [SegSpec.l]
  rw [show s.e0 :: (s.mid ++ [s.last]) = (s.e0 :: s.mid) ++ [s.last] by simp, List.map_append]
  exact List.dropLast_concat

theorem edges_specs (mac : MacFn) (net : Net) (hWF : WFNet net) (es : List Edge) :
    ∀ (e : Edge), (∀ x ∈ e :: es, x.peer = none ∧ x.Valid mac net) → Joints (e :: es) →
      ∃ s rest, segsOf (e :: es) = some ((s :: rest).map SegSpec.toSeg) ∧ SpecsLink mac net s rest ∧
        pathASes (e :: es) = specASes s rest ∧ pathIfaces (e :: es) = specIfaces s rest ∧
        skind s = e.kind ∧ e.ases = s.l.map (·.ia) := by
  induction es with
  | nil =>
    intro e hall _
    obtain ⟨hp, hv⟩ := hall e (by simp)
    obtain ⟨s, h1, h2, _, h4, h5, h6, h7⟩ := edge_spec mac net hWF e hp hv
    refine ⟨s, [], ?_, h5, ?_, ?_, ?_, h6⟩
    · simp [segsOf, h4]
    · simp [pathASes, specASes, h6]
    · simp [pathIfaces, specIfaces, h7]
    · simp [skind, Edge.kind, h1, h2]
  | cons e2 es ih =>
    intro e hall hj
    obtain ⟨hp, hv⟩ := hall e (by simp)
    obtain ⟨s, h1, h2, _, h4, h5, h6, h7⟩ := edge_spec mac net hWF e hp hv
    obtain ⟨s2, rest, g1, g2, g3, g4, g5, g6⟩ := ih e2 (fun x hx => hall x (by simp [hx])) hj.2
    have hp2 := (hall e2 (by simp)).1
    have hjt := hj.1
    simp only [Joint, hp, hp2] at hjt
    have hks : skind s = e.kind := by simp [skind, Edge.kind, h1, h2]
    have he2 : e2.ases.head? = some s2.e0.ia := by rw [g6]; simp [SegSpec.l]
    refine ⟨s, s2 :: rest, ?_, ⟨h5, ?_, xlt_of_kind s s2 (by rw [hks, g5]; exact hjt.2), g2⟩, ?_, ?_, hks, h6⟩
    · have : segsOf (e :: e2 :: es) = (match edgeSeg e, segsOf (e2 :: es) with
          | some s, some r => some (s :: r)
          | _, _ => none) := rfl
      rw [this, h4, g1]; rfl
    · have := hjt.1
      rw [h6, getLast?_l, he2] at this
      simpa using this
    · simp only [pathASes, hp, Option.isSome_none, Bool.false_eq_true, if_false, h6, dropLast_l,
        specASes, g3]
    · simp only [pathIfaces, List.map_cons, List.flatten_cons, h7, specIfaces] at g4 ⊢
      rw [g4]

def tailAS : SegSpec → List SegSpec → List Nat
  | s, [] => (s.mid ++ [s.last]).map (·.ia)
  | s, s2 :: r => (s.mid ++ [s.last]).map (·.ia) ++ tailAS s2 r

theorem specASes_eq (mac : MacFn) (net : Net) (rest : List SegSpec) : ∀ s : SegSpec,
    SpecsLink mac net s rest → specASes s rest = s.e0.ia :: tailAS s rest := by
  induction rest with
  | nil => intro s _; simp [specASes, tailAS, SegSpec.l]
  | cons s2 r ih =>
    intro s h
    obtain ⟨_, hj, _, h2⟩ := h
    simp only [specASes, tailAS, ih s2 h2, ← hj]
    simp

theorem tailAS_getLast (rest : List SegSpec) : ∀ s : SegSpec, ∃ d, (tailAS s rest).getLast? = some d := by
  induction rest with
  | nil => intro s; exact ⟨s.last.ia, by simp [tailAS]⟩
  | cons s2 r ih =>
    intro s
    obtain ⟨d, hd⟩ := ih s2
    exact ⟨d, by rw [tailAS, List.getLast?_append, hd]; rfl⟩

def SpecsExp (now : Nat) (s : SegSpec) (rest : List SegSpec) : Prop :=
  ∀ sp ∈ s :: rest, ∀ e ∈ sp.l, expired now sp.ts e.hop.exp = false

theorem tailOK_of (mac : MacFn) (net : Net) (now src dst : Nat) (rest : List SegSpec) :
    ∀ s : SegSpec, SpecsLink mac net s rest → SpecsExp now s rest → src ∉ tailAS s rest →
      (tailAS s rest).Nodup → (tailAS s rest).getLast? = some dst →
      TailOK mac net now src dst s rest := by
  induction rest with
  | nil =>
    intro s hl hexp hsrc hnd hlast
    have hd : dst = s.last.ia := by
      simp [tailAS] at hlast; exact hlast.symm
    refine ⟨hl, ?_, hexp s (by simp) s.last (by simp [SegSpec.l]), hd⟩
    intro e he
    refine ⟨?_, ?_, hexp s (by simp) e (by simp [SegSpec.l, he])⟩
    · intro h; exact hsrc (by simp only [tailAS, List.map_append, List.mem_append, List.mem_map]
                              exact Or.inl ⟨e, he, h⟩)
    · simp only [tailAS, List.map_append, List.map_cons, List.map_nil, List.nodup_append] at hnd
      rw [hd]
      exact hnd.2.2 e.ia (List.mem_map.2 ⟨e, he, rfl⟩) s.last.ia (by simp)
  | cons s2 r ih =>
    intro s hl hexp hsrc hnd hlast
    obtain ⟨hfl, hj, hx, hl2⟩ := hl
    simp only [tailAS] at hsrc hnd hlast
    obtain ⟨d', hd'⟩ := tailAS_getLast r s2
    have hlastB : (tailAS s2 r).getLast? = some dst := by
      rw [List.getLast?_append, hd'] at hlast
      simp at hlast; rw [hd', hlast]
    have hdB : dst ∈ tailAS s2 r := List.mem_of_getLast? hlastB
    have hndA := (List.nodup_append.1 hnd)
    have hA : ∀ e ∈ s.mid ++ [s.last], e.ia ≠ src ∧ e.ia ≠ dst := by
      intro e he
      refine ⟨?_, ?_⟩
      · intro h; exact hsrc (List.mem_append.2 (Or.inl (List.mem_map.2 ⟨e, he, h⟩)))
      · exact hndA.2.2 e.ia (List.mem_map.2 ⟨e, he, rfl⟩) dst hdB
    refine ⟨hfl, ?_, hexp s (by simp) s.last (by simp [SegSpec.l]), (hA s.last (by simp)).1,
      (hA s.last (by simp)).2, hj, hexp s2 (by simp) s2.e0 (by simp [SegSpec.l]), hx, ?_⟩
    · intro e he
      exact ⟨(hA e (by simp [he])).1, (hA e (by simp [he])).2, hexp s (by simp) e (by simp [SegSpec.l, he])⟩
    · exact ih s2 hl2 (fun sp hsp => hexp sp (by simp at hsp ⊢; exact Or.inr hsp))
        (fun h => hsrc (List.mem_append.2 (Or.inr h))) hndA.2.1 hlastB

/-- a well-linked, unexpired list of segment descriptions whose ASes are pairwise distinct is a good path from
    its first AS to its last -/
theorem pathOK_of (mac : MacFn) (net : Net) (now src dst : Nat) (s : SegSpec) (rest : List SegSpec)
    (hl : SpecsLink mac net s rest) (hexp : SpecsExp now s rest)
    (hhead : (specASes s rest).head? = some src) (hlast : (specASes s rest).getLast? = some dst)
    (hnd : (specASes s rest).Nodup) : PathOK mac net now src dst s rest := by
  rw [specASes_eq mac net rest s hl] at hhead hlast hnd
  have hsrc : src = s.e0.ia := by simp at hhead; exact hhead.symm
  obtain ⟨d', hd'⟩ := tailAS_getLast rest s
  have hlastT : (tailAS s rest).getLast? = some dst := by
    rw [List.getLast?_cons, hd'] at hlast
    simp at hlast; rw [hd', hlast]
  have hnd' := List.nodup_cons.1 hnd
  exact ⟨fun h => hnd'.1 (by rw [← hsrc, h]; exact List.mem_of_getLast? hlastT), hsrc,
    hexp s (by simp) s.e0 (by simp [SegSpec.l]),
    tailOK_of mac net now src dst rest s hl hexp (by rw [hsrc]; exact hnd'.1) hnd'.2 hlastT⟩

theorem tailTrace_eq (mac : MacFn) (net : Net) (rest : List SegSpec) : ∀ s : SegSpec,
    SpecsLink mac net s rest →
    tailTrace s rest = fTrace s.cd s.mid s.last ++ (rest.map SegSpec.trace).flatten := by
  induction rest with
  | nil => intro s _; simp [tailTrace]
  | cons s2 r ih =>
    intro s h
    obtain ⟨_, hj, _, h2⟩ := h
    simp only [tailTrace, ih s2 h2, List.map_cons, List.flatten_cons, SegSpec.trace, hj]
    simp

/-- one router invocation per hop field is more than `tail_run` needs -/
theorem tailFuel_le (rest : List SegSpec) : ∀ s : SegSpec,
    tailFuel s rest + 1 ≤ (((s :: rest).map SegSpec.toSeg).map (·.hops)).flatten.length := by
  induction rest with
  | nil => intro s; simp [tailFuel, SegSpec.toSeg, SegSpec.hops, SegSpec.l]
  | cons s2 r ih =>
    intro s
    have := ih s2
    simp only [List.map_cons, List.flatten_cons, List.length_append] at this ⊢
    simp [tailFuel, SegSpec.toSeg, SegSpec.hops, SegSpec.l] at this ⊢
    omega

/-- the fuel `send` grants suffices for a path of segment descriptions -/
theorem send_specs (mac : MacFn) (net : Net) (now src dst : Nat) (hUp : AllUp net) (hSR : SingleRouter net)
    (s : SegSpec) (rest : List SegSpec) (hok : PathOK mac net now src dst s rest) :
    send mac net now src dst (pathCur s rest) = .delivered dst (pathTrace s rest) (finalCur rest [] s) := by
  unfold send
  rw [entryRouter_zero net hSR]
  refine (specs_ends hUp hSR s rest hok).of_le ?_
  have h1 : (pathCur s rest).segs = (s :: rest).map SegSpec.toSeg := by
    simp [Cursor.segs, Cursor.curSeg, pathCur, SegSpec.toSeg, SegSpec.hops, SegSpec.l]
  have h2 := tailFuel_le rest s
  rw [fuelFor_eq, h1]; omega

/-- every joinable list of edges without peering — any number of segments in any admissible combination
    (up, core, down, up+core, up+down, core+down, up+core+down and their mirror images), whole or
    cut at shortcut ASes — is described by segment descriptions that make a good path; with one
    border router per AS the packet is delivered, and the delivered packet is `finalCur` -/
theorem nonpeer_specs (mac : MacFn) (net : Net) (now src dst : Nat)
    (hWF : WFNet net) (hUp : AllUp net) (hSR : SingleRouter net)
    (edges : List Edge) (c : Cursor) (hnp : ∀ e ∈ edges, e.peer = none)
    (hJ : Joinable mac net edges src dst) (hp : pathOf edges = some c) (hexp : Unexpired now c) :
    ∃ s rest, c = pathCur s rest ∧ PathOK mac net now src dst s rest ∧
      pathIfaces edges = pathTrace s rest ∧ SpecsLink mac net s rest ∧
      pathASes edges = specASes s rest ∧ SpecsExp now s rest ∧
      send mac net now src dst c = .delivered dst (pathIfaces edges) (finalCur rest [] s) := by
  obtain ⟨hne, _, hval, hjoints, _, hhead, hlast, hnd⟩ := hJ
  cases edges with
  | nil => exact absurd rfl hne
  | cons e es =>
    obtain ⟨s, rest, h1, h2, h3, h4, _, _⟩ := edges_specs mac net hWF es e
      (fun x hx => ⟨hnp x hx, hval x hx⟩) hjoints
    have hc : c = pathCur s rest := by
      simp only [pathOf, h1, pathCur_eq] at hp
      cases hp; rfl
    rw [h3] at hhead hlast hnd
    have hexps : SpecsExp now s rest := by
      intro sp hsp e he
      have hmem : sp.toSeg ∈ c.segs := by
        rw [hc]
        simp only [List.mem_cons] at hsp
        rcases hsp with rfl | hsp
        · simp [Cursor.segs, Cursor.curSeg, pathCur, SegSpec.toSeg, SegSpec.hops, SegSpec.l]
        · simp only [Cursor.segs, pathCur, List.mem_append]
          exact Or.inr (List.mem_map.2 ⟨sp, hsp, rfl⟩)
      have := hexp sp.toSeg hmem (hopOf e.hop) (List.mem_map.2 ⟨e, he, rfl⟩)
      simpa [SegSpec.toSeg, hopOf] using this
    have hok := pathOK_of mac net now src dst s rest h2 hexps hhead hlast hnd
    have hif : pathIfaces (e :: es) = pathTrace s rest := by
      rw [h4, specIfaces, pathTrace, tailTrace_eq mac net rest s h2]
      simp [SegSpec.trace]
    refine ⟨s, rest, hc, hok, hif, h2, h3, hexps, ?_⟩
    rw [hif, hc]
    exact send_specs mac net now src dst hUp hSR s rest hok

/-! ## The mirror image of a path (what the destination sends back after `Decoded.Reverse`) is again a
well-formed path; C03 for paths of any number of segments (no peering) -/

theorem ltXover_symm (a b : LinkType) : ltXover a b = ltXover b a := by
  cases a <;> cases b <;> rfl

theorem xlt_mirror (s s2 : SegSpec) (h : XLT s s2) : XLT s2.mirror s.mirror := by
  intro a b ha hb
  rw [ltXover_symm]
  exact h b a ((EgLT_not _ _ b).1 hb) ((InLT_not _ _ a).1 ha)

/-- the segment descriptions of the way back: reverse the list, mirror every segment -/
def revM : List SegSpec → SegSpec → List SegSpec → SegSpec × List SegSpec
  | [], s, acc => (s.mirror, acc)
  | s2 :: r, s, acc => revM r s2 (s.mirror :: acc)

theorem revM_eq (rest : List SegSpec) : ∀ (s : SegSpec) (acc : List SegSpec),
    (revM rest s acc).1 :: (revM rest s acc).2 = ((s :: rest).map SegSpec.mirror).reverse ++ acc := by
  induction rest with
  | nil => intro s acc; simp [revM]
  | cons s2 r ih => intro s acc; simp [revM, ih]

theorem specsLink_rev (mac : MacFn) (net : Net) (rest : List SegSpec) : ∀ (s : SegSpec) (acc : List SegSpec),
    SpecsLink mac net s rest → SpecsLink mac net s.mirror acc →
    SpecsLink mac net (revM rest s acc).1 (revM rest s acc).2 := by
  induction rest with
  | nil => intro s acc _ h; exact h
  | cons s2 r ih =>
    intro s acc hl hacc
    obtain ⟨_, hj, hx, hl2⟩ := hl
    have hfl2 : FL mac net s2.core s2.cd s2.ts s2.seg0 s2.l := by
      cases r with
      | nil => exact hl2
      | cons _ _ => exact hl2.1
    exact ih s2 (s.mirror :: acc) hl2
      ⟨mirror_fl mac net s2 hfl2, by simpa [SegSpec.mirror] using hj.symm, xlt_mirror s s2 hx, hacc⟩

/-! ### ASes, interfaces and the packet of the way back -/

def restTail : List SegSpec → List Nat
  | [] => []
  | s2 :: r => (s2.mid ++ [s2.last]).map (·.ia) ++ restTail r

theorem tailAS_restTail (rest : List SegSpec) (s : SegSpec) :
    tailAS s rest = (s.mid ++ [s.last]).map (·.ia) ++ restTail rest := by
  induction rest generalizing s with
  | nil => simp [tailAS, restTail]
  | cons s2 r ih => simp [tailAS, restTail, ih s2]

theorem specASes_mirror_acc (s : SegSpec) (acc : List SegSpec) :
    specASes s.mirror acc =
      match acc with
      | [] => (s.l.map (·.ia)).reverse
      | t :: a => ((s.mid ++ [s.last]).map (·.ia)).reverse ++ specASes t a := by
  cases acc with
  | nil => simp [specASes, mirror_l, List.map_reverse]
  | cons t a => simp [specASes, SegSpec.mirror, List.map_reverse]

theorem specASes_revM (rest : List SegSpec) : ∀ (s : SegSpec) (acc : List SegSpec),
    specASes (revM rest s acc).1 (revM rest s acc).2 = (restTail rest).reverse ++ specASes s.mirror acc := by
  induction rest with
  | nil => intro s acc; simp [revM, restTail]
  | cons s2 r ih =>
    intro s acc
    simp only [revM, ih s2 (s.mirror :: acc), restTail, List.reverse_append]
    rw [specASes_mirror_acc s2 (s.mirror :: acc)]
    simp

theorem specASes_rev (mac : MacFn) (net : Net) (s : SegSpec) (rest : List SegSpec)
    (h : SpecsLink mac net s rest) :
    specASes (revM rest s []).1 (revM rest s []).2 = (specASes s rest).reverse := by
  rw [specASes_revM, specASes_mirror_acc, specASes_eq mac net rest s h, tailAS_restTail]
  simp [SegSpec.l]

theorem specIfaces_rev (s : SegSpec) (rest : List SegSpec) :
    specIfaces (revM rest s []).1 (revM rest s []).2 = (specIfaces s rest).reverse := by
  have h : ∀ s rest, specIfaces s rest = ((s :: rest).map SegSpec.trace).flatten := fun _ _ => rfl
  rw [h, h, revM_eq]
  simp [List.reverse_flatten, List.map_reverse, Function.comp_def, trace_mirror]

theorem revSeg_doneSeg (s : SegSpec) : revSeg s.doneSeg = s.mirror.toSeg := by
  simp only [revSeg, SegSpec.doneSeg, SegSpec.toSeg, flipInfo, SegSpec.hops, mirror_l, List.map_reverse]
  simp only [SegSpec.mirror, SegSpec.arrSeg, SegSpec.l, mirror_seg]

/-- the delivered packet, reversed, is the packet path combination would build for the way back -/
theorem reverse_finalCur (rest : List SegSpec) : ∀ (s : SegSpec) (before : List Seg) (acc : List SegSpec),
    acc.map SegSpec.toSeg = before.reverse.map revSeg →
    reverseCursor (finalCur rest before s) = pathCur (revM rest s acc).1 (revM rest s acc).2 := by
  induction rest with
  | nil =>
    intro s before acc hacc
    simp only [finalCur, revM, reverseCursor, pathCur, hacc, flipInfo, List.reverse_nil, List.map_nil]
    simp [SegSpec.mirror, SegSpec.arrSeg, SegSpec.l, mirror_seg, List.map_reverse]
  | cons s2 r ih =>
    intro s before acc hacc
    simp only [finalCur, revM]
    apply ih s2 (before ++ [s.doneSeg]) (s.mirror :: acc)
    simp [hacc, revSeg_doneSeg]

theorem specsExp_rev (now : Nat) (s : SegSpec) (rest : List SegSpec) (h : SpecsExp now s rest) :
    SpecsExp now (revM rest s []).1 (revM rest s []).2 := by
  intro sp hsp e he
  rw [revM_eq, List.append_nil, List.mem_reverse] at hsp
  obtain ⟨t, ht, rfl⟩ := List.mem_map.1 hsp
  rw [mirror_l] at he
  exact h t ht e (List.mem_reverse.1 he)

theorem pathTrace_specIfaces (mac : MacFn) (net : Net) (s : SegSpec) (rest : List SegSpec)
    (h : SpecsLink mac net s rest) : pathTrace s rest = specIfaces s rest := by
  rw [specIfaces, pathTrace, tailTrace_eq mac net rest s h]
  simp [SegSpec.trace]

/-- **the mirror image of a good path is a good path**, from its last AS back to its first -/
theorem pathOK_rev (mac : MacFn) (net : Net) (now src dst : Nat) (s : SegSpec) (rest : List SegSpec)
    (hl : SpecsLink mac net s rest) (hexp : SpecsExp now s rest)
    (hhead : (specASes s rest).head? = some src) (hlast : (specASes s rest).getLast? = some dst)
    (hnd : (specASes s rest).Nodup) :
    PathOK mac net now dst src (revM rest s []).1 (revM rest s []).2 := by
  have hfl : FL mac net s.core s.cd s.ts s.seg0 s.l := by cases rest <;> first | exact hl | exact hl.1
  have hA := specASes_rev mac net s rest hl
  exact pathOK_of mac net now dst src _ _ (specsLink_rev mac net rest s [] hl (mirror_fl mac net s hfl))
    (specsExp_rev now s rest hexp) (by rw [hA, List.head?_reverse]; exact hlast)
    (by rw [hA, List.getLast?_reverse]; exact hhead) (by rw [hA]; exact nodup_rev _ hnd)

theorem tailOK_specsLink (mac : MacFn) (net : Net) (now src dst : Nat) (rest : List SegSpec) :
    ∀ s : SegSpec, TailOK mac net now src dst s rest → SpecsLink mac net s rest := by
  induction rest with
  | nil => intro s h; exact h.1
  | cons s2 r ih =>
    intro s h
    obtain ⟨h1, _, _, _, _, hj, _, hx, h2⟩ := h
    exact ⟨h1, hj, hx, ih s2 h2⟩

end Scion.Net
