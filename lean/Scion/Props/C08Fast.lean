import Scion.Props.C07
/-!
# C08 (fast path) — the SCION-path fast path never crashes and emits well-formed packets

Theorems about `Scion.Model.Router` (byte-level model of `processPkt`/`process`, tied to
`router/dataplane.go` by the engine `router`, see C01). In the model every slice and index the Go
code performs is explicit: `Raw.GetInfoField/GetHopField` (`readInfo`/`readHop`: index error vs.
slice out of range), `Raw.SetInfoField/SetHopField`, `MetaHdr.SerializeTo` (`wrInfo`/`wrHop`/
`wrMeta`) and the explicit `panic` of `ingressInterface()`; an out-of-range access is the outcome
`Disp.crash`. These theorems show it is unreachable for ALL byte strings, and that whatever is
forwarded or delivered decodes again.
-/
namespace Scion.C08Fast
open Scion.Util Scion.Router
open Scion.PathMeta hiding Info

/-- the decoder's guarantee under which the fast path runs: the whole path header (meta line,
NumINF info fields, NumHops hop fields) lies inside the buffer -/
theorem decoder_guarantee (raw : Bytes) (h : Hd) (pm : Hdr) (e : parse raw = .ok h pm) :
    h.pathOff + 4 + 8 * h.numINF + 12 * h.numHops ≤ raw.length := by
  have d := parse_ok_iff.1 e
  rw [← d.hdrLen]; exact d.hdrIn

/-- under that guarantee every field read of the fast path stays inside the buffer: a read either
reports an index error (as `Raw.Get…Field` does) or succeeds — it never slices out of range -/
theorem reads_in_range (h : Hd) (buf : Bytes) (hb : InBuf h buf) (idx : Nat) :
    (readHop h buf idx = .err ∨ ∃ x, readHop h buf idx = .ok x) ∧
    (readInfo h buf idx = .err ∨ ∃ x, readInfo h buf idx = .ok x) :=
  ⟨readHop_inBuf h buf hb idx, readInfo_inBuf h buf hb idx⟩

/-- … and every in-place write (info field, hop field, meta line) at an index on the path is in
range and keeps the length of the buffer, so the guarantee persists from stage to stage -/
theorem writes_in_range (h : Hd) (buf : Bytes) (hb : InBuf h buf) :
    (∀ j i, j < h.numINF → wrInfo h buf j i = some (setInfo h buf j i) ∧
        (setInfo h buf j i).length = buf.length) ∧
    (∀ j x, j < h.numHops → x.mac.length = 6 → wrHop h buf j x = some (setHop h buf j x) ∧
        (setHop h buf j x).length = buf.length) ∧
    (∀ p, wrMeta h buf p = some (setMeta h buf p) ∧ (setMeta h buf p).length = buf.length) := by
  refine ⟨fun j i hj => ?_, fun j x hj hm => ?_, fun p => ?_⟩
  · have := inBuf_info h buf hb j hj
    exact ⟨wrInfo_of_le this, length_setInfo h buf j i this⟩
  · have := inBuf_hop h buf hb j hj
    exact ⟨wrHop_of_le this, length_setHop h buf j x hm this⟩
  · have := inBuf_meta h buf hb
    exact ⟨wrMeta_of_le this, length_setMeta h buf p this⟩

/-- **process_total.** For ALL byte strings, configurations, keys, MAC functions, resolvers,
times and ingress links the fast path answers with one of the documented dispositions — drop,
forward, deliver, router-alert hand-over, or a slow-path request whose SCMP type/code is one of
the documented ones — and never with `crash`. -/
theorem process_total (cfg : Cfg) (mac : Mac) (resolve : Cfg → Hd → ResolveOut) (now : Nat)
    (ing : Ingress) (raw : Bytes) : Documented (processPkt cfg mac resolve now ing raw).1 := by
  unfold processPkt
  cases hp : parse raw with
  | drop => trivial
  | other => trivial
  | ok h pm => exact process_documented (parse_ok_iff.1 hp).inBuf

theorem never_crashes (cfg : Cfg) (mac : Mac) (resolve : Cfg → Hd → ResolveOut) (now : Nat)
    (ing : Ingress) (raw : Bytes) : (processPkt cfg mac resolve now ing raw).1 ≠ .crash := by
  intro hc
  exact (hc ▸ process_total cfg mac resolve now ing raw : Documented .crash)

/-- **forward_output_wellformed.** Every packet the fast path forwards or delivers decodes again
(common header, address header, path, extension headers) to the SAME header — same HdrLen-derived
offsets, PayloadLen consistent with the actual payload, same addresses, NumINF, NumHops, same L4 —
with new pointers that designate a hop of the path and the info field of its segment, moved
forward by at most two hops; the length is unchanged. -/
theorem forward_output_wellformed (cfg : Cfg) (mac : Mac) (resolve : Cfg → Hd → ResolveOut)
    (now : Nat) (ing : Ingress) (raw : Bytes)
    (hacc : (processPkt cfg mac resolve now ing raw).1.accepting = true) :
    ∃ h pm pmF, parse raw = .ok h pm ∧
      parse (processPkt cfg mac resolve now ing raw).2 = .ok h pmF ∧
      FinalMeta h pm pmF ∧ h.pldLenOk = true ∧
      (processPkt cfg mac resolve now ing raw).2.length = raw.length := by
  obtain ⟨h, pm, hp, hout⟩ :=
    Scion.C07.outside_meta_and_infos_unchanged cfg mac resolve now ing raw hacc
  obtain ⟨_, _, hp', e⟩ := processPkt_accepting_inv hacc
  cases hp.symm.trans hp'
  have d := parse_ok_iff.1 hp
  have hacc' := e ▸ hacc
  obtain ⟨n, pmF, hn, f⟩ := accept_frame d.mline d.numHops_le hacc'
  obtain ⟨s0, s1, p⟩ := process_accepting_inv hacc'
  rw [← e] at f
  have hmF := f.dec
  unfold MetaDec at hmF
  exact ⟨h, pm, pmF, hp, hmF ▸ parse_congr hp f.near.1 hout (hmF ▸ f.s0) (hmF ▸ f.s1) (hmF ▸ f.s2),
    f.final hn, (stValidate1_ends.ok p.val).2.2.2, f.near.1⟩

/-! ### non-vacuity -/

example : (∃ h, parse (processPkt Ex.cfg Ex.idMac resolveLocal Ex.now ⟨1, 10⟩ Ex.xover).2 =
      .ok h ⟨1, 3, 2, 2, 0⟩) ∧
    (processPkt Ex.cfg Ex.idMac resolveLocal Ex.now ⟨1, 10⟩ Ex.xover).1 = .forward 2 := by
  rw [Ex.xover_out]
  exact ⟨⟨_, rfl⟩, rfl⟩

/-- a packet whose HdrLen promises more path than the buffer holds is dropped by the decoder -/
example : (processPkt Ex.cfg Ex.idMac resolveLocal Ex.now ⟨1, 10⟩ (Ex.xover.take 100)).1 = .discard := by
  decide

end Scion.C08Fast
