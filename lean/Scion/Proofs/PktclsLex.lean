import Scion.Proofs.Pktcls
import Scion.Proofs.TakeWhile
/-! C43 helper lemmas: the lexer inverts the rendering of printed token lists
(`lex (render (print e)) = print e` for well-formed `e`). -/
namespace Scion.Proofs.PktclsLex
open Scion.Pktcls

/-! ### characters -/

theorem digitChar_facts : ∀ d, d < 10 →
    isDec (digitChar d) = true ∧ isHexC (digitChar d) = true ∧ isLetter (digitChar d) = false ∧
    isWs (digitChar d) = false ∧ (digitChar d).toNat = 48 + d ∧ digitVal (digitChar d) = some d ∧
    (digitChar d = '0' ↔ d = 0) := by decide +kernel

theorem hexChar_facts : ∀ d, d < 16 →
    isHexC (hexChar d) = true ∧ isLetter (hexChar d) = decide (10 ≤ d) ∧
    isDec (hexChar d) = decide (d < 10) ∧ isWs (hexChar d) = false ∧
    digitVal (hexChar d) = some d ∧ hexChar d ≠ '=' ∧ hexChar d ≠ '(' ∧ hexChar d ≠ ')' ∧
    hexChar d ≠ ',' ∧ hexChar d ≠ '-' ∧ hexChar d ≠ '.' ∧ hexChar d ≠ 'l' ∧
    (hexChar d = '0' ↔ d = 0) := by decide +kernel

theorem isDec_hex (c : Char) (h : isDec c = true) : isHexC c = true := by
  simp only [isDec, Bool.and_eq_true, decide_eq_true_eq] at h
  simp [isHexC, digitVal, h.1, h.2]

theorem isDec_notLetter (c : Char) (h : isDec c = true) : isLetter c = false := by
  simp only [isDec, Bool.and_eq_true, decide_eq_true_eq] at h
  simp only [isLetter, Bool.or_eq_false_iff, Bool.and_eq_false_iff, decide_eq_false_iff_not]
  omega

/-- a decimal digit is none of the characters that start a literal token -/
theorem isDec_ne (c : Char) (h : isDec c = true) :
    c ≠ 'c' ∧ c ≠ '=' ∧ c ≠ '(' ∧ c ≠ ')' ∧ c ≠ ',' ∧ c ≠ '-' ∧ c ≠ '.' ∧ c ≠ '/' ∧ c ≠ ' ' := by
  refine ⟨?_, ?_, ?_, ?_, ?_, ?_, ?_, ?_, ?_⟩ <;> (intro hc; subst hc; revert h; decide)

theorem isLetter_ne (c : Char) (h : isLetter c = true) :
    c ≠ '=' ∧ c ≠ '(' ∧ c ≠ ')' ∧ c ≠ ',' ∧ c ≠ '-' ∧ c ≠ '.' ∧ c ≠ '0' ∧ isDec c = false ∧
      isWs c = false := by
  refine ⟨?_, ?_, ?_, ?_, ?_, ?_, ?_, ?_, ?_⟩
  iterate 7 (intro hc; subst hc; revert h; decide)
  · simp only [isLetter, Bool.or_eq_true, Bool.and_eq_true, decide_eq_true_eq] at h
    simp only [isDec, Bool.and_eq_false_iff, decide_eq_false_iff_not]
    omega
  · simp only [isWs, Bool.or_eq_false_iff, beq_eq_false_iff_ne, ne_eq]
    refine ⟨⟨⟨?_, ?_⟩, ?_⟩, ?_⟩ <;> (intro hc; subst hc; revert h; decide)

/-- what may follow a number, a name or a closing token -/
def Sep : List Char → Prop
  | [] => True
  | c :: _ => c = ',' ∨ c = ')' ∨ c = '-'

theorem sep_head (c : Char) (t : List Char) (h : Sep (c :: t)) :
    isDec c = false ∧ isHexC c = false ∧ isLetter c = false ∧ c ≠ '.' ∧ c ≠ 'l' ∧ c ≠ '=' := by
  rcases h with rfl | rfl | rfl <;> decide

theorem sep_stops (r : List Char) (h : Sep r) :
    Stops isDec r ∧ Stops isHexC r ∧ Stops isLetter r := by
  cases r with
  | nil => exact ⟨trivial, trivial, trivial⟩
  | cons c t =>
    obtain ⟨h1, h2, h3, _⟩ := sep_head c t h
    exact ⟨h1, h2, h3⟩

/-! ### decimal numerals -/

theorem decDigits_dec (n : Nat) : ∀ x ∈ decDigits n, isDec x = true := by
  fun_induction decDigits n with
  | case1 n h =>
    intro x hx
    rw [List.mem_singleton.1 hx]
    exact (digitChar_facts n h).1
  | case2 n h ih =>
    intro x hx
    rcases List.mem_append.1 hx with hx | hx
    · exact ih x hx
    · rw [List.mem_singleton.1 hx]
      exact (digitChar_facts _ (Nat.mod_lt n (by decide))).1

theorem decValue_append (xs : List Char) (c : Char) :
    decValue (xs ++ [c]) = decValue xs * 10 + (c.toNat - 48) := by
  simp [decValue, List.foldl_append]

theorem decValue_decDigits (n : Nat) : decValue (decDigits n) = n := by
  fun_induction decDigits n with
  | case1 n h =>
    obtain ⟨_, _, _, _, hn, _⟩ := digitChar_facts n h
    simp [decValue, hn]
  | case2 n h ih =>
    obtain ⟨_, _, _, _, hn, _⟩ := digitChar_facts (n % 10) (Nat.mod_lt n (by decide))
    rw [decValue_append, ih, hn]
    omega

theorem decDigits_head (n : Nat) :
    ∃ c cs, decDigits n = c :: cs ∧ isDec c = true ∧ (c = '0' → n = 0 ∧ cs = []) := by
  have hd := decDigits_dec n
  fun_induction decDigits n with
  | case1 n h =>
    obtain ⟨_, _, _, _, _, _, hz⟩ := digitChar_facts n h
    exact ⟨_, _, rfl, hd _ (by simp), fun hc => ⟨hz.1 hc, rfl⟩⟩
  | case2 n h ih =>
    obtain ⟨c, cs, hc, hdc, h0⟩ := ih (fun x hx => hd x (List.mem_append_left _ hx))
    exact ⟨c, cs ++ _, by rw [hc]; rfl, hdc, fun hc => by have := (h0 hc).1; omega⟩

theorem takeDigits_decDigits (n : Nat) (r : List Char) (hr : Stops isDec r) :
    takeDigits (decDigits n ++ r) = some (decDigits n, r) := by
  have hall := decDigits_dec n
  obtain ⟨c, cs, hc, hd, h0⟩ := decDigits_head n
  rw [hc] at hall ⊢
  by_cases hz : c = '0'
  · rw [(h0 hz).2, hz]; rfl
  · obtain ⟨t1, t2⟩ := takeWhile_run isDec cs r (fun x hx => hall x (List.mem_cons_of_mem c hx)) hr
    simp only [List.cons_append, takeDigits, hz, if_false, hd, if_true, t1, t2]

/-! ### the next token -/

theorem litTok_dec (c : Char) (x : List Char) (h : isDec c = true) : litTok (c :: x) = none := by
  obtain ⟨h1, h2, h3, h4, h5, h6, _⟩ := isDec_ne c h
  simp [litTok, h1, h2, h3, h4, h5, h6]

theorem expect_ne (ch c : Char) (t : List Char) (h : c ≠ ch) : expect ch (c :: t) = none := by
  simp [expect, h]

theorem expect_sep (r : List Char) (h : Sep r) : expect '.' r = none := by
  cases r with
  | nil => rfl
  | cons c t =>
    obtain ⟨_, _, _, hdot, _⟩ := sep_head c t h
    exact expect_ne '.' c t hdot

theorem isDec_notWs (c : Char) (h : isDec c = true) : isWs c = false := by
  simp only [isWs, Bool.or_eq_false_iff, beq_eq_false_iff_ne, ne_eq]
  refine ⟨⟨⟨?_, ?_⟩, ?_⟩, ?_⟩ <;> (intro hc; subst hc; revert h; decide)

def Lexes (t : Tok) (r : List Char) : Prop :=
  (∃ c cs, renderTok t = c :: cs ∧ isWs c = false) ∧ nextTok (renderTok t ++ r) = some (t, r)

theorem lexes_digits (n : Nat) (r : List Char) (hr : Sep r) : Lexes (.digits n) r := by
  obtain ⟨sd, sh, sl⟩ := sep_stops r hr
  obtain ⟨c, cs, hc, hd, _⟩ := decDigits_head n
  refine ⟨⟨c, cs, hc, isDec_notWs c hd⟩, ?_⟩
  show nextTok (decDigits n ++ r) = _
  have hall := decDigits_dec n
  have htd := takeDigits_decDigits n r sd
  have hlit : litTok (decDigits n ++ r) = none := by rw [hc]; exact litTok_dec c _ hd
  have hnet : takeNet (decDigits n ++ r) = none := by
    unfold takeNet; rw [htd]; simp only; rw [expect_sep r hr]
  have hhex := (takeWhile_run isHexC (decDigits n) r (fun x hx => isDec_hex x (hall x hx)) sh).1
  have halpha : (decDigits n ++ r).takeWhile isLetter = [] := by
    rw [hc]; simp [List.takeWhile, isDec_notLetter c hd]
  have hlen : 0 < (decDigits n).length := by rw [hc]; simp
  unfold nextTok
  rw [hlit, hnet]
  simp only
  unfold wordTok
  simp only [hhex, halpha, htd, List.length_nil]
  rw [if_neg (by omega), if_neg (by omega), if_pos (by omega)]
  rw [decValue_decDigits]

theorem lexes_net (a b c d m : Nat) (r : List Char) (hr : Sep r) : Lexes (.net a b c d m) r := by
  obtain ⟨sd, _, _⟩ := sep_stops r hr
  obtain ⟨c0, cs0, hc0, hd0, _⟩ := decDigits_head a
  refine ⟨⟨c0, _, congrArg (· ++ _) hc0, isDec_notWs c0 hd0⟩, ?_⟩
  have dot : ∀ x : List Char, Stops isDec ('.' :: x) := fun _ => (by decide : isDec '.' = false)
  have slash : ∀ x : List Char, Stops isDec ('/' :: x) := fun _ => (by decide : isDec '/' = false)
  have hlit : litTok (renderTok (.net a b c d m) ++ r) = none := by
    simp only [renderTok, hc0, List.cons_append]; exact litTok_dec c0 _ hd0
  unfold nextTok
  rw [hlit]
  simp only [renderTok, List.append_assoc, List.cons_append]
  unfold takeNet
  rw [takeDigits_decDigits a _ (dot _)]
  simp only [expect, if_true]
  rw [takeDigits_decDigits b _ (dot _)]
  simp only [expect, if_true]
  rw [takeDigits_decDigits c _ (dot _)]
  simp only [expect, if_true]
  rw [takeDigits_decDigits d _ (slash _)]
  simp only [expect, if_true]
  rw [takeDigits_decDigits m r sd]
  simp only [decValue_decDigits]

theorem nextTok_eq (x : List Char) (h : ∀ t, x ≠ '0' :: 'x' :: t) :
    nextTok ('=' :: x) = some (.eq, x) := by
  unfold nextTok litTok
  have h1 : ('=' : Char) ≠ 'c' := by decide
  simp only [h1, if_false, if_true]
  cases x with
  | nil => rfl
  | cons c1 t =>
    cases t with
    | nil => rfl
    | cons c2 t' =>
      by_cases hh : c1 = '0' ∧ c2 = 'x'
      · exact absurd (by rw [hh.1, hh.2]) (h t')
      · simp [hh]

theorem decDigits_not_0x (n : Nat) (c : Char) (y t : List Char) (hc : c ≠ 'x') :
    decDigits n ++ c :: y ≠ '0' :: 'x' :: t := by
  obtain ⟨c0, cs, hc0, _, h0⟩ := decDigits_head n
  rw [hc0]
  intro he
  simp only [List.cons_append, List.cons.injEq] at he
  rw [(h0 he.1).2] at he
  exact hc (List.cons.inj he.2).1

/-! ### words: keywords and names -/

/-- a word the lexer reads as a keyword or `STRING`: letters only, not starting with `c` (where
`cls=` would be tried), and not made of hex letters only (`HEX_DIGITS` would win the tie) -/
def wordOK (w : List Char) : Bool :=
  lettersOnly w && (w.head? != some 'c') && decide ((w.takeWhile isHexC).length < w.length)

theorem wordOK_head (w : List Char) (hw : wordOK w = true) :
    ∃ c cs, w = c :: cs ∧ isLetter c = true := by
  cases w with
  | nil => simp [wordOK, lettersOnly] at hw
  | cons c cs =>
    simp only [wordOK, lettersOnly, Bool.and_eq_true, List.all_eq_true] at hw
    exact ⟨c, cs, rfl, hw.1.1.2 c (by simp)⟩

theorem lexes_word (t : Tok) (r : List Char) (hw : wordOK (renderTok t) = true)
    (hk : (keyword (renderTok t)).getD (.str (renderTok t)) = t) (hr : Stops isLetter r) :
    Lexes t r := by
  unfold Lexes
  generalize renderTok t = w at hw hk ⊢
  obtain ⟨c, cs, rfl, hcl⟩ := wordOK_head w hw
  simp only [wordOK, Bool.and_eq_true, bne_iff_ne, ne_eq, decide_eq_true_eq, lettersOnly,
    List.all_eq_true] at hw
  obtain ⟨⟨⟨_, hlet⟩, hc⟩, hhex⟩ := hw
  obtain ⟨n1, n2, n3, n4, n5, _, n0, nd, hws⟩ := isLetter_ne c hcl
  refine ⟨⟨c, cs, rfl, hws⟩, ?_⟩
  have hcc : c ≠ 'c' := by intro h; subst h; simp at hc
  have hlit : litTok ((c :: cs) ++ r) = none := by
    simp [litTok, hcc, n1, n2, n3, n4, n5]
  have htd : takeDigits ((c :: cs) ++ r) = none := by simp [takeDigits, n0, nd]
  have hnet : takeNet ((c :: cs) ++ r) = none := by unfold takeNet; rw [htd]
  have halpha := (takeWhile_run isLetter (c :: cs) r hlet hr).1
  have hhexr := takeWhile_inside isHexC (c :: cs) r hhex
  unfold nextTok
  rw [hlit, hnet]
  simp only
  unfold wordTok
  simp only [hhexr, halpha, htd]
  rw [if_neg (by simp), if_pos (Or.inl hhex)]
  subst hk
  cases keyword (c :: cs) <;> simp

def kwToks : List Tok :=
  [.kAny, .kAll, .kNot, .kBool, .kSrc, .kDst, .kDscp, .kTos, .kProtocol, .kSrcport, .kDstport,
    .tTrue, .tFalse]

theorem kwToks_ok : ∀ t ∈ kwToks, wordOK (renderTok t) = true ∧
    (keyword (renderTok t)).getD (.str (renderTok t)) = t := by decide

theorem lexes_kw (t : Tok) (r : List Char) (ht : t ∈ kwToks) (hr : Stops isLetter r) : Lexes t r :=
  lexes_word t r (kwToks_ok t ht).1 (kwToks_ok t ht).2 hr

def nameOK (w : List Char) : Bool := wordOK w && (keyword w).isNone

theorem proto_names_ok : ∀ e ∈ protoTable, lettersOnly e.2 = true →
    nameOK e.2 = true ∧ protoName e.1 = e.2 := by decide +kernel

theorem wfProto_name (p : Nat) (h : wfProto p = true) : nameOK (protoName p) = true := by
  simp only [wfProto, beq_iff_eq] at h
  unfold protoNum at h
  split at h
  · rename_i e he
    simp only [Option.some.injEq] at h
    have hm := List.mem_of_find?_eq_some he
    have hp := List.find?_some he
    simp only [Bool.and_eq_true] at hp
    obtain ⟨h1, h2⟩ := proto_names_ok e hm hp.1
    rw [← h, h2]; exact h1
  · cases h

theorem lexes_name (w r : List Char) (hw : nameOK w = true) (hr : Sep r) : Lexes (.str w) r := by
  simp only [nameOK, Bool.and_eq_true, Option.isNone_iff_eq_none] at hw
  exact lexes_word (.str w) r hw.1 (by rw [show renderTok (.str w) = w from rfl, hw.2]; rfl)
    (sep_stops r hr).2.2

theorem name_not_0x (w r t : List Char) (hw : nameOK w = true) : w ++ r ≠ '0' :: 'x' :: t := by
  simp only [nameOK, Bool.and_eq_true] at hw
  obtain ⟨c, cs, rfl, hl⟩ := wordOK_head w hw.1
  obtain ⟨_, _, _, _, _, _, hn0, _⟩ := isLetter_ne c hl
  exact fun he => hn0 (List.cons.inj he).1

/-! ### hexadecimal operands of `dscp=0x` / `tos=0x` -/

theorem takeDigits_some (cs p rest : List Char) (h : takeDigits cs = some (p, rest)) :
    cs = p ++ rest ∧ ∀ x ∈ p, isDec x = true := by
  cases cs with
  | nil => cases h
  | cons c x =>
    simp only [takeDigits] at h
    by_cases h0 : c = '0'
    · rw [if_pos h0] at h; cases h; subst h0
      exact ⟨rfl, fun y hy => by rw [List.mem_singleton.1 hy]; rfl⟩
    · rw [if_neg h0] at h
      by_cases hd : isDec c = true
      · rw [if_pos hd] at h; cases h
        exact ⟨by rw [List.cons_append, List.takeWhile_append_dropWhile], fun y hy =>
          (List.mem_cons.1 hy).elim (fun e => e ▸ hd) (mem_takeWhile _ _ y)⟩
      · rw [if_neg hd] at h; cases h

theorem kw_not_hex : ∀ e ∈ kwTable, e.1.all isHexC = false := by decide

theorem keyword_hex (w : List Char) (h : ∀ x ∈ w, isHexC x = true) : keyword w = none := by
  have : kwTable.find? (fun e => e.1 == w) = none :=
    List.find?_eq_none.2 fun e he hw => by
      have := kw_not_hex e he
      rw [beq_iff_eq.1 hw, List.all_eq_true.2 h] at this
      cases this
  unfold keyword
  rw [this]

theorem litTok_c (y : List Char) (h : ∀ t, y ≠ 'l' :: 's' :: '=' :: t) : litTok ('c' :: y) = none := by
  rcases y with _ | ⟨a, _ | ⟨b, _ | ⟨d, y⟩⟩⟩ <;> try rfl
  exact if_neg fun ⟨h1, h2, h3⟩ => h y (by rw [h1, h2, h3])

theorem takeDigits_append (w r : List Char) (hw : w ≠ []) (hr : Stops isDec r) :
    takeDigits (w ++ r) = (takeDigits w).map fun x => (x.1, x.2 ++ r) := by
  obtain ⟨c, x, rfl⟩ := List.exists_cons_of_ne_nil hw
  obtain ⟨t1, t2⟩ := takeWhile_append_stops isDec x r hr
  simp only [List.cons_append, takeDigits, t1, t2]
  split
  · rfl
  · split <;> rfl

/-- **a hexadecimal numeral with a letter digit lexes to `HEX_DIGITS`**: `DIGITS` stops at the letter,
no keyword is made of hex letters -/
theorem lexes_hexd (ds : List Nat) (h16 : ∀ d ∈ ds, d < 16) (d : Nat) (hd : d ∈ ds) (h10 : 10 ≤ d)
    (r : List Char) (hr : Sep r) : nextTok (ds.map hexChar ++ r) = some (.hexd ds, r) := by
  obtain ⟨sd, sh, sl⟩ := sep_stops r hr
  have fact : ∀ x ∈ ds.map hexChar, ∃ d, d < 16 ∧ x = hexChar d := fun x hx =>
    let ⟨d, hd, e⟩ := List.mem_map.1 hx; ⟨d, h16 d hd, e.symm⟩
  have hall : ∀ x ∈ ds.map hexChar, isHexC x = true := fun x hx => by
    obtain ⟨d, hd, rfl⟩ := fact x hx; exact (hexChar_facts d hd).1
  have hne : ds.map hexChar ≠ [] := fun e => by rw [e] at hall; cases ds with | nil => cases hd | cons _ _ => cases e
  have hhex := (takeWhile_run isHexC _ r hall sh).1
  have halpha := (takeWhile_append_stops isLetter (ds.map hexChar) r sl).1
  have hdl : isDec (hexChar d) = false := by
    obtain ⟨_, _, h, _⟩ := hexChar_facts d (h16 d hd); rw [h]; exact decide_eq_false (by omega)
  -- `DIGITS` reads a proper prefix, and what is left does not begin with `.`
  have htd : takeDigits (ds.map hexChar ++ r) = none ∨ ∃ p c rest,
      takeDigits (ds.map hexChar ++ r) = some (p, c :: rest) ∧
      p.length < (ds.map hexChar).length ∧ c ≠ '.' := by
    rw [takeDigits_append _ r hne sd]
    cases h : takeDigits (ds.map hexChar) with
    | none => exact .inl rfl
    | some q =>
      obtain ⟨p, rest⟩ := q
      obtain ⟨e, hp⟩ := takeDigits_some _ p rest h
      cases rest with
      | nil =>
        rw [List.append_nil] at e
        have := hp _ (e ▸ List.mem_map_of_mem hd)
        rw [hdl] at this; cases this
      | cons c rest =>
        refine .inr ⟨p, c, rest ++ r, rfl, by rw [e]; simp, ?_⟩
        obtain ⟨d1, hd1, rfl⟩ := fact c (by rw [e]; simp)
        obtain ⟨_, _, _, _, _, _, _, _, _, _, h, _⟩ := hexChar_facts d1 hd1
        exact h
  have hnet : takeNet (ds.map hexChar ++ r) = none := by
    unfold takeNet
    rcases htd with h | ⟨p, c, rest, h, _, hc⟩ <;> rw [h]
    simp only [expect_ne '.' c rest hc]
  have hlit : litTok (ds.map hexChar ++ r) = none := by
    cases ds with
    | nil => cases hd
    | cons d0 ds' =>
      obtain ⟨_, _, _, _, _, n1, n2, n3, n4, n5, _⟩ := hexChar_facts d0 (h16 d0 (by simp))
      rw [List.map_cons, List.cons_append]
      by_cases hc : hexChar d0 = 'c'
      · rw [hc]
        refine litTok_c _ fun t he => ?_
        cases ds' with
        | nil =>
          cases r with
          | nil => cases he
          | cons c t =>
            obtain ⟨_, _, _, _, hl, _⟩ := sep_head c t hr
            exact hl (List.cons.inj he).1
        | cons d1 ds'' =>
          obtain ⟨_, _, _, _, _, _, _, _, _, _, _, hl, _⟩ := hexChar_facts d1 (h16 d1 (by simp))
          exact hl (List.cons.inj he).1
      · simp [litTok, hc, n1, n2, n3, n4, n5]
  have hkw := keyword_hex ((ds.map hexChar).takeWhile isLetter)
    fun x hx => hall x ((List.takeWhile_prefix _).subset hx)
  have halen := (List.takeWhile_prefix (l := ds.map hexChar) isLetter).length_le
  have hpos : 0 < (ds.map hexChar).length := List.length_pos_iff.2 hne
  have hfm : ∀ l : List Nat, (∀ d ∈ l, d < 16) → (l.map hexChar).filterMap digitVal = l := by
    intro l
    induction l with
    | nil => exact fun _ => rfl
    | cons a l ih =>
      intro h
      obtain ⟨_, _, _, _, hv, _⟩ := hexChar_facts a (h a (by simp))
      rw [List.map_cons, List.filterMap_cons, hv, ih fun d hd => h d (by simp [hd])]
  unfold nextTok
  rw [hlit, hnet]
  simp only
  unfold wordTok
  simp only [hhex, halpha, hkw, hfm ds h16, List.drop_left]
  generalize (ds.map hexChar).takeWhile isLetter = alpha at halen
  rw [if_neg (by omega), if_neg fun h => h.elim (by omega) fun h => absurd h.2 (by decide)]
  rcases htd with h | ⟨p, c, rest, h, hlt, _⟩ <;> simp only [h]
  · exact if_neg (by omega)
  · exact if_neg (by omega)

/-! ### one lexer step -/

theorem lexF_nil (f : Nat) : lexF f [] = [] := by
  cases f <;> rfl

theorem lexF_step (f : Nat) (c : Char) (x : List Char) (t : Tok) (rest : List Char)
    (hws : isWs c = false) (h : nextTok (c :: x) = some (t, rest)) :
    lexF (f + 1) (c :: x) = t :: lexF f rest := by
  simp only [lexF, hws, Bool.false_eq_true, if_false, h]

theorem render_cons (t : Tok) (ts : List Tok) : render (t :: ts) = renderTok t ++ render ts := by
  simp [render]

theorem render_append (a b : List Tok) : render (a ++ b) = render a ++ render b := by
  simp [render]

theorem render_nil : render [] = [] := rfl

/-! ### the printed text of a well-formed tree lexes back to its tokens -/

theorem lexes_hexTok (v : Nat) (r : List Char) (hv : v < 256) (hr : Sep r) :
    Lexes (hexTok v) r := by
  have ws : ∀ d, d < 16 → isWs (hexChar d) = false := fun d hd => by
    obtain ⟨_, _, _, h, _⟩ := hexChar_facts d hd
    exact h
  unfold hexTok
  split
  · split
    · exact lexes_digits v r hr
    · exact ⟨⟨_, _, rfl, ws v ‹_›⟩, lexes_hexd [v] (by simp; omega) v (by simp) (by omega) r hr⟩
  · split
    · exact lexes_digits _ r hr
    · refine ⟨⟨_, _, rfl, ws (v / 16) (by omega)⟩, ?_⟩
      by_cases h : 10 ≤ v / 16
      · exact lexes_hexd [v / 16, v % 16] (by simp; omega) _ (by simp) h r hr
      · exact lexes_hexd [v / 16, v % 16] (by simp; omega) (v % 16) (by simp) (by omega) r hr

def L (ts : List Tok) (tail : List Char) : Prop :=
  ∀ f, lexF (f + ts.length) (render ts ++ tail) = ts ++ lexF f tail

/-- `L`, and no more tokens than characters: `L` counts fuel in tokens, `lex` supplies one unit
    per character.  Every token lexed begins with a non-blank character, so the bound comes along. -/
def LB (ts : List Tok) (tail : List Char) : Prop := L ts tail ∧ ts.length ≤ (render ts).length

theorem LB_nil (tail : List Char) : LB [] tail :=
  ⟨fun f => by simp [render_nil], Nat.le_refl _⟩

theorem LB_cons (t : Tok) (ts : List Tok) (tail : List Char) (h : Lexes t (render ts ++ tail))
    (hrest : LB ts tail) : LB (t :: ts) tail := by
  obtain ⟨⟨c, cs, hcs, hws⟩, h⟩ := h
  refine ⟨fun f => ?_, ?_⟩
  · rw [render_cons, List.append_assoc]
    rw [hcs] at h ⊢
    have : f + (t :: ts).length = (f + ts.length) + 1 := by simp only [List.length_cons]; omega
    rw [List.cons_append] at h
    rw [this, List.cons_append, lexF_step (f + ts.length) c _ t _ hws h, hrest.1 f]
    rfl
  · have := hrest.2
    rw [render_cons, hcs]
    simp only [List.length_cons, List.length_append]
    omega

theorem LB_append (a b : List Tok) (tail : List Char) (ha : LB a (render b ++ tail))
    (hb : LB b tail) : LB (a ++ b) tail := by
  refine ⟨fun f => ?_, ?_⟩
  · have : f + (a ++ b).length = (f + b.length) + a.length := by
      simp only [List.length_append]; omega
    rw [this, render_append, List.append_assoc, ha.1 (f + b.length), hb.1 f, List.append_assoc]
  · have := ha.2
    have := hb.2
    rw [render_append]
    simp only [List.length_append]
    omega

theorem sep_render_rpar (ts : List Tok) (tail : List Char) :
    Sep (render (Tok.rpar :: ts) ++ tail) := by
  rw [render_cons]; exact .inr (.inl rfl)

theorem sep_render_comma (ts : List Tok) (tail : List Char) :
    Sep (render (Tok.comma :: ts) ++ tail) := by
  rw [render_cons]; exact .inl rfl

theorem sep_render_dash (ts : List Tok) (tail : List Char) :
    Sep (render (Tok.dash :: ts) ++ tail) := by
  rw [render_cons]; exact .inr (.inr rfl)

theorem sep_nil_tail (tail : List Char) (h : Sep tail) : Sep (render [] ++ tail) := by
  simpa [render_nil] using h

theorem LB_rpar (tail : List Char) : LB [Tok.rpar] tail :=
  LB_cons _ _ _ ⟨⟨_, _, rfl, rfl⟩, rfl⟩ (LB_nil tail)

theorem LB_leaf (e : Cond) (hl : Proofs.Pktcls.Leaf e) (h : e.wf = true) (tail : List Char)
    (ht : Sep tail) : LB (print e) tail := by
  have st := sep_nil_tail tail ht
  have one : ∀ t, Lexes t (render [] ++ tail) → LB [t] tail := fun t h => LB_cons _ _ _ h (LB_nil tail)
  -- keyword, `=`, then the operand; `h0x` says that the operand does not begin with `0x`
  have kwEq : ∀ (k t : Tok) (ts : List Tok), k ∈ kwToks →
      (∀ x, render (t :: ts) ++ tail ≠ '0' :: 'x' :: x) → LB (t :: ts) tail →
      LB (k :: .eq :: t :: ts) tail := fun k t ts hk h0x hrest =>
    LB_cons _ _ _ (lexes_kw k _ hk rfl) (LB_cons _ _ _ ⟨⟨_, _, rfl, rfl⟩, nextTok_eq _ h0x⟩ hrest)
  cases e with
  | all _ | any _ | not _ => exact hl.elim
  | bool b =>
    refine kwEq _ _ _ (by decide) (fun x => by cases b <;> simp [render, renderTok])
      (one _ (lexes_kw _ _ ?_ (sep_stops _ st).2.2))
    cases b <;> decide
  | src n | dst n =>
    refine kwEq _ _ _ (by decide) (fun x => ?_) (one _ (lexes_net _ _ _ _ _ _ st))
    simp only [render_cons, renderTok, List.append_assoc, List.cons_append]
    exact decDigits_not_0x _ '.' _ x (by decide)
  | dscp v | tos v =>
    simp only [Cond.wf, decide_eq_true_eq] at h
    simp only [print]
    exact LB_cons _ _ _ (lexes_kw _ _ (by decide) rfl) (LB_cons _ _ _ ⟨⟨_, _, rfl, rfl⟩, rfl⟩
      (one _ (lexes_hexTok v _ h st)))
  | proto p =>
    simp only [Cond.wf] at h
    have hn := wfProto_name p h
    refine kwEq _ _ _ (by decide) (fun x => ?_) (one _ (lexes_name _ _ hn st))
    simp only [render_cons, renderTok, List.append_assoc]
    exact name_not_0x (protoName p) _ x hn
  | sport lo hi | dport lo hi =>
    refine kwEq _ _ _ (by decide) (fun x => ?_)
      (LB_cons _ _ _ (lexes_digits lo _ (sep_render_dash _ tail))
        (LB_cons _ _ _ ⟨⟨_, _, rfl, rfl⟩, rfl⟩ (one _ (lexes_digits hi _ st))))
    simp only [render_cons, renderTok, List.append_assoc, List.cons_append, List.nil_append]
    exact decDigits_not_0x _ '-' _ x (by decide)
  | cls n =>
    exact LB_cons _ _ _ ⟨⟨_, _, rfl, rfl⟩, rfl⟩ (one _ (lexes_digits n _ st))

theorem LB_print :
    (∀ e : Cond, e.wf = true → ∀ tail : List Char, Sep tail → LB (print e) tail) ∧
    ∀ cs : List Cond, cs ≠ [] → wfAll cs = true → ∀ tail : List Char, LB (printArgs cs) tail := by
  refine Proofs.Pktcls.cond_induction ?all ?any ?not LB_leaf ?nil ?cons
  case all | any =>
    intro cs ih h tail _
    simp only [Cond.wf, Bool.and_eq_true, Bool.not_eq_true', List.isEmpty_eq_false_iff] at h
    simp only [print]
    exact LB_cons _ _ _ (lexes_kw _ _ (by decide) rfl)
      (LB_cons _ _ _ ⟨⟨_, _, rfl, rfl⟩, rfl⟩ (ih h.1 h.2 tail))
  case not =>
    intro c ih h tail _
    simp only [Cond.wf] at h
    simp only [print]
    exact LB_cons _ _ _ (lexes_kw _ _ (by decide) rfl) (LB_cons _ _ _ ⟨⟨_, _, rfl, rfl⟩, rfl⟩
      (LB_append _ _ _ (ih h _ (sep_render_rpar [] tail)) (LB_rpar tail)))
  case nil => exact fun h => absurd rfl h
  case cons =>
    intro c cs ihc ihcs _ h tail
    simp only [wfAll, Bool.and_eq_true] at h
    cases cs with
    | nil =>
      rw [Proofs.Pktcls.printArgs_single]
      exact LB_append _ _ _ (ihc h.1 _ (sep_render_rpar [] tail)) (LB_rpar tail)
    | cons c' cs' =>
      rw [Proofs.Pktcls.printArgs_cons_cons]
      exact LB_append _ _ _ (ihc h.1 _ (sep_render_comma _ tail))
        (LB_cons _ _ _ ⟨⟨_, _, rfl, rfl⟩, rfl⟩ (ihcs (by simp) h.2 tail))

theorem L_printArgs : (cs : List Cond) → cs ≠ [] → wfAll cs = true → ∀ tail : List Char,
    L (printArgs cs) tail :=
  fun cs h1 h2 tail => (LB_print.2 cs h1 h2 tail).1

theorem printArgs_len : (cs : List Cond) → wfAll cs = true →
    (printArgs cs).length ≤ (render (printArgs cs)).length
  | [], _ => Nat.le_refl 1
  | c :: cs, h => (LB_print.2 (c :: cs) (List.cons_ne_nil c cs) h []).2

/-- **the lexer inverts rendering on printed trees** -/
theorem lex_render_print (e : Cond) (h : e.wf = true) : lex (render (print e)) = print e := by
  obtain ⟨key, hl⟩ := LB_print.1 e h [] trivial
  have key := key ((render (print e)).length + 1 - (print e).length)
  rw [List.append_nil, lexF_nil, List.append_nil] at key
  unfold lex
  have hf : (render (print e)).length + 1 =
      ((render (print e)).length + 1 - (print e).length) + (print e).length := by omega
  rw [hf]
  exact key

end Scion.Proofs.PktclsLex
