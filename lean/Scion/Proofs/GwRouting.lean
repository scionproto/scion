import Scion.Model.GwRouting
import Scion.Proofs.Best
/-! Helper lemmas for C42 (routing table fold invariant, first-match characterisations). -/
namespace Scion.Proofs.GwRouting
open Scion.GwRouting

variable {C P : Type} {α β : Type}

theorem find?_bind_some_iff (d : α → Bool) (v : α → Option β) (rs : List α) (b : β) :
    (rs.find? d).bind v = some b ↔
      ∃ pre r post, rs = pre ++ r :: post ∧ (∀ x ∈ pre, d x = false) ∧ d r = true ∧ v r = some b := by
  simp only [Option.bind_eq_some_iff, List.find?_eq_some_iff_append, Bool.not_eq_true']
  constructor
  · rintro ⟨r, ⟨hr, pre, post, e, hp⟩, hv⟩
    exact ⟨pre, r, post, e, hp, hr, hv⟩
  · rintro ⟨pre, r, post, e, hp, hr, hv⟩
    exact ⟨r, ⟨hr, pre, post, e, hp⟩, hv⟩

/-- the loop of `RoutingTable.route` is a scan; its state caches mask length and route of the champion -/
theorem routeStep_scans (ev : C → Bool) (dst : Addr) :
    Scans (fun e : Entry C => e.pfx.contains dst = true) (fun c x => ¬ x.pfx.len < c.pfx.len)
      (fun o => o.elim (0, none) fun e => (e.pfx.len, entryRoute ev e.table)) (routeStep ev dst) := by
  intro acc e
  dsimp only
  unfold routeStep
  cases hc : e.pfx.contains dst
  · exact .inr ⟨rfl, nofun⟩
  · cases acc with
    | none => exact .inl ⟨by simp, rfl, nofun⟩
    | some c =>
      by_cases hl : e.pfx.len < c.pfx.len
      · exact .inr ⟨by simp [hl], fun _ => ⟨c, rfl, not_not_intro hl⟩⟩
      · exact .inl ⟨by simp [hl], rfl, fun _ h => Option.some.inj h ▸ hl⟩

/-- `route` follows an entry of greatest mask length among those containing `dst`, if there is one -/
theorem route_best (ev : C → Bool) (dst : Addr) (tbl : List (Entry C)) :
    ∃ r, route ev tbl dst = r.elim none (fun e => entryRoute ev e.table) ∧
      Best (fun e : Entry C => e.pfx.contains dst = true) (fun a b => a.pfx.len ≤ b.pfx.len) tbl r := by
  obtain ⟨r, e, h⟩ := Picked.foldl (routeStep_scans ev dst) (by omega) (by omega) tbl [] none nofun
  refine ⟨r, (congrArg Prod.snd e).trans ?_, h.best (fun _ => Nat.le_refl _) (by omega) (by omega)⟩
  cases r <;> rfl

theorem route_no_prefix (ev : C → Bool) (tbl : List (Entry C)) (dst : Addr)
    (h : ∀ e ∈ tbl, e.pfx.contains dst = false) : route ev tbl dst = none := by
  obtain ⟨r, er, hb⟩ := route_best ev dst tbl
  cases r with
  | none => exact er
  | some e0 => cases (h e0 hb.1).symm.trans hb.2.1

theorem same_of_contains (p q : Prefix) (a : Addr) (hp : p.contains a = true)
    (hq : q.contains a = true) (hl : p.len = q.len) : p.same q = true := by
  unfold Prefix.contains at hp hq
  unfold Prefix.same
  simp only [Bool.and_eq_true, beq_iff_eq] at hp hq ⊢
  obtain ⟨hp1, hp2⟩ := hp
  obtain ⟨hq1, hq2⟩ := hq
  have hf : p.fam = q.fam := by rw [hp1, hq1]
  refine ⟨⟨hf, hl⟩, ?_⟩
  rw [← hp2, ← hq2, hf, hl]

theorem route_most_specific (ev : C → Bool) (tbl : List (Entry C)) (dst : Addr) (e : Entry C)
    (hd : ∀ e₁ ∈ tbl, ∀ e₂ ∈ tbl, e₁.pfx.same e₂.pfx = true → e₁ = e₂)
    (he : e ∈ tbl) (hc : e.pfx.contains dst = true)
    (hm : ∀ e' ∈ tbl, e'.pfx.contains dst = true → e'.pfx.len ≤ e.pfx.len) :
    route ev tbl dst = entryRoute ev e.table := by
  obtain ⟨r, er, hb⟩ := route_best ev dst tbl
  cases r with
  | none => exact absurd hc (hb e he)
  | some e0 =>
    have hlen : e0.pfx.len = e.pfx.len := Nat.le_antisymm (hm e0 hb.1 hb.2.1) (hb.2.2 e he hc)
    rw [er, ← hd e0 hb.1 e he (same_of_contains _ _ dst hb.2.1 hc hlen)]
    rfl

theorem forward_spec (ev : C → P → Bool) (tbl : List (Entry C)) (i : Input P) (s : Nat) :
    forward ev tbl i = .session s ↔
      (∃ dst pkt, i = .v4 dst false pkt ∧ route (fun c => ev c pkt) tbl ⟨.v4, dst⟩ = some s) ∨
      (∃ dst pkt, i = .v6 dst pkt ∧ route (fun c => ev c pkt) tbl ⟨.v6, dst⟩ = some s) := by
  constructor
  · intro h
    cases i with
    | invalid => simp [forward] at h
    | v4 dst frag pkt =>
      cases frag
      · simp only [forward, Bool.false_eq_true, if_false] at h
        cases hr : route (fun c => ev c pkt) tbl ⟨.v4, dst⟩ with
        | none => rw [hr] at h; cases h
        | some v =>
          rw [hr] at h
          cases h
          exact Or.inl ⟨dst, pkt, rfl, hr⟩
      · simp [forward] at h
    | v6 dst pkt =>
      simp only [forward] at h
      cases hr : route (fun c => ev c pkt) tbl ⟨.v6, dst⟩ with
      | none => rw [hr] at h; cases h
      | some v =>
        rw [hr] at h
        cases h
        exact Or.inr ⟨dst, pkt, rfl, hr⟩
  · rintro (⟨dst, pkt, rfl, hr⟩ | ⟨dst, pkt, rfl, hr⟩)
    · simp only [forward, Bool.false_eq_true, if_false]
      rw [hr]
    · simp only [forward]
      rw [hr]

end Scion.Proofs.GwRouting
