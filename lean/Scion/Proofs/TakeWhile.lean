/-! Runs: what `takeWhile p` and `dropWhile p` do on `xs ++ r` when the run of `p` ends exactly at
the seam, or already inside `xs`.  The text parsers (gateway policy, traffic classes) split their
input this way. -/
namespace Scion.Proofs

variable {α : Type}

def Stops (p : α → Bool) : List α → Prop
  | [] => True
  | c :: _ => p c = false

theorem takeWhile_run (p : α → Bool) (xs r : List α) (h : ∀ x ∈ xs, p x = true)
    (hr : Stops p r) : (xs ++ r).takeWhile p = xs ∧ (xs ++ r).dropWhile p = r := by
  rw [List.takeWhile_append_of_pos h, List.dropWhile_append_of_pos h]
  cases r with
  | nil => exact ⟨List.append_nil xs, rfl⟩
  | cons c t =>
    have hc : ¬ p c = true := by rw [show p c = false from hr]; exact Bool.false_ne_true
    rw [List.takeWhile_cons_of_neg hc, List.dropWhile_cons_of_neg hc]
    exact ⟨List.append_nil xs, rfl⟩

theorem takeWhile_append_stops (p : α → Bool) (l s : List α) (hs : Stops p s) :
    (l ++ s).takeWhile p = l.takeWhile p ∧ (l ++ s).dropWhile p = l.dropWhile p ++ s := by
  induction l with
  | nil => exact takeWhile_run p [] s nofun hs
  | cons a l ih =>
    by_cases ha : p a = true
    · simp [List.takeWhile, List.dropWhile, ha, ih]
    · simp [List.takeWhile, List.dropWhile, ha]

theorem span_ne [BEq α] [LawfulBEq α] (c : α) (a r : List α) (h : ∀ x ∈ a, x ≠ c) :
    (a ++ c :: r).takeWhile (· != c) = a ∧ (a ++ c :: r).dropWhile (· != c) = c :: r :=
  takeWhile_run _ a _ (fun x hx => bne_iff_ne.2 (h x hx)) (bne_self_eq_false c)

theorem dropWhile_nil_iff (p : α → Bool) (l : List α) :
    l.dropWhile p = [] ↔ ∀ x ∈ l, p x = true := by
  induction l with
  | nil => simp
  | cons a l ih =>
    by_cases ha : p a = true
    · simp only [List.dropWhile, ha, ih, List.mem_cons, forall_eq_or_imp, true_and]
    · simp only [Bool.not_eq_true] at ha
      simp [List.dropWhile, ha]

theorem dropWhile_ne_eq_nil [BEq α] [LawfulBEq α] (c : α) (l : List α) (h : ∀ x ∈ l, x ≠ c) :
    l.dropWhile (· != c) = [] :=
  (dropWhile_nil_iff _ l).2 fun x hx => bne_iff_ne.2 (h x hx)

theorem mem_takeWhile (p : α → Bool) (l : List α) (x : α) (h : x ∈ l.takeWhile p) : p x = true :=
  List.all_eq_true.1 List.all_takeWhile x h

theorem takeWhile_inside (p : α → Bool) (w r : List α)
    (h : (w.takeWhile p).length < w.length) : (w ++ r).takeWhile p = w.takeWhile p := by
  rw [List.takeWhile_append, if_neg (Nat.ne_of_lt h)]

theorem dropWhile_append_cons (p : α → Bool) (a b : List α) (c : α) (r : List α)
    (h : a.dropWhile p = c :: r) : (a ++ b).dropWhile p = c :: (r ++ b) := by
  rw [List.dropWhile_append, h]
  rfl

end Scion.Proofs
