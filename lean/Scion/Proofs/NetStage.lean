import Scion.Model.Net
import Scion.Proofs.Guard
/-! One border router, one packet: the stages of `routerStep`.  For each stage the ways it can end, with what each
establishes (`st*_cases`), and the conditions under which it passes; from these the steps of a router on an arbitrary
cursor, and a step taken apart into what its stages checked. -/
namespace Scion.Net
open Scion.SegID (updateSegID)

theorem stChecks_cases (mac : MacFn) (cfg : RCfg) (now : Nat) (arr : Arrival) (sl dl : Bool)
    (c1 : Cursor) (p : Bool) :
    (∃ t k, stChecks mac cfg now arr sl dl c1 p = .error (.slow t k 0 c1)) ∨
    stChecks mac cfg now arr sl dl c1 p = .error .drop ∨
    (stChecks mac cfg now arr sl dl c1 p = .error (.alert true 0 (clearInAlert c1)) ∧
      arr.ifid ≠ 0 ∧ (if c1.info.consDir then c1.cur.inAlert else c1.cur.egAlert) = true ∧
      macOk mac cfg.key c1.info c1.cur = true) ∨
    (stChecks mac cfg now arr sl dl c1 p = .ok ⟨c1, p⟩ ∧
      expired now c1.info.ts c1.cur.exp = false ∧
      (arr.ifid ≠ 0 → arr.ifid = (if c1.info.consDir then c1.cur.cIn else c1.cur.cEg)) ∧
      (arr.ifid ≠ 0 → sl = false ∧ c1.isLastHop = dl) ∧
      (arr.ifid = 0 → dl = false ∧ (c1.isFirstHop = true → sl = true)) ∧
      macOk mac cfg.key c1.info c1.cur = true) := by
  obtain ⟨r, hr⟩ : ∃ r, stChecks mac cfg now arr sl dl c1 p = r := ⟨_, rfl⟩
  rw [hr]
  unfold stChecks at hr
  rcases ite_eq_cases hr with ⟨_, hr⟩ | ⟨h1, hr⟩
  · subst hr; exact Or.inl ⟨_, _, rfl⟩
  rcases ite_eq_cases hr with ⟨_, hr⟩ | ⟨h2, hr⟩
  · subst hr; exact Or.inl ⟨_, _, rfl⟩
  rcases ite_eq_cases hr with ⟨_, hr⟩ | ⟨_, hr⟩
  · subst hr; exact Or.inr (Or.inl rfl)
  rcases ite_eq_cases hr with ⟨_, hr⟩ | ⟨h4, hr⟩
  · subst hr; exact Or.inl ⟨_, _, rfl⟩
  rcases ite_eq_cases hr with ⟨_, hr⟩ | ⟨h5, hr⟩
  · subst hr; exact Or.inl ⟨_, _, rfl⟩
  rcases ite_eq_cases hr with ⟨_, hr⟩ | ⟨h6, hr⟩
  · subst hr; exact Or.inl ⟨_, _, rfl⟩
  have hm : macOk mac cfg.key c1.info c1.cur = true := by simpa using h6
  rcases ite_eq_cases hr with ⟨h7, hr⟩ | ⟨_, hr⟩
  · subst hr
    simp only [Bool.and_eq_true, bne_iff_ne, ne_eq] at h7
    exact Or.inr (Or.inr (Or.inl ⟨rfl, h7.1, h7.2, hm⟩))
  subst hr
  refine Or.inr (Or.inr (Or.inr ⟨rfl, by simpa using h1, ?_, ?_, ?_, hm⟩))
  · intro h0
    simpa [h0] using h2
  · intro h0
    simpa [h0] using And.intro h4 h5
  · intro h0
    simpa [h0] using And.intro h5 h4

theorem stChecks_err (mac : MacFn) (cfg : RCfg) (now : Nat) (arr : Arrival) (sl dl : Bool)
    (c1 : Cursor) (p : Bool) (o : Out) (h : stChecks mac cfg now arr sl dl c1 p = .error o) :
    o.accepting = false := by
  rcases stChecks_cases mac cfg now arr sl dl c1 p with ⟨t, k, e⟩ | e | ⟨e, _⟩ | ⟨e, _⟩ <;>
    (rw [e] at h; cases h) <;> rfl

theorem stChecks_ok (mac : MacFn) (cfg : RCfg) (now : Nat) (arr : Arrival) (sl dl : Bool)
    (c1 : Cursor) (p : Bool) (s : StIn) (h : stChecks mac cfg now arr sl dl c1 p = .ok s) :
    s = ⟨c1, p⟩ ∧
    expired now c1.info.ts c1.cur.exp = false ∧
    (arr.ifid ≠ 0 → arr.ifid = (if c1.info.consDir then c1.cur.cIn else c1.cur.cEg)) ∧
    (arr.ifid ≠ 0 → sl = false ∧ c1.isLastHop = dl) ∧
    (arr.ifid = 0 → dl = false ∧ (c1.isFirstHop = true → sl = true)) ∧
    macOk mac cfg.key c1.info c1.cur = true := by
  rcases stChecks_cases mac cfg now arr sl dl c1 p with ⟨t, k, e⟩ | e | ⟨e, _⟩ | ⟨e, r⟩ <;>
    rw [e] at h <;> cases h
  exact ⟨rfl, r⟩

theorem stChecks_alert (mac : MacFn) (cfg : RCfg) (now : Nat) (arr : Arrival) (sl dl : Bool)
    (c1 : Cursor) (p b : Bool) (e : Nat) (c' : Cursor)
    (h : stChecks mac cfg now arr sl dl c1 p = .error (.alert b e c')) :
    b = true ∧ e = 0 ∧ arr.ifid ≠ 0 ∧ c' = clearInAlert c1 ∧
      (if c1.info.consDir then c1.cur.inAlert else c1.cur.egAlert) = true ∧
      macOk mac cfg.key c1.info c1.cur = true := by
  rcases stChecks_cases mac cfg now arr sl dl c1 p with ⟨t, k, e⟩ | e | ⟨e, r⟩ | ⟨e, _⟩ <;>
    rw [e] at h <;> cases h
  exact ⟨rfl, rfl, r.1, rfl, r.2⟩

theorem stIngress_err (mac : MacFn) (cfg : RCfg) (now : Nat) (arr : Arrival) (sl dl : Bool)
    (c : Cursor) (o : Out) (h : stIngress mac cfg now arr sl dl c = .error o) :
    o.accepting = false := by
  unfold stIngress at h
  split at h
  · cases h; rfl
  · split at h
    · cases h; rfl
    · exact stChecks_err _ _ _ _ _ _ _ _ _ h

theorem stIngress_ok (mac : MacFn) (cfg : RCfg) (now : Nat) (arr : Arrival) (sl dl : Bool)
    (c : Cursor) (s : StIn) (h : stIngress mac cfg now arr sl dl c = .ok s) :
    determinePeer c = some s.peering ∧ s.c = ingUpd c arr s.peering ∧
    (c.info.peer = false → c.hasSingleton = false) ∧
    stChecks mac cfg now arr sl dl (ingUpd c arr s.peering) s.peering = .ok s := by
  unfold stIngress at h
  split at h
  · cases h
  · rename_i hs
    split at h
    · cases h
    · rename_i p hp
      have := stChecks_ok _ _ _ _ _ _ _ _ _ h
      obtain ⟨rfl, _⟩ := this
      refine ⟨hp, rfl, ?_, h⟩
      intro hpeer
      simp [hpeer] at hs
      exact hs

theorem stXover_cases (mac : MacFn) (cfg : RCfg) (now : Nat) (s : StIn) :
    (∃ k c2, stXover mac cfg now s = .error (.slow 4 k 0 c2)) ∨
    stXover mac cfg now s = .error .drop ∨
    (stXover mac cfg now s = .ok ⟨s.c, s.peering, false⟩ ∧ (s.c.isXover && !s.peering) = false) ∨
    (∃ c2, stXover mac cfg now s = .ok ⟨c2, s.peering, true⟩ ∧ (s.c.isXover && !s.peering) = true ∧
      s.c.incPath = some c2 ∧ expired now c2.info.ts c2.cur.exp = false ∧
      macOk mac cfg.key c2.info c2.cur = true) := by
  obtain ⟨r, hr⟩ : ∃ r, stXover mac cfg now s = r := ⟨_, rfl⟩
  rw [hr]
  unfold stXover at hr
  rcases ite_eq_cases hr with ⟨hx, hr⟩ | ⟨hx, hr⟩
  · cases hinc : s.c.incPath with
    | none => rw [hinc] at hr; subst hr; exact Or.inr (Or.inl rfl)
    | some c2 =>
      rw [hinc] at hr
      rcases ite_eq_cases hr with ⟨_, hr⟩ | ⟨h1, hr⟩
      · subst hr; exact Or.inl ⟨_, _, rfl⟩
      rcases ite_eq_cases hr with ⟨_, hr⟩ | ⟨h2, hr⟩
      · subst hr; exact Or.inl ⟨_, _, rfl⟩
      subst hr
      exact Or.inr (Or.inr (Or.inr ⟨c2, rfl, hx, rfl, by simpa using h1, by simpa using h2⟩))
  · subst hr
    exact Or.inr (Or.inr (Or.inl ⟨rfl, by simpa using hx⟩))

theorem stXover_err (mac : MacFn) (cfg : RCfg) (now : Nat) (s : StIn) (o : Out)
    (h : stXover mac cfg now s = .error o) : o.accepting = false := by
  rcases stXover_cases mac cfg now s with ⟨_, _, e⟩ | e | ⟨e, _⟩ | ⟨_, e, _⟩ <;>
    (rw [e] at h; cases h) <;> rfl

theorem stXover_ok (mac : MacFn) (cfg : RCfg) (now : Nat) (s : StIn) (x : StX)
    (h : stXover mac cfg now s = .ok x) :
    x.peering = s.peering ∧
    ((x.xover = false ∧ x.c = s.c ∧ (s.c.isXover && !s.peering) = false) ∨
     (x.xover = true ∧ (s.c.isXover && !s.peering) = true ∧ s.c.incPath = some x.c ∧
        expired now x.c.info.ts x.c.cur.exp = false ∧ macOk mac cfg.key x.c.info x.c.cur = true)) := by
  rcases stXover_cases mac cfg now s with ⟨_, _, e⟩ | e | ⟨e, r⟩ | ⟨_, e, r⟩ <;>
    rw [e] at h <;> cases h
  · exact ⟨rfl, Or.inl ⟨rfl, rfl, r⟩⟩
  · exact ⟨rfl, Or.inr ⟨rfl, r⟩⟩

theorem stXover_no_alert (mac : MacFn) (cfg : RCfg) (now : Nat) (s : StIn) (b : Bool) (e : Nat)
    (c' : Cursor) : stXover mac cfg now s ≠ .error (.alert b e c') := by
  intro h
  rcases stXover_cases mac cfg now s with ⟨_, _, e⟩ | e | ⟨e, _⟩ | ⟨_, e, _⟩ <;>
    rw [e] at h <;> cases h

/-- the ways the egress stage can end; the reject codes `51`, `52` (MAC, expiry) are not among them -/
theorem stEgress_cases (cfg : RCfg) (arr : Arrival) (x : StX) :
    (∃ t k, stEgress cfg arr x = .slow t k (egressOf x.c) x.c ∧ k ≠ 51 ∧ k ≠ 52) ∨
    stEgress cfg arr x = .drop ∨
    (∃ eg, egressIface cfg (egressOf x.c) = some eg ∧ eg.owner = cfg.self ∧
      (if x.c.info.consDir then x.c.cur.egAlert else x.c.cur.inAlert) = true ∧
      stEgress cfg arr x = .alert false (egressOf x.c) (clearEgAlert x.c)) ∨
    (∃ eg c', egressIface cfg (egressOf x.c) = some eg ∧
      stEgress cfg arr x = .forward (egressOf x.c) c' ∧
      (arr.ifid == 0 && !(eg.owner == cfg.self)) = false ∧
      (!x.xover && arr.ifid != 0 && !ltSame (ingressLT cfg arr.ifid) eg.lt) = false ∧
      (x.xover && !ltXover (ingressLT cfg arr.ifid) eg.lt) = false ∧
      ((if x.c.info.consDir then x.c.cur.egAlert else x.c.cur.inAlert) && eg.owner == cfg.self) = false ∧
      (eg.owner == cfg.self && !eg.up) = false ∧
      ((eg.owner == cfg.self) = true → (egUpd x.c x.peering).incPath = some c') ∧
      ((eg.owner == cfg.self) = false → c' = x.c)) := by
  have hk : ∀ b : Bool, (if b = true then 50 else 49) ≠ 51 ∧ (if b = true then 50 else 49) ≠ 52 := by
    intro b; cases b <;> decide
  obtain ⟨r, hr⟩ : ∃ r, stEgress cfg arr x = r := ⟨_, rfl⟩
  rw [hr]
  unfold stEgress at hr
  dsimp only at hr
  cases heg : egressIface cfg (egressOf x.c) with
  | none =>
    rw [heg] at hr; dsimp only at hr
    subst hr; exact Or.inl ⟨_, _, rfl, hk _⟩
  | some eg =>
    rw [heg] at hr; dsimp only at hr
    rcases ite_eq_cases hr with ⟨_, hr⟩ | ⟨h1, hr⟩
    · subst hr; exact Or.inl ⟨_, _, rfl, hk _⟩
    rcases ite_eq_cases hr with ⟨_, hr⟩ | ⟨h2, hr⟩
    · subst hr; exact Or.inl ⟨_, _, rfl, by decide⟩
    rcases ite_eq_cases hr with ⟨_, hr⟩ | ⟨h3, hr⟩
    · subst hr; exact Or.inl ⟨_, _, rfl, by decide⟩
    rcases ite_eq_cases hr with ⟨h4, hr⟩ | ⟨h4, hr⟩
    · subst hr
      simp only [Bool.and_eq_true, beq_iff_eq] at h4
      exact Or.inr (Or.inr (Or.inl ⟨eg, rfl, h4.2, h4.1, rfl⟩))
    rcases ite_eq_cases hr with ⟨_, hr⟩ | ⟨h5, hr⟩
    · subst hr; exact Or.inl ⟨_, _, rfl, by decide⟩
    simp only [Bool.not_eq_true] at h1 h2 h3 h4 h5
    rcases ite_eq_cases hr with ⟨h6, hr⟩ | ⟨h6, hr⟩
    · cases hinc : (egUpd x.c x.peering).incPath with
      | none => rw [hinc] at hr; dsimp only at hr; subst hr; exact Or.inr (Or.inl rfl)
      | some c2 =>
        rw [hinc] at hr; dsimp only at hr; subst hr
        exact Or.inr (Or.inr (Or.inr ⟨eg, c2, rfl, rfl, h1, h2, h3, h4, h5, fun _ => rfl,
          fun h => by rw [h6] at h; cases h⟩))
    · subst hr
      simp only [Bool.not_eq_true] at h6
      exact Or.inr (Or.inr (Or.inr ⟨eg, x.c, rfl, rfl, h1, h2, h3, h4, h5,
        fun h => (by rw [h6] at h; cases h), fun _ => rfl⟩))

theorem stEgress_not_deliver (cfg : RCfg) (arr : Arrival) (x : StX) (cf : Cursor) :
    stEgress cfg arr x ≠ .deliver cf := by
  intro h
  rcases stEgress_cases cfg arr x with ⟨_, _, e, _⟩ | e | ⟨_, _, _, _, e⟩ | ⟨_, _, _, e, _⟩ <;>
    rw [e] at h <;> cases h

/-- the egress stage never answers "bad MAC" or "expired hop" -/
theorem stEgress_not_mac_exp (cfg : RCfg) (arr : Arrival) (x : StX) (k e : Nat) (c1 : Cursor)
    (hk : k = 51 ∨ k = 52) : stEgress cfg arr x ≠ .slow 4 k e c1 := by
  intro h
  rcases stEgress_cases cfg arr x with ⟨_, _, e, h1, h2⟩ | e | ⟨_, _, _, _, e⟩ | ⟨_, _, _, e, _⟩ <;>
    rw [e] at h <;> cases h
  rcases hk with rfl | rfl
  · exact h1 rfl
  · exact h2 rfl

theorem stEgress_alert (cfg : RCfg) (arr : Arrival) (x : StX) (b : Bool) (e : Nat) (c' : Cursor)
    (h : stEgress cfg arr x = .alert b e c') :
    b = false ∧ e = egressOf x.c ∧ c' = clearEgAlert x.c ∧
      ∃ eg, egressIface cfg e = some eg ∧ eg.owner = cfg.self ∧
        (if x.c.info.consDir then x.c.cur.egAlert else x.c.cur.inAlert) = true := by
  rcases stEgress_cases cfg arr x with ⟨_, _, e, _⟩ | e | ⟨eg, h1, h2, h3, e⟩ | ⟨_, _, _, e, _⟩ <;>
    rw [e] at h <;> cases h
  exact ⟨rfl, rfl, rfl, eg, h1, h2, h3⟩

theorem stEgress_forward_inv (cfg : RCfg) (arr : Arrival) (x : StX) (e : Nat) (c' : Cursor)
    (h : stEgress cfg arr x = .forward e c') :
    e = egressOf x.c ∧ ∃ eg, egressIface cfg e = some eg ∧
      (arr.ifid == 0 && !(eg.owner == cfg.self)) = false ∧
      (!x.xover && arr.ifid != 0 && !ltSame (ingressLT cfg arr.ifid) eg.lt) = false ∧
      (x.xover && !ltXover (ingressLT cfg arr.ifid) eg.lt) = false ∧
      ((if x.c.info.consDir then x.c.cur.egAlert else x.c.cur.inAlert) && eg.owner == cfg.self) = false ∧
      (eg.owner == cfg.self && !eg.up) = false ∧
      ((eg.owner == cfg.self) = true → (egUpd x.c x.peering).incPath = some c') ∧
      ((eg.owner == cfg.self) = false → c' = x.c) := by
  rcases stEgress_cases cfg arr x with ⟨_, _, e, _⟩ | e | ⟨_, _, _, _, e⟩ | ⟨eg, c2, h1, e, r⟩ <;>
    rw [e] at h <;> cases h
  exact ⟨rfl, eg, h1, r⟩

/-- a router only lets a packet continue when the MAC of the current hop field verifies under the
    SegID as updated at ingress (and, at a cross-over, also the MAC of the next segment's first
    hop field) -/
theorem routerStep_accepting (mac : MacFn) (cfg : RCfg) (now : Nat) (arr : Arrival) (sl dl : Bool)
    (c : Cursor) (h : (routerStep mac cfg now arr sl dl c).accepting = true) :
    ∃ p, determinePeer c = some p ∧
      macOk mac cfg.key (ingUpd c arr p).info (ingUpd c arr p).cur = true ∧
      expired now (ingUpd c arr p).info.ts (ingUpd c arr p).cur.exp = false := by
  unfold routerStep at h
  split at h
  · rename_i o ho
    rw [stIngress_err _ _ _ _ _ _ _ _ ho] at h
    cases h
  · rename_i s hs
    obtain ⟨hp, hc, _, hk⟩ := stIngress_ok _ _ _ _ _ _ _ _ hs
    obtain ⟨_, he, _, _, _, hm⟩ := stChecks_ok _ _ _ _ _ _ _ _ _ hk
    exact ⟨s.peering, hp, hm, he⟩

/-! ## Success: explicit conditions under which a packet is forwarded, delivered, handed to a sibling or
carried over a segment change -/

def inSide (cd : Bool) (h : Hop) : Nat := if cd then h.cIn else h.cEg
def outSide (cd : Bool) (h : Hop) : Nat := if cd then h.cEg else h.cIn

/-- SegID presented to the MAC check of hop `h` when the packet arrived over an external link -/
def usedSeg (cd : Bool) (seg : Nat) (h : Hop) : Nat := if cd then seg else updateSegID seg (pfx h.mac)
/-- SegID in the packet after the ingress update on an external link (`ingUpd_ext`): `usedSeg`, except
    that a peering hop leaves the SegID alone -/
def lastSeg (cd p : Bool) (seg : Nat) (h : Hop) : Nat :=
  if !cd && !p then updateSegID seg (pfx h.mac) else seg
/-- SegID in the packet when it leaves the AS of hop `h` over an external link -/
def nextSeg (cd : Bool) (seg : Nat) (h : Hop) : Nat :=
  if cd then updateSegID seg (pfx h.mac) else updateSegID seg (pfx h.mac)
/-- SegID after the egress update (no peering hop) of a packet whose SegID was `seg` after ingress -/
def egSeg (cd : Bool) (seg : Nat) (h : Hop) : Nat := if cd then updateSegID seg (pfx h.mac) else seg

def setSeg (c : Cursor) (sid : Nat) : Cursor := { c with info := { c.info with segID := sid } }

/-! ### The two SegID updates: only the SegID changes -/

theorem ingUpd_ext (c : Cursor) (i : Nat) (p : Bool) (hi0 : i ≠ 0) :
    ingUpd c (.ext i) p = setSeg c (lastSeg c.info.consDir p c.info.segID c.cur) := by
  have : ((Arrival.ext i).ifid != 0) = true := by simpa [Arrival.ifid] using hi0
  unfold ingUpd lastSeg
  rw [this, Bool.and_true]
  split <;> rfl

theorem ingUpd_internal (c : Cursor) (arr : Arrival) (p : Bool) (h : arr.ifid = 0) : ingUpd c arr p = c := by
  simp [ingUpd, h]

theorem egUpd_nopeer (c : Cursor) : egUpd c false = setSeg c (egSeg c.info.consDir c.info.segID c.cur) := by
  unfold egUpd egSeg
  rw [Bool.not_false, Bool.and_true]
  split <;> rfl

theorem egUpd_peer (c : Cursor) : egUpd c true = c := by
  unfold egUpd
  rw [Bool.not_true, Bool.and_false, if_neg Bool.false_ne_true]

theorem ingUpd_setSeg (c : Cursor) (arr : Arrival) (p : Bool) : ∃ sid, ingUpd c arr p = setSeg c sid := by
  unfold ingUpd
  split
  · exact ⟨_, rfl⟩
  · exact ⟨c.info.segID, rfl⟩

theorem egUpd_setSeg (c : Cursor) (p : Bool) : ∃ sid, egUpd c p = setSeg c sid := by
  unfold egUpd
  split
  · exact ⟨_, rfl⟩
  · exact ⟨c.info.segID, rfl⟩

theorem usedSeg_eq_lastSeg (cd : Bool) (seg : Nat) (h : Hop) : lastSeg cd false seg h = usedSeg cd seg h := by
  cases cd <;> rfl

/-- ingress update, then egress update: what a transit router does to the SegID -/
theorem egSeg_usedSeg (cd : Bool) (seg : Nat) (h : Hop) : egSeg cd (usedSeg cd seg h) h = nextSeg cd seg h := by
  cases cd <;> rfl

theorem egressIface_ne0 (cfg : RCfg) (e : Nat) (h : e ≠ 0) : egressIface cfg e = cfg.iface e := by
  simp [egressIface, h]

theorem routerStep_ingress_err (mac : MacFn) (cfg : RCfg) (now : Nat) (arr : Arrival) (sl dl : Bool)
    (c : Cursor) (o : Out) (h : stIngress mac cfg now arr sl dl c = .error o) :
    routerStep mac cfg now arr sl dl c = o := by
  unfold routerStep; rw [h]

theorem stIngress_eq_checks (mac : MacFn) (cfg : RCfg) (now : Nat) (arr : Arrival) (sl dl : Bool)
    (c : Cursor) (p : Bool) (hs : (!c.info.peer && c.hasSingleton) = false)
    (hp : determinePeer c = some p) :
    stIngress mac cfg now arr sl dl c = stChecks mac cfg now arr sl dl (ingUpd c arr p) p := by
  unfold stIngress; rw [hs, hp, if_neg Bool.false_ne_true]

theorem stChecks_expired (mac : MacFn) (cfg : RCfg) (now : Nat) (arr : Arrival) (sl dl : Bool)
    (c1 : Cursor) (p : Bool) (h : expired now c1.info.ts c1.cur.exp = true) :
    stChecks mac cfg now arr sl dl c1 p = .error (.slow 4 52 0 c1) := by
  unfold stChecks; rw [if_pos h]

theorem stChecks_to_mac (mac : MacFn) (cfg : RCfg) (now : Nat) (arr : Arrival) (sl dl : Bool)
    (c1 : Cursor) (p : Bool)
    (hexp : expired now c1.info.ts c1.cur.exp = false)
    (hin : (arr.ifid != 0 && arr.ifid != (if c1.info.consDir then c1.cur.cIn else c1.cur.cEg)) = false)
    (htr : (c1.isFirstHop || arr.ifid != 0) = true)
    (hsrc : (if arr.ifid == 0 then c1.isFirstHop && !sl else sl) = false)
    (hdst : (if arr.ifid == 0 then dl else c1.isLastHop != dl) = false) :
    stChecks mac cfg now arr sl dl c1 p =
      if !macOk mac cfg.key c1.info c1.cur then .error (.slow 4 51 0 c1) else
      if arr.ifid != 0 && (if c1.info.consDir then c1.cur.inAlert else c1.cur.egAlert) then
        .error (.alert true 0 (clearInAlert c1))
      else .ok ⟨c1, p⟩ := by
  unfold stChecks
  rw [hexp, hin, htr, hsrc, hdst]
  simp only [Bool.false_eq_true, if_false, Bool.not_true, Bool.false_and]

theorem stIngress_pass (mac : MacFn) (cfg : RCfg) (now : Nat) (arr : Arrival) (sl dl : Bool)
    (c : Cursor) (p : Bool)
    (hsing : (!c.info.peer && c.hasSingleton) = false)
    (hp : determinePeer c = some p)
    (hexp : expired now (ingUpd c arr p).info.ts (ingUpd c arr p).cur.exp = false)
    (hin : arr.ifid ≠ 0 → arr.ifid =
      (if (ingUpd c arr p).info.consDir then (ingUpd c arr p).cur.cIn else (ingUpd c arr p).cur.cEg))
    (htr : ((ingUpd c arr p).isFirstHop || arr.ifid != 0) = true)
    (hsrc : (if arr.ifid == 0 then (ingUpd c arr p).isFirstHop && !sl else sl) = false)
    (hdst : (if arr.ifid == 0 then dl else (ingUpd c arr p).isLastHop != dl) = false)
    (hmac : macOk mac cfg.key (ingUpd c arr p).info (ingUpd c arr p).cur = true)
    (hal : (arr.ifid != 0 && (if (ingUpd c arr p).info.consDir then (ingUpd c arr p).cur.inAlert
              else (ingUpd c arr p).cur.egAlert)) = false) :
    stIngress mac cfg now arr sl dl c = .ok ⟨ingUpd c arr p, p⟩ := by
  rw [stIngress_eq_checks mac cfg now arr sl dl c p hsing hp,
    stChecks_to_mac mac cfg now arr sl dl _ p hexp ?_ htr hsrc hdst, hmac, hal]
  · rfl
  · by_cases h0 : arr.ifid = 0
    · simp [h0]
    · simp [← hin h0]

theorem stIngress_pass_ext (mac : MacFn) (cfg : RCfg) (now i : Nat) (dl : Bool) (c : Cursor) (p : Bool)
    (hsing : (!c.info.peer && c.hasSingleton) = false) (hp : determinePeer c = some p)
    (hi0 : i ≠ 0) (hi : i = inSide c.info.consDir c.cur) (hl : c.isLastHop = dl)
    (hexp : expired now c.info.ts c.cur.exp = false)
    (hmac : macOk mac cfg.key (ingUpd c (.ext i) p).info c.cur = true)
    (hal : (if c.info.consDir then c.cur.inAlert else c.cur.egAlert) = false) :
    stIngress mac cfg now (.ext i) false dl c = .ok ⟨ingUpd c (.ext i) p, p⟩ := by
  obtain ⟨sid, hs⟩ := ingUpd_setSeg c (.ext i) p
  have h0 : ((Arrival.ext i).ifid == 0) = false := by simpa [Arrival.ifid] using hi0
  have h1 : ((Arrival.ext i).ifid != 0) = true := by simpa [Arrival.ifid] using hi0
  apply stIngress_pass _ _ _ _ _ _ _ _ hsing hp
  · rw [hs]; exact hexp
  · intro _; rw [hs]; exact hi
  · rw [h1]; exact Bool.or_true _
  · rw [h0]; rfl
  · rw [h0, hs]; show (c.isLastHop != dl) = false; rw [hl]; cases dl <;> rfl
  · rw [hs] at hmac ⊢; exact hmac
  · rw [hs]; show (_ && (if c.info.consDir = true then c.cur.inAlert else c.cur.egAlert)) = false
    rw [hal]; exact Bool.and_false _

theorem stIngress_pass_host (mac : MacFn) (cfg : RCfg) (now : Nat) (c : Cursor) (p : Bool)
    (hsing : (!c.info.peer && c.hasSingleton) = false) (hp : determinePeer c = some p)
    (hfh : c.isFirstHop = true) (hexp : expired now c.info.ts c.cur.exp = false)
    (hmac : macOk mac cfg.key c.info c.cur = true) :
    stIngress mac cfg now .host true false c = .ok ⟨c, p⟩ := by
  have := stIngress_pass mac cfg now .host true false c p hsing hp
  rw [ingUpd_internal c .host p rfl] at this
  exact this hexp (fun h => absurd rfl h) (by rw [hfh]; rfl) (by rw [hfh]; rfl) rfl hmac rfl

theorem stIngress_pass_sibling (mac : MacFn) (cfg : RCfg) (now k : Nat) (sl : Bool)
    (c : Cursor) (p : Bool) (fi : Iface)
    (hsing : (!c.info.peer && c.hasSingleton) = false)
    (hp : determinePeer c = some p)
    (hexp : expired now c.info.ts c.cur.exp = false)
    (hnf : c.isFirstHop = false)
    (hfi : cfg.iface (ingressInterface c p) = some fi) (hk : fi.owner = k) (hks : k ≠ cfg.self)
    (hmac : macOk mac cfg.key c.info c.cur = true) :
    stIngress mac cfg now (.sibling k) sl false c = .ok ⟨c, p⟩ := by
  rw [stIngress_eq_checks mac cfg now _ sl false c p hsing hp, ingUpd_internal c (.sibling k) p rfl]
  unfold stChecks
  rw [hexp, hmac]
  simp [Arrival.ifid, hnf, hfi, hk, hks]

theorem stXover_none (mac : MacFn) (cfg : RCfg) (now : Nat) (c : Cursor) (p : Bool)
    (h : (c.isXover && !p) = false) : stXover mac cfg now ⟨c, p⟩ = .ok ⟨c, p, false⟩ := by
  unfold stXover
  simp only [h, Bool.false_eq_true, if_false]

/-- a segment change: the first hop of the next segment is validated too -/
theorem stXover_some (mac : MacFn) (cfg : RCfg) (now : Nat) (c cx : Cursor)
    (hx : c.isXover = true) (hinc : c.incPath = some cx)
    (hexp : expired now cx.info.ts cx.cur.exp = false) (hmac : macOk mac cfg.key cx.info cx.cur = true) :
    stXover mac cfg now ⟨c, false⟩ = .ok ⟨cx, false, true⟩ := by
  unfold stXover
  simp only [hx, hinc, hexp, hmac, Bool.not_false, Bool.and_self, Bool.not_true, Bool.false_eq_true,
    if_true, if_false]

/-- the egress interface belongs to a sibling router: the packet is handed over as it is -/
theorem stEgress_handover (cfg : RCfg) (arr : Arrival) (x : StX) (eg : Iface)
    (heg : egressIface cfg (egressOf x.c) = some eg) (hown : (eg.owner == cfg.self) = false)
    (h1 : (arr.ifid == 0) = false)
    (h2 : (!x.xover && arr.ifid != 0 && !ltSame (ingressLT cfg arr.ifid) eg.lt) = false)
    (h3 : (x.xover && !ltXover (ingressLT cfg arr.ifid) eg.lt) = false) :
    stEgress cfg arr x = .forward (egressOf x.c) x.c := by
  unfold stEgress
  simp only [heg, hown, h1, h2, h3, Bool.false_and, Bool.and_false, Bool.false_eq_true, if_false]

/-- the egress interface belongs to this router: egress processing, the packet leaves the AS -/
theorem stEgress_own (cfg : RCfg) (arr : Arrival) (x : StX) (eg : Iface) (c' : Cursor)
    (heg : egressIface cfg (egressOf x.c) = some eg) (hown : (eg.owner == cfg.self) = true)
    (h2 : (!x.xover && arr.ifid != 0 && !ltSame (ingressLT cfg arr.ifid) eg.lt) = false)
    (h3 : (x.xover && !ltXover (ingressLT cfg arr.ifid) eg.lt) = false)
    (hal : (if x.c.info.consDir then x.c.cur.egAlert else x.c.cur.inAlert) = false)
    (hup : eg.up = true) (hinc : (egUpd x.c x.peering).incPath = some c') :
    stEgress cfg arr x = .forward (egressOf x.c) c' := by
  unfold stEgress
  simp only [heg, hown, h2, h3, hal, hup, hinc, Bool.not_true, Bool.and_false, Bool.false_and,
    Bool.false_eq_true, if_false, if_true]

theorem routerStep_of_stages (mac : MacFn) (cfg : RCfg) (now : Nat) (arr : Arrival) (sl : Bool)
    (c : Cursor) (s : StIn) (x : StX)
    (hs : stIngress mac cfg now arr sl false c = .ok s) (hx : stXover mac cfg now s = .ok x) :
    routerStep mac cfg now arr sl false c = stEgress cfg arr x := by
  unfold routerStep
  rw [hs]
  simp only [Bool.false_eq_true, if_false]
  rw [hx]

theorem routerStep_xover_err (mac : MacFn) (cfg : RCfg) (now : Nat) (arr : Arrival) (sl : Bool)
    (c : Cursor) (s : StIn) (o : Out) (hs : stIngress mac cfg now arr sl false c = .ok s)
    (hx : stXover mac cfg now s = .error o) :
    routerStep mac cfg now arr sl false c = o := by
  unfold routerStep
  rw [hs]
  simp only [Bool.false_eq_true, if_false]
  rw [hx]

theorem routerStep_deliver_of (mac : MacFn) (cfg : RCfg) (now : Nat) (arr : Arrival) (sl : Bool)
    (c : Cursor) (s : StIn) (hs : stIngress mac cfg now arr sl true c = .ok s) :
    routerStep mac cfg now arr sl true c = .deliver s.c := by
  unfold routerStep
  rw [hs]
  simp

/-! ### One router, one packet: the successful steps, for any cursor -/

theorem ingressLT_of (cfg : RCfg) (i : Nat) (fi : Iface) (h : cfg.iface i = some fi) :
    ingressLT cfg i = fi.lt := by
  unfold ingressLT; rw [h]

/-- delivery in the destination AS -/
theorem routerStep_ext_deliver (mac : MacFn) (cfg : RCfg) (now i : Nat) (c : Cursor) (p : Bool)
    (hsing : (!c.info.peer && c.hasSingleton) = false) (hp : determinePeer c = some p)
    (hi0 : i ≠ 0) (hi : i = inSide c.info.consDir c.cur) (hl : c.isLastHop = true)
    (hexp : expired now c.info.ts c.cur.exp = false)
    (hmac : macOk mac cfg.key (ingUpd c (.ext i) p).info c.cur = true)
    (hal : (if c.info.consDir then c.cur.inAlert else c.cur.egAlert) = false) :
    routerStep mac cfg now (.ext i) false true c = .deliver (ingUpd c (.ext i) p) :=
  routerStep_deliver_of mac cfg now _ false c _
    (stIngress_pass_ext mac cfg now i true c p hsing hp hi0 hi hl hexp hmac hal)

/-- in over the external link `i`, out over an external link of this router, no segment change:
    transit hops and both ends of a peering link -/
theorem routerStep_ext_forward (mac : MacFn) (cfg : RCfg) (now i : Nat) (c : Cursor) (p : Bool)
    (fi f : Iface) (c2 : Cursor)
    (hsing : (!c.info.peer && c.hasSingleton) = false) (hp : determinePeer c = some p)
    (hi0 : i ≠ 0) (hi : i = inSide c.info.consDir c.cur)
    (hnl : c.isLastHop = false) (hx : (c.isXover && !p) = false)
    (hexp : expired now c.info.ts c.cur.exp = false)
    (hmac : macOk mac cfg.key (ingUpd c (.ext i) p).info c.cur = true)
    (hia : c.cur.inAlert = false) (hea : c.cur.egAlert = false)
    (hfi : cfg.iface i = some fi) (hf : cfg.iface (egressOf c) = some f) (ho0 : egressOf c ≠ 0)
    (hup : f.up = true) (hown : f.owner = cfg.self) (hlt : ltSame fi.lt f.lt = true)
    (hinc : (egUpd (ingUpd c (.ext i) p) p).incPath = some c2) :
    routerStep mac cfg now (.ext i) false false c = .forward (egressOf c) c2 := by
  have hst := stIngress_pass_ext mac cfg now i false c p hsing hp hi0 hi hnl hexp hmac
    (by rw [hia, hea]; exact ite_self _)
  obtain ⟨sid, hs⟩ := ingUpd_setSeg c (.ext i) p
  rw [hs] at hst hinc
  rw [routerStep_of_stages mac cfg now _ false c _ _ hst (stXover_none mac cfg now _ p hx)]
  exact stEgress_own cfg (.ext i) ⟨setSeg c sid, p, false⟩ f c2
    (by show egressIface cfg (egressOf c) = some f; rw [egressIface_ne0 _ _ ho0]; exact hf) (by rw [hown]; exact beq_self_eq_true _)
    (by show (_ && _ && !ltSame (ingressLT cfg i) f.lt) = false
        rw [ingressLT_of cfg i fi hfi, hlt]; exact Bool.and_false _)
    rfl (by show (if c.info.consDir = true then c.cur.egAlert else c.cur.inAlert) = false
            rw [hia, hea]; exact ite_self _) hup hinc

/-- the same when the egress interface belongs to a sibling router: the packet is handed over after
    the ingress update -/
theorem routerStep_ext_handover (mac : MacFn) (cfg : RCfg) (now i : Nat) (c : Cursor) (p : Bool)
    (fi f : Iface)
    (hsing : (!c.info.peer && c.hasSingleton) = false) (hp : determinePeer c = some p)
    (hi0 : i ≠ 0) (hi : i = inSide c.info.consDir c.cur)
    (hnl : c.isLastHop = false) (hx : (c.isXover && !p) = false)
    (hexp : expired now c.info.ts c.cur.exp = false)
    (hmac : macOk mac cfg.key (ingUpd c (.ext i) p).info c.cur = true)
    (hia : c.cur.inAlert = false) (hea : c.cur.egAlert = false)
    (hfi : cfg.iface i = some fi) (hf : cfg.iface (egressOf c) = some f) (ho0 : egressOf c ≠ 0)
    (hown : f.owner ≠ cfg.self) (hlt : ltSame fi.lt f.lt = true) :
    routerStep mac cfg now (.ext i) false false c = .forward (egressOf c) (ingUpd c (.ext i) p) := by
  have hst := stIngress_pass_ext mac cfg now i false c p hsing hp hi0 hi hnl hexp hmac
    (by rw [hia, hea]; exact ite_self _)
  obtain ⟨sid, hs⟩ := ingUpd_setSeg c (.ext i) p
  rw [hs] at hst ⊢
  rw [routerStep_of_stages mac cfg now _ false c _ _ hst (stXover_none mac cfg now _ p hx)]
  exact stEgress_handover cfg (.ext i) ⟨setSeg c sid, p, false⟩ f
    (by show egressIface cfg (egressOf c) = some f; rw [egressIface_ne0 _ _ ho0]; exact hf) (by simpa using hown)
    (by simpa [Arrival.ifid] using hi0)
    (by show (_ && _ && !ltSame (ingressLT cfg i) f.lt) = false
        rw [ingressLT_of cfg i fi hfi, hlt]; exact Bool.and_false _) rfl

/-- the source AS: the packet comes from a host and leaves over an external link of this router -/
theorem routerStep_host_forward (mac : MacFn) (cfg : RCfg) (now : Nat) (c : Cursor) (p : Bool)
    (f : Iface) (c2 : Cursor)
    (hsing : (!c.info.peer && c.hasSingleton) = false) (hp : determinePeer c = some p)
    (hfh : c.isFirstHop = true) (hx : (c.isXover && !p) = false)
    (hexp : expired now c.info.ts c.cur.exp = false) (hmac : macOk mac cfg.key c.info c.cur = true)
    (hal : (if c.info.consDir then c.cur.egAlert else c.cur.inAlert) = false)
    (hf : cfg.iface (egressOf c) = some f) (ho0 : egressOf c ≠ 0)
    (hup : f.up = true) (hown : f.owner = cfg.self) (hinc : (egUpd c p).incPath = some c2) :
    routerStep mac cfg now .host true false c = .forward (egressOf c) c2 := by
  rw [routerStep_of_stages mac cfg now _ true c _ _
    (stIngress_pass_host mac cfg now c p hsing hp hfh hexp hmac) (stXover_none mac cfg now _ p hx)]
  exact stEgress_own cfg .host ⟨c, p, false⟩ f c2 (by rw [egressIface_ne0 _ _ ho0]; exact hf)
    (by rw [hown]; exact beq_self_eq_true _) rfl rfl hal hup hinc

/-- the AS where two segments meet (no peering): the last hop of one segment and the first hop `cx.cur`
    of the next are validated by the same router, the packet leaves over the egress interface of
    the latter -/
theorem routerStep_ext_xover (mac : MacFn) (cfg : RCfg) (now i : Nat) (c cx : Cursor) (fi f : Iface)
    (c2 : Cursor)
    (hsing : (!c.info.peer && c.hasSingleton) = false) (hp : determinePeer c = some false)
    (hi0 : i ≠ 0) (hi : i = inSide c.info.consDir c.cur)
    (hnl : c.isLastHop = false) (hx : c.isXover = true)
    (hexp : expired now c.info.ts c.cur.exp = false)
    (hmac : macOk mac cfg.key (ingUpd c (.ext i) false).info c.cur = true)
    (hia : c.cur.inAlert = false) (hea : c.cur.egAlert = false)
    (hincx : (ingUpd c (.ext i) false).incPath = some cx)
    (hexp2 : expired now cx.info.ts cx.cur.exp = false) (hmac2 : macOk mac cfg.key cx.info cx.cur = true)
    (hal2 : (if cx.info.consDir then cx.cur.egAlert else cx.cur.inAlert) = false)
    (hfi : cfg.iface i = some fi) (hf : cfg.iface (egressOf cx) = some f) (ho0 : egressOf cx ≠ 0)
    (hup : f.up = true) (hown : f.owner = cfg.self) (hlt : ltXover fi.lt f.lt = true)
    (hinc : (egUpd cx false).incPath = some c2) :
    routerStep mac cfg now (.ext i) false false c = .forward (egressOf cx) c2 := by
  have hst := stIngress_pass_ext mac cfg now i false c false hsing hp hi0 hi hnl hexp hmac
    (by rw [hia, hea]; exact ite_self _)
  obtain ⟨sid, hs⟩ := ingUpd_setSeg c (.ext i) false
  rw [hs] at hst hincx
  rw [routerStep_of_stages mac cfg now _ false c _ _ hst
    (stXover_some mac cfg now _ cx hx hincx hexp2 hmac2)]
  exact stEgress_own cfg (.ext i) ⟨cx, false, true⟩ f c2
    (by rw [egressIface_ne0 _ _ ho0]; exact hf) (by rw [hown]; exact beq_self_eq_true _) rfl
    (by show (true && !ltXover (ingressLT cfg i) f.lt) = false
        rw [ingressLT_of cfg i fi hfi, hlt]; rfl) hal2 hup hinc

/-! ## Router alerts (traceroute): which router consumes the flag -/

/-- **traceroute ownership on the model.**  A router consumes a router-alert flag only
    * on the ingress side: when the packet came in over one of ITS external links (`arr = ext i`),
      after the hop's MAC verified; the answer is requested for interface `i`;
    * on the egress side: when the egress interface of the hop is owned by THIS router; the answer
      is requested for that interface.
    A sibling router that merely hands the packet on never answers. -/
theorem alert_answered_by_owner (mac : MacFn) (cfg : RCfg) (now : Nat) (arr : Arrival) (sl dl : Bool)
    (c : Cursor) (b : Bool) (e : Nat) (c' : Cursor)
    (h : routerStep mac cfg now arr sl dl c = .alert b e c') :
    (b = true ∧ e = 0 ∧ ∃ i, arr = .ext i ∧ i ≠ 0) ∨
    (b = false ∧ ∃ eg, egressIface cfg e = some eg ∧ eg.owner = cfg.self) := by
  unfold routerStep at h
  split at h
  · rename_i o ho
    subst h
    unfold stIngress at ho
    split at ho
    · cases ho
    · split at ho
      · cases ho
      · obtain ⟨hb, he, hi, _⟩ := stChecks_alert _ _ _ _ _ _ _ _ _ _ _ ho
        left
        refine ⟨hb, he, ?_⟩
        cases arr with
        | host => simp [Arrival.ifid] at hi
        | sibling k => simp [Arrival.ifid] at hi
        | ext i => exact ⟨i, rfl, by simpa [Arrival.ifid] using hi⟩
  · rename_i s hs
    split at h
    · cases h
    · split at h
      · rename_i o ho
        subst h
        exact absurd ho (stXover_no_alert _ _ _ _ _ _ _)
      · rename_i x hx
        obtain ⟨hb, _, _, eg, heg, hown, _⟩ := stEgress_alert _ _ _ _ _ _ h
        exact Or.inr ⟨hb, eg, heg, hown⟩

/-! ## A router step taken apart into what its stages checked -/

theorem routerStep_forward_inv (mac : MacFn) (cfg : RCfg) (now : Nat) (arr : Arrival) (sl dl : Bool)
    (c : Cursor) (e : Nat) (c' : Cursor)
    (h : routerStep mac cfg now arr sl dl c = .forward e c') :
    ∃ s x, stIngress mac cfg now arr sl dl c = .ok s ∧ dl = false ∧ stXover mac cfg now s = .ok x ∧
      stEgress cfg arr x = .forward e c' := by
  unfold routerStep at h
  split at h
  · rename_i o ho
    have := stIngress_err _ _ _ _ _ _ _ _ ho
    rw [h] at this; cases this
  · rename_i s hs
    split at h
    · cases h
    · rename_i hdl
      split at h
      · rename_i o ho
        have := stXover_err _ _ _ _ _ ho
        rw [h] at this; cases this
      · rename_i x hx
        exact ⟨s, x, hs, by simpa using hdl, hx, h⟩

theorem routerStep_deliver_inv (mac : MacFn) (cfg : RCfg) (now : Nat) (arr : Arrival) (sl dl : Bool)
    (c cf : Cursor) (h : routerStep mac cfg now arr sl dl c = .deliver cf) :
    ∃ s, stIngress mac cfg now arr sl dl c = .ok s ∧ dl = true ∧ cf = s.c := by
  unfold routerStep at h
  split at h
  · rename_i o ho
    have := stIngress_err _ _ _ _ _ _ _ _ ho
    rw [h] at this; cases this
  · rename_i s hs
    split at h
    · rename_i hdl
      cases h; exact ⟨s, hs, hdl, rfl⟩
    · split at h
      · rename_i o ho
        have := stXover_err _ _ _ _ _ ho
        rw [h] at this; cases this
      · exact absurd h (stEgress_not_deliver _ _ _ _)

end Scion.Net
