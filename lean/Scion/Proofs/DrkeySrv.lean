import Scion.Model.DrkeySrv
/-! Specification vocabulary (host identity) and helper lemmas for C40. -/
namespace Scion.C40
open Scion.Util Scion.DrkeySrv

/-- a byte string that is an IP address (what a TCP connection's remote address carries) -/
def IsIP (b : Bytes) : Prop := b.length = 4 ∨ b.length = 16
/-- canonical form of an IP: an IPv4-mapped IPv6 address *is* the IPv4 host (this is also what
    `slayers.PackAddr` derives keys for, see C39) -/
def unmap (b : Bytes) : Bytes :=
  if b.length = 16 ∧ b.take 12 = v4InV6Prefix then b.drop 12 else b
/-- the requester `ip` is the host a request names by `x = net.ParseIP(text)` -/
def SameHost (ip x : Bytes) : Prop := IsIP ip ∧ IsIP x ∧ unmap ip = unmap x

theorem unmap4 (b : Bytes) (h : b.length = 4) : unmap b = b := by
  simp [unmap, h]

theorem unmap16 (b : Bytes) (h : b.length = 16) :
    unmap b = if b.take 12 = v4InV6Prefix then b.drop 12 else b := by
  simp [unmap, h]

theorem ipEqual_of_length_eq (a b : Bytes) (h : a.length = b.length) : ipEqual a b = (a == b) := by
  simp [ipEqual, h]

theorem ipEqual416 (a b : Bytes) (ha : a.length = 4) (hb : b.length = 16) :
    ipEqual a b = (b.take 12 == v4InV6Prefix && a == b.drop 12) := by
  simp [ipEqual, ha, hb]

theorem ipEqual164 (a b : Bytes) (ha : a.length = 16) (hb : b.length = 4) :
    ipEqual a b = (a.take 12 == v4InV6Prefix && a.drop 12 == b) := by
  simp [ipEqual, ha, hb]

theorem ipEqual_isIP (ip x : Bytes) (hip : IsIP ip) (h : ipEqual ip x = true) : IsIP x := by
  unfold ipEqual at h
  unfold IsIP at *
  split at h
  · omega
  · split at h
    · omega
    · split at h
      · omega
      · cases h

theorem ipEqual_iff_sameHost (ip x : Bytes) (hip : IsIP ip) :
    ipEqual ip x = true ↔ SameHost ip x := by
  by_cases hx : IsIP x
  · simp only [SameHost, hip, hx, true_and]
    rcases hip with h4 | h16 <;> rcases hx with x4 | x16
    · rw [ipEqual_of_length_eq _ _ (h4.trans x4.symm), unmap4 _ h4, unmap4 _ x4, beq_iff_eq]
    · rw [ipEqual416 _ _ h4 x16, unmap4 _ h4, unmap16 _ x16]
      by_cases c : x.take 12 = v4InV6Prefix
      · simp [c]
      · rw [if_neg c, beq_eq_false_iff_ne.2 c, Bool.false_and]
        exact ⟨nofun, fun h => by have := congrArg List.length h; omega⟩
    · rw [ipEqual164 _ _ h16 x4, unmap16 _ h16, unmap4 _ x4]
      by_cases c : ip.take 12 = v4InV6Prefix
      · simp [c]
      · rw [if_neg c, beq_eq_false_iff_ne.2 c, Bool.false_and]
        exact ⟨nofun, fun h => by have := congrArg List.length h; omega⟩
    · rw [ipEqual_of_length_eq _ _ (h16.trans x16.symm), unmap16 _ h16, unmap16 _ x16, beq_iff_eq]
      have pl : v4InV6Prefix.length = 12 := rfl
      by_cases c1 : ip.take 12 = v4InV6Prefix <;> by_cases c2 : x.take 12 = v4InV6Prefix <;>
        simp only [c1, c2, if_true, if_false]
      · exact ⟨fun h => h ▸ rfl, fun h => by
          rw [← List.take_append_drop 12 ip, ← List.take_append_drop 12 x, c1, c2, h]⟩
      · refine ⟨fun h => absurd (h ▸ c1) c2, fun h => ?_⟩
        have := congrArg List.length h; simp at this; omega
      · refine ⟨fun h => absurd (h ▸ c2) c1, fun h => ?_⟩
        have := congrArg List.length h; simp at this; omega
  · exact ⟨fun h => absurd (ipEqual_isIP ip x hip h) hx, fun h => absurd h.2.1 hx⟩

instance (b : Bytes) : Decidable (IsIP b) := by unfold IsIP; exact inferInstance
instance (a b : Bytes) : Decidable (SameHost a b) := by unfold SameHost; exact inferInstance

theorem validateASHost_iff (proto dstIA : Nat) (dstIP : Bytes) (localIA : Nat) (a : PeerAddr) :
    validateASHost proto dstIA dstIP localIA a = true ↔
      proto ≠ Scion.Drkey.genericProto ∧ ∃ ip, a = .tcp ip ∧ dstIA = localIA ∧ ipEqual ip dstIP = true := by
  unfold validateASHost hostAddrFromPeer
  cases a with
  | other => simp
  | tcp ip => by_cases hg : proto = Scion.Drkey.genericProto <;> simp [hg]

/-- `validateHostASReq` is `validateASHostReq` read with source for destination -/
theorem validateHostAS_iff (proto srcIA : Nat) (srcIP : Bytes) (localIA : Nat) (a : PeerAddr) :
    validateHostAS proto srcIA srcIP localIA a = true ↔
      proto ≠ Scion.Drkey.genericProto ∧ ∃ ip, a = .tcp ip ∧ srcIA = localIA ∧ ipEqual ip srcIP = true :=
  validateASHost_iff proto srcIA srcIP localIA a

theorem validateHostHost_iff (proto srcIA dstIA : Nat) (srcIP dstIP : Bytes) (localIA : Nat) (a : PeerAddr) :
    validateHostHost proto srcIA dstIA srcIP dstIP localIA a = true ↔
      proto ≠ Scion.Drkey.genericProto ∧ ∃ ip, a = .tcp ip ∧
        ((srcIA = localIA ∧ ipEqual ip srcIP = true) ∨ (dstIA = localIA ∧ ipEqual ip dstIP = true)) := by
  unfold validateHostHost hostAddrFromPeer
  cases a with
  | other => simp
  | tcp ip =>
    by_cases hg : proto = Scion.Drkey.genericProto <;> simp [hg]

/-- the tail every handler ends in: timestamp present and valid, one more Boolean check, then the
    meta built from the timestamp -/
theorem tsGuard_iff {M : Type} (ts : Ts) (c : Bool) (mk : Int × Int → M) (m : M) :
    (match ts with
      | none => none
      | some t => if tsValid (some t) = false then none else if c = false then none else some (mk t))
      = some m ↔
    ∃ t, ts = some t ∧ tsValid ts = true ∧ c = true ∧ m = mk t := by
  cases ts with
  | none => simp
  | some t =>
    cases hv : tsValid (some t) <;> cases c <;> simp [hv, eq_comm]

/-- shape shared by the handlers whose check looks at the peer -/
theorem hostHandler_iff {M : Type} (peer : Option Peer) (ts : Ts) (v : Peer → Bool)
    (mk : Int × Int → M) (m : M) :
    (match peer with
      | none => none
      | some p =>
        match ts with
        | none => none
        | some t => if tsValid (some t) = false then none else if v p = false then none else some (mk t))
      = some m ↔
    ∃ p t, peer = some p ∧ ts = some t ∧ tsValid ts = true ∧ v p = true ∧ m = mk t := by
  cases peer with
  | none => simp
  | some p => simpa using tsGuard_iff ts (v p) mk m

/-- … and whose check asks for a TCP requester and something of its address -/
theorem tcpHandler_iff {M : Type} (peer : Option Peer) (ts : Ts) {v : Peer → Bool} (mk : Int × Int → M)
    (m : M) {Q : Prop} {P : Bytes → Prop} (hv : ∀ p, v p = true ↔ Q ∧ ∃ ip, p.addr = .tcp ip ∧ P ip) :
    (match peer with
      | none => none
      | some p =>
        match ts with
        | none => none
        | some t => if tsValid (some t) = false then none else if v p = false then none else some (mk t))
      = some m ↔
    ∃ p t ip, peer = some p ∧ p.addr = .tcp ip ∧ ts = some t ∧ tsValid ts = true ∧ Q ∧ P ip ∧ m = mk t := by
  simp only [hostHandler_iff, hv]
  constructor
  · rintro ⟨p, t, hp, ht, hv, ⟨hq, ip, ha, he⟩, hm⟩
    exact ⟨p, t, ip, hp, ha, ht, hv, hq, he, hm⟩
  · rintro ⟨p, t, ip, hp, ha, ht, hv, hq, he, hm⟩
    exact ⟨p, t, hp, ht, hv, ⟨hq, ip, ha, he⟩, hm⟩

end Scion.C40
