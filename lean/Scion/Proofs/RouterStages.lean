import Scion.Proofs.RouterParse
import Scion.Proofs.Guard
/-! The stages of `Scion.Router.process`, one specification each: `stX_ends` says that stage `stX` either
refuses the packet (`Rejects`: never an accepting disposition, and a documented answer unless an access
was out of range) or passes on a state with the facts its checks establish (`Ends`). -/
namespace Scion.Router
open Scion.Util
open Scion.PathMeta hiding Info

/-- peel an if/match chain in `h : chain = .error r` completely -/
macro "peel_err" h:ident : tactic =>
  `(tactic| ((repeat' (split at $h:ident)) <;> (first | (cases $h:ident; rfl) | (cases $h:ident))))

structure ParseOk (h : Hd) (pm : Hdr) (raw : Bytes) (s : St) : Prop where
  hop : getHop h raw pm.currHF = some s.hop
  inf : getInfo h raw pm.currINF = some s.inf
  peer : determinePeer pm s.inf = some s.peering
  buf : s.buf = raw
  hpm : s.pm = pm
  eff : s.effXover = false
  idx : pm.currINF = infIdx pm pm.currHF
  single : s.inf.peer = false → pm.s0 ≠ 1 ∧ pm.s1 ≠ 1 ∧ pm.s2 ≠ 1

structure SegIDOk (h : Hd) (ing : Ingress) (s s' : St) : Prop where
  hop : s'.hop = s.hop
  hpm : s'.pm = s.pm
  peering : s'.peering = s.peering
  eff : s'.effXover = s.effXover
  inf : s'.inf = if ingressUpdates ing s.inf s.peering then updSegID s.inf s.hop else s.inf
  buf : s'.buf = if ingressUpdates ing s.inf s.peering
                 then setInfo h s.buf s.pm.currINF (updSegID s.inf s.hop) else s.buf

structure SrcDstOk (cfg : Cfg) (h : Hd) (ing : Ingress) (s : St) : Prop where
  intFirst : ing.ifID = 0 → s.pm.currHF = 0 → h.srcIA = cfg.localIA
  intDst : ing.ifID = 0 → h.dstIA ≠ cfg.localIA
  extSrc : ing.ifID ≠ 0 → h.srcIA ≠ cfg.localIA
  extDst : ing.ifID ≠ 0 → (isLastHop (base h s.pm) = true ↔ h.dstIA = cfg.localIA)
  srcHost : h.srcIA = cfg.localIA → srcHostBad h = false

structure XoverOk (cfg : Cfg) (mac : Mac) (h : Hd) (now : Nat) (s s' : St) : Prop where
  peering : s'.peering = s.peering
  no : doesXover h s = false → s' = s
  yes : doesXover h s = true →
    ∃ b', incPath (base h s.pm) = .ok b' ∧ s'.pm = b'.pm ∧ s'.buf = setMeta h s.buf b'.pm ∧
      getHop h (setMeta h s.buf b'.pm) b'.pm.currHF = some s'.hop ∧
      getInfo h (setMeta h s.buf b'.pm) b'.pm.currINF = some s'.inf ∧
      unexpired now s'.inf s'.hop = true ∧ macOk mac cfg.key s'.inf s'.hop = true ∧
      s'.effXover = true

/-- the dispositions (and SCMP type/code pairs) the fast path is documented to produce -/
def Documented : Disp → Prop
  | .crash => False
  | .slow t c _ =>
    (t = PP ∧ (c = cPktSize ∨ c = cBadSrc ∨ c = cBadDst ∨ c = cInvalidPath ∨ c = cUnkIngress ∨
      c = cUnkEgress ∨ c = cBadMac ∨ c = cExpired ∨ c = cSegChange)) ∨
    (t = tDestUnreach ∧ c = 0) ∨ (t = tExtDown ∧ c = 0) ∨ (t = tIntDown ∧ c = 0)
  | _ => True

def ppCodes : List Nat :=
  [cPktSize, cBadSrc, cBadDst, cInvalidPath, cUnkIngress, cUnkEgress, cBadMac, cExpired, cSegChange]

theorem documented_pp {c p : Nat} (hc : c ∈ ppCodes) : Documented (.slow PP c p) := by
  simp only [ppCodes, List.mem_cons, List.not_mem_nil, or_false] at hc
  exact Or.inl ⟨rfl, hc⟩

theorem codeUnkIn_mem (inf : Info) : codeUnkIn inf ∈ ppCodes := by
  unfold codeUnkIn; split <;> decide

theorem codeUnkEg_mem (inf : Info) : codeUnkEg inf ∈ ppCodes := by
  unfold codeUnkEg; split <;> decide

theorem documented_down (l : Iface) : Documented (.slow (downType l) 0 0) := by
  unfold downType; split
  · exact Or.inr (Or.inr (Or.inr ⟨rfl, rfl⟩))
  · exact Or.inr (Or.inr (Or.inl ⟨rfl, rfl⟩))

/-- what every stage keeps -/
structure Inv (h : Hd) (s : St) : Prop where
  buf : InBuf h s.buf
  inf : s.pm.currINF < h.numINF
  hop : s.pm.currHF < h.numHops

theorem ingressInterface_some {h s} (iv : Inv h s) : ∃ id, ingressInterface h s = some id := by
  unfold ingressInterface
  split
  · have h1 : s.pm.currINF - 1 < h.numINF := by have := iv.inf; omega
    have h2 : s.pm.currHF - 1 < h.numHops := by have := iv.hop; omega
    obtain ⟨x, e1⟩ := getInfo_of_inBuf iv.buf h1
    obtain ⟨y, e2⟩ := getHop_of_inBuf iv.buf h2
    rw [e1, e2]; exact ⟨_, rfl⟩
  · exact ⟨_, rfl⟩

theorem length_clearIngressAlert (inf : Info) (x : Hop) : (clearIngressAlert inf x).mac = x.mac := by
  unfold clearIngressAlert; split <;> rfl

theorem length_clearEgressAlert (inf : Info) (x : Hop) : (clearEgressAlert inf x).mac = x.mac := by
  unfold clearEgressAlert; split <;> rfl

/-- the ingress interface enters the table only as "from inside the AS, within a segment" -/
theorem pairCheck_ifid (x : Bool) (ifid : Nat) (i e : LinkType) :
    pairCheck x ifid i e = if x = false ∧ ifid = 0 then none else pairCheck x 1 i e := by
  cases x
  · by_cases h0 : ifid = 0
    · subst h0; rfl
    · have : (ifid == 0) = false := by simpa using h0
      simp only [pairCheck, this, h0, and_false, if_false]; rfl
  · rfl

/-- every rejection by the table is InvalidPath (within a segment) or InvalidSegmentChange -/
theorem pairCheck_code (x : Bool) (ifid : Nat) (i e : LinkType) (c : Nat)
    (h : pairCheck x ifid i e = some c) : c = if x then cSegChange else cInvalidPath := by
  have table : pairCheck x 1 i e = none ∨ pairCheck x 1 i e = some (if x then cSegChange else cInvalidPath) := by
    cases x <;> cases i <;> cases e <;> decide
  rw [pairCheck_ifid] at h
  split at h
  · cases h
  · rcases table with t | t <;> rw [t] at h <;> cases h; rfl

/-- the dispositions a stage may refuse a packet with: a drop, a router-alert hand-over, a slow-path
request with a documented type and code, and the `crash` outcome only when an access was out of range
(`safe` = the path header lies inside the buffer) -/
def Rejects (safe : Prop) : Disp → Prop
  | .discard | .alertIngress | .alertEgress => True
  | .slow t c p => Documented (.slow t c p)
  | .crash => ¬ safe
  | _ => False

theorem Rejects.nacc {safe d} (h : Rejects safe d) : d.accepting = false := by
  cases d <;> first | rfl | exact h.elim

theorem Rejects.doc {safe d} (h : Rejects safe d) (hs : safe) : Documented d := by
  cases d <;> first | exact h | exact h hs | trivial

theorem Rejects.mono {safe safe' d} (hs : safe' → safe) (h : Rejects safe d) : Rejects safe' d := by
  cases d <;> first | exact h | exact fun x => h (hs x)

/-- the result of a stage: a refusal, or a value satisfying `Q` -/
def Ends {α} (safe : Prop) (Q : α → Prop) : R α → Prop
  | .error r => Rejects safe r.1
  | .ok a => Q a

theorem Rejects.pp {safe} {c p : Nat} (hc : c ∈ ppCodes) : Rejects safe (.slow PP c p) :=
  documented_pp (p := p) hc

theorem Ends.ok {α safe Q} {x : R α} {a} (h : Ends safe Q x) (e : x = .ok a) : Q a := by subst e; exact h
theorem Ends.err {α safe Q} {x : R α} {r} (h : Ends safe Q x) (e : x = .error r) : Rejects safe r.1 := by
  subst e; exact h

theorem Ends.guard {α safe Q} {g : Prop} [Decidable g] {e : Disp × Bytes} {k : R α}
    (he : Rejects safe e.1) (hk : ¬ g → Ends safe Q k) : Ends safe Q (if g then .error e else k) := by
  split
  · exact he
  · exact hk ‹_›

theorem Ends.error {α safe Q} {r : Disp × Bytes} (h : Rejects safe r.1) : Ends (α := α) safe Q (.error r) := h

/-- one step of a walk over `process` / `outbound`: the stage refuses, or the walk goes on from a state in `Q` -/
theorem Ends.step {safe safe' Q} {x : R St} {k : St → Disp × Bytes} {r : Disp × Bytes} {X : Prop}
    (hx : Ends safe Q x)
    (hr : (match (generalizing := false) x with | .error r => r | .ok a => k a) = r) (hs : safe' → safe)
    (hk : ∀ a, x = .ok a → Q a → k a = r → Rejects safe' r.1 ∨ X) : Rejects safe' r.1 ∨ X := by
  cases x with
  | error r' => subst hr; exact .inl (hx.mono hs)
  | ok a => exact hk a rfl hx hr

/-! ### out-of-range accesses refute `InBuf` -/

theorem readHop_oob {h buf idx} (e : readHop h buf idx = .oob) : ¬ InBuf h buf := fun hb => by
  rcases readHop_inBuf h buf hb idx with e' | ⟨x, e'⟩ <;> rw [e] at e' <;> cases e'

theorem readInfo_oob {h buf idx} (e : readInfo h buf idx = .oob) : ¬ InBuf h buf := fun hb => by
  rcases readInfo_inBuf h buf hb idx with e' | ⟨x, e'⟩ <;> rw [e] at e' <;> cases e'

theorem wrInfo_none {h buf idx i} (e : wrInfo h buf idx i = none) (hi : idx < h.numINF) : ¬ InBuf h buf :=
  fun hb => by rw [wrInfo_of_le (inBuf_info h buf hb idx hi)] at e; cases e

theorem wrHop_none {h buf idx x} (e : wrHop h buf idx x = none) (hi : idx < h.numHops) : ¬ InBuf h buf :=
  fun hb => by rw [wrHop_of_le (inBuf_hop h buf hb idx hi)] at e; cases e

theorem wrMeta_none {h buf pm} (e : wrMeta h buf pm = none) : ¬ InBuf h buf :=
  fun hb => by rw [wrMeta_of_le (inBuf_meta h buf hb)] at e; cases e

/-! ### the stages -/

theorem stParse_ends {h pm raw} : Ends (InBuf h raw) (ParseOk h pm raw) (stParse h pm raw) := by
  unfold stParse
  split
  · trivial
  · next hh => exact readHop_oob hh
  · next hop hh =>
    split
    · trivial
    · next hi => exact readInfo_oob hi
    · next inf hi =>
      refine .guard trivial fun hs => .guard trivial fun hx => ?_
      split
      · trivial
      · next peering hp =>
        refine ⟨readHop_eq_ok.1 hh, readInfo_eq_ok.1 hi, hp, rfl, rfl, rfl, by simpa using hx, fun hpf => ?_⟩
        simp at hs
        have := hs hpf
        exact ⟨this.1.1, this.1.2, this.2⟩

theorem ParseOk.inv {h pm raw s} (a : ParseOk h pm raw s) (hb : InBuf h raw) : Inv h s :=
  ⟨a.buf ▸ hb, a.hpm ▸ (getInfo_some_bound a.inf).1, a.hpm ▸ (getHop_some_bound a.hop).1⟩

theorem stSegID_ends {h ing s} : Ends (InBuf h s.buf) (SegIDOk h ing s) (stSegID h ing s) := by
  unfold stSegID
  split
  · next hu =>
    split
    · next hi =>
      split
      · next hw => exact wrInfo_none hw hi
      · next b hw => exact ⟨rfl, rfl, rfl, rfl, by simp [hu], by simp [hu, (wrInfo_some hw).1]⟩
    · trivial
  · next hu => exact ⟨rfl, rfl, rfl, rfl, by simp [hu], by simp [hu]⟩

theorem SegIDOk.inv {h ing s s'} (b : SegIDOk h ing s s') (iv : Inv h s) : Inv h s' := by
  refine ⟨?_, b.hpm ▸ iv.inf, b.hpm ▸ iv.hop⟩
  rw [b.buf]
  split
  · exact inBuf_of_length iv.buf (length_setInfo h s.buf _ _ (inBuf_info h s.buf iv.buf _ iv.inf))
  · exact iv.buf

theorem stValidate1_ends {h now ing s} :
    Ends True (fun s' => s' = s ∧ unexpired now s.inf s.hop = true ∧
      (ing.ifID ≠ 0 → ing.ifID = travelIn s.inf s.hop) ∧ h.pldLenOk = true) (stValidate1 h now ing s) :=
  .guard (.pp (by decide)) fun h1 => .guard (.pp (codeUnkIn_mem _)) fun h2 =>
    .guard (.pp (by decide)) fun h3 =>
      ⟨rfl, by simpa using h1, fun hne => by simpa [hne] using h2, by simpa using h3⟩

theorem stTransit_ends {cfg h ing s} :
    Ends (Inv h s) (fun s' => s' = s ∧ (s.pm.currHF ≠ 0 → ing.ifID = 0 →
      ∃ id l, ingressInterface h s = some id ∧ cfg.ifaces id = some l ∧
        l.linkId = ing.linkId ∧ l.scope = .sibling)) (stTransit cfg h ing s) := by
  unfold stTransit
  split
  · next h1 => exact ⟨rfl, fun a b => by simp [a, b] at h1⟩
  · split
    · next hn => exact fun iv => by obtain ⟨id, hid⟩ := ingressInterface_some iv; rw [hid] at hn; cases hn
    · next id hid =>
      split
      · trivial
      · next l hl =>
        refine .guard trivial fun hc => ?_
        simp at hc
        exact ⟨rfl, fun _ _ => ⟨id, l, hid, hl, hc⟩⟩

theorem stSrcDst_ends {cfg h ing s} :
    Ends True (fun s' => s' = s ∧ SrcDstOk cfg h ing s) (stSrcDst cfg h ing s) :=
  .guard (.pp (by decide)) fun h1 => .guard (.pp (by decide)) fun h2 =>
  .guard (.pp (by decide)) fun h3 => .guard (.pp (by decide)) fun h4 =>
  .guard (.pp (by decide)) fun h5 => by
    refine ⟨rfl, ⟨?_, ?_, ?_, ?_, ?_⟩⟩
    · intro a b; simpa [a, b] using h1
    · intro a; simpa [a] using h2
    · intro a; simpa [a] using h3
    · intro a
      simp [a] at h4
      cases hl : isLastHop (base h s.pm) <;> simp [hl] at h4 ⊢ <;> exact h4
    · intro a; simpa [a] using h5

theorem stMac_ends {cfg mac h ing s} :
    Ends (InBuf h s.buf) (fun s' => s' = s ∧ macOk mac cfg.key s.inf s.hop = true) (stMac cfg mac h ing s) := by
  unfold stMac
  refine .guard (.pp (by decide)) fun h1 => ?_
  split
  · split
    · next hi =>
      split
      · next hw => exact wrHop_none hw hi
      · trivial
    · trivial
  · exact ⟨rfl, by simpa using h1⟩

theorem stXover_ends {cfg mac h now s} :
    Ends (InBuf h s.buf) (XoverOk cfg mac h now s) (stXover cfg mac h now s) := by
  unfold stXover
  split
  · next hx =>
    split
    · trivial
    · next b' hb =>
      split
      · next hw => exact wrMeta_none hw
      · next buf1 hw =>
        obtain ⟨rfl, hm⟩ := wrMeta_some hw
        have hl := length_setMeta h s.buf b'.pm hm
        split
        · trivial
        · next hh => exact fun ib => readHop_oob hh (inBuf_of_length ib hl)
        · next hop2 hh =>
          split
          · trivial
          · next hi => exact fun ib => readInfo_oob hi (inBuf_of_length ib hl)
          · next inf2 hi =>
            refine .guard (.pp (by decide)) fun h1 => .guard (.pp (by decide)) fun h2 => ?_
            exact ⟨rfl, fun hn => by simp [hn] at hx, fun _ => ⟨b', hb, rfl, rfl, readHop_eq_ok.1 hh,
              readInfo_eq_ok.1 hi, by simpa using h1, by simpa using h2, rfl⟩⟩
  · next hx => exact ⟨rfl, fun _ => rfl, fun hy => by simp [hy] at hx⟩

theorem XoverOk.inv {cfg mac h now s s'} (x : XoverOk cfg mac h now s s') (iv : Inv h s) : Inv h s' := by
  cases hdx : doesXover h s
  · rw [x.no hdx]; exact iv
  · obtain ⟨b', _, hpm', hbuf, hh, hi, _⟩ := x.yes hdx
    exact ⟨hbuf ▸ inBuf_of_length iv.buf (length_setMeta h s.buf b'.pm (inBuf_meta h s.buf iv.buf)),
      hpm' ▸ (getInfo_some_bound hi).1, hpm' ▸ (getHop_some_bound hh).1⟩

theorem stEgressID_ends {cfg h ing s} :
    Ends True (fun l => cfg.ifaces (egressOf s) = some l ∧ (ing.ifID = 0 → l.scope = .external) ∧
      pairCheck s.effXover ing.ifID (cfg.ltype ing.ifID) (cfg.ltype (egressOf s)) = none)
      (stEgressID cfg h ing s) := by
  unfold stEgressID
  split
  · exact .error (.pp (codeUnkEg_mem _))
  · next l hl =>
    refine .guard (.pp (codeUnkEg_mem _)) fun h1 => ?_
    split
    · next hp => exact ⟨hl, fun a => by simpa [a] using h1, hp⟩
    · next code hp =>
      exact .error (by rw [pairCheck_code _ _ _ _ _ hp]; split <;> exact .pp (by decide))

theorem stEgressAlertUp_ends {h l s} :
    Ends (InBuf h s.buf) (fun s' => s' = s ∧ l.up = true) (stEgressAlertUp h l s) := by
  unfold stEgressAlertUp
  split
  · split
    · next hi =>
      split
      · next hw => exact wrHop_none hw hi
      · trivial
    · trivial
  · exact .guard (documented_down l) fun hu => ⟨rfl, by simpa using hu⟩

theorem stProcessEgress_ends {h s} :
    Ends (InBuf h s.buf) (fun s' => ∃ b', incPath (base h s.pm) = .ok b' ∧ s'.pm = b'.pm ∧
      s'.buf = setMeta h (if egressUpdates s.inf s.peering
                          then setInfo h s.buf s.pm.currINF (updSegID s.inf s.hop) else s.buf) b'.pm)
      (stProcessEgress h s) := by
  unfold stProcessEgress
  split
  · next hu =>
    split
    · next hi =>
      split
      · next hw => exact wrInfo_none hw hi
      · next buf1 hw1 =>
        obtain ⟨rfl, hl⟩ := wrInfo_some hw1
        split
        · trivial
        · next b' hb =>
          split
          · next hw => exact fun ib => wrMeta_none hw (inBuf_of_length ib (length_setInfo h s.buf _ _ hl))
          · next buf2 hw2 => exact ⟨b', hb, rfl, by simp [(wrMeta_some hw2).1]⟩
    · trivial
  · next hu =>
    split
    · trivial
    · next b' hb =>
      split
      · next hw => exact wrMeta_none hw
      · next buf2 hw2 => exact ⟨b', hb, rfl, by simp [(wrMeta_some hw2).1]⟩

theorem stParse_ok {h pm raw s} (e : stParse h pm raw = .ok s) : ParseOk h pm raw s := stParse_ends.ok e

theorem stParse_err {h pm raw r} (e : stParse h pm raw = .error r) :
    r.1.accepting = false ∧ r.2 = raw := by
  unfold stParse at e
  (repeat' (split at e)) <;> first | (cases e; exact ⟨rfl, rfl⟩) | (cases e)

theorem stMac_ok {cfg mac h ing s s'} (e : stMac cfg mac h ing s = .ok s') :
    s' = s ∧ macOk mac cfg.key s.inf s.hop = true := stMac_ends.ok e

theorem stMac_err {cfg mac h ing s r} (e : stMac cfg mac h ing s = .error r) : r.1.accepting = false :=
  (stMac_ends.err e).nacc

theorem stXover_err {cfg mac h now s r} (e : stXover cfg mac h now s = .error r) : r.1.accepting = false :=
  (stXover_ends.err e).nacc

/-- the expiry check is the first one: an expired hop is answered with PathExpired at its offset -/
theorem stValidate1_expired {h now ing s} (hx : unexpired now s.inf s.hop = false) :
    stValidate1 h now ing s = .error (.slow PP cExpired (hopPtr h s.pm), s.buf) := by
  unfold stValidate1
  simp [hx]

/-- a MAC mismatch at this stage is answered with InvalidHopFieldMAC at the hop's offset -/
theorem stMac_bad {cfg mac h ing s} (hx : macOk mac cfg.key s.inf s.hop = false) :
    stMac cfg mac h ing s = .error (.slow PP cBadMac (hopPtr h s.pm), s.buf) := by
  unfold stMac
  simp [hx]

theorem inbound_buf (res : ResolveOut) (s : St) : (inbound res s).2 = s.buf := by
  unfold inbound; cases res <;> rfl

theorem inbound_not_forward (res : ResolveOut) (s : St) : (inbound res s).1.isForward = false := by
  unfold inbound; cases res <;> rfl

theorem inbound_accepting_deliver (res : ResolveOut) (s : St)
    (h : (inbound res s).1.accepting = true) : (inbound res s).1.isDeliver = true := by
  cases res <;> simp_all [inbound, Disp.accepting, Disp.isDeliver]

theorem inbound_total (res : ResolveOut) (s : St) : Documented (inbound res s).1 := by
  cases res <;> simp [inbound, Documented]

end Scion.Router
