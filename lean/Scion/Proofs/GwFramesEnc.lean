import Scion.Model.GwFrames
/-! C41 helper lemmas, the sender.  What the receiver's packet scan (`ProcessCompletePkts`) does
on a concatenation of valid packets followed by the head of a valid packet; the shape of the
frames `encoder.Read` produces (a *middle* frame: a full slice of the packet in progress, or a
*general* frame: rest of the packet in progress ++ complete valid packets ++ head of the next
valid packet); and the sender's output as a *trace* of steps, each annotated with the packet in
progress before and after the frame and the packets the frame completes. -/
namespace Scion.Proofs.GwFrames
open Scion.GwFrames Scion.Util

/-! ## the scan -/

theorem getElem?_append_take (p x : Bytes) (k i : Nat) (hi : i < k) (hk : i < p.length) :
    (p.take k ++ x)[i]? = p[i]? := by
  rw [List.getElem?_append_left (by simp [List.length_take]; omega)]
  rw [List.getElem?_take_of_lt hi]

theorem validPkt_iff (p : Bytes) :
    validPkt p = true ↔
      ∃ b0, p[0]? = some b0 ∧
        ((b0.toNat / 16 = 4 ∧ 20 ≤ p.length ∧ ∃ x y, p[2]? = some x ∧ p[3]? = some y ∧
            be16 x y = p.length) ∨
         (b0.toNat / 16 = 6 ∧ 40 ≤ p.length ∧ ∃ x y, p[4]? = some x ∧ p[5]? = some y ∧
            40 + be16 x y = p.length)) := by
  unfold validPkt
  constructor
  · intro h
    split at h
    · cases h
    · rename_i b0 hb0
      refine ⟨b0, hb0, ?_⟩
      split at h
      · rename_i h4
        split at h
        · cases h
        · split at h
          · rename_i x y hx hy
            exact Or.inl ⟨h4, by omega, x, y, hx, hy, by simpa using h⟩
          · cases h
      · split at h
        · rename_i h6
          split at h
          · cases h
          · split at h
            · rename_i x y hx hy
              exact Or.inr ⟨h6, by omega, x, y, hx, hy, by simpa using h⟩
            · cases h
        · cases h
  · rintro ⟨b0, hb0, h⟩
    rw [hb0]
    rcases h with ⟨h4, hl, x, y, hx, hy, he⟩ | ⟨h6, hl, x, y, hx, hy, he⟩
    · simp only [h4, if_true]
      rw [if_neg (by omega), hx, hy]
      simpa using he
    · have h4 : ¬ b0.toNat / 16 = 4 := by omega
      simp only
      rw [if_neg h4, if_pos h6, if_neg (by omega), hx, hy]
      simpa using he

theorem valid_length (p : Bytes) (h : validPkt p = true) : 20 ≤ p.length := by
  obtain ⟨_, _, ⟨_, h, _⟩ | ⟨_, h, _⟩⟩ := (validPkt_iff p).1 h <;> omega

theorem declLen_of_head (p x : Bytes) (k : Nat) (hv : validPkt p = true)
    (hk : min 40 p.length ≤ k) : declLen (p.take k ++ x) = some p.length := by
  have hl : min k p.length ≤ (p.take k ++ x).length := by simp [List.length_take]
  have hp := valid_length p hv
  have get : ∀ i, i < 20 → (p.take k ++ x)[i]? = p[i]? := fun i hi =>
    getElem?_append_take p x k i (by omega) (by omega)
  unfold declLen
  obtain ⟨b0, hb0, ⟨h4, hlen, a, b, ha, hb, he⟩ | ⟨h6, hlen, a, b, ha, hb, he⟩⟩ :=
    (validPkt_iff p).1 hv
  · rw [get 0 (by omega), hb0]
    simp only [h4, if_true]
    rw [if_neg (by omega), get 2 (by omega), get 3 (by omega), ha, hb]
    simp only [he]
    rw [if_neg (by omega)]
  · rw [get 0 (by omega), hb0]
    simp only
    rw [if_neg (by omega), if_pos h6, if_neg (by omega), get 4 (by omega), get 5 (by omega), ha, hb]
    simp only [← he, Nat.add_comm]

theorem declLen_valid (p x : Bytes) (hv : validPkt p = true) :
    declLen (p ++ x) = some p.length := by
  have := declLen_of_head p x p.length hv (by omega)
  rwa [List.take_length] at this

theorem scan_nil : scan [] = ⟨[], 0, none⟩ := by
  rw [scan]; simp

theorem scan_valid (p rest : Bytes) (hv : validPkt p = true) :
    scan (p ++ rest) =
      ⟨p :: (scan rest).out, p.length + (scan rest).consumed, (scan rest).frag⟩ := by
  have hlen := valid_length p hv
  rw [scan]
  have hne : ¬ (p ++ rest).length = 0 := by rw [List.length_append]; omega
  rw [dif_neg hne]
  have hd := declLen_valid p rest hv
  split
  · rename_i h; rw [hd] at h; cases h
  · rename_i l h
    rw [hd] at h
    cases h
    rw [dif_neg (by simp), dif_neg (by omega)]
    simp

theorem scan_head (p : Bytes) (k : Nat) (hv : validPkt p = true) (hk : 40 ≤ k)
    (hlt : k < p.length) : scan (p.take k) = ⟨[], 0, some p.length⟩ := by
  rw [scan]
  have hl : (p.take k).length = k := by simp [List.length_take]; omega
  rw [dif_neg (by omega)]
  have hd := declLen_of_head p [] k hv (by omega)
  rw [List.append_nil] at hd
  split
  · rename_i h; rw [hd] at h; cases h
  · rename_i l h
    rw [hd] at h
    cases h
    rw [dif_pos (by omega)]

def HeadOK (h : Bytes) (cur : Option Bytes) : Prop :=
  match cur with
  | none => h = []
  | some p => validPkt p = true ∧ ∃ k, h = p.take k ∧ 40 ≤ k ∧ k < p.length

def curLen : Option Bytes → Option Nat
  | none => none
  | some p => some p.length

theorem scan_shape (qs : List Bytes) (h : Bytes) (cur : Option Bytes)
    (hq : ∀ q ∈ qs, validPkt q = true) (hh : HeadOK h cur) :
    scan (qs.flatten ++ h) = ⟨qs, qs.flatten.length, curLen cur⟩ := by
  induction qs with
  | nil =>
    simp only [List.flatten_nil, List.nil_append, List.length_nil]
    cases cur with
    | none => simp only [HeadOK] at hh; subst hh; exact scan_nil
    | some p =>
      obtain ⟨hv, k, rfl, hk, hlt⟩ := hh
      exact scan_head p k hv hk hlt
  | cons q qs ih =>
    simp only [List.flatten_cons, List.append_assoc]
    rw [scan_valid q _ (hq q (by simp))]
    rw [ih (fun x hx => hq x (by simp [hx]))]
    simp [List.length_append]

theorem headOK_length (h : Bytes) (cur : Option Bytes) (hh : HeadOK h cur) :
    (h = [] ↔ cur = none) := by
  cases cur with
  | none => simp only [HeadOK] at hh; simp [hh]
  | some p =>
    obtain ⟨_, k, rfl, hk, hlt⟩ := hh
    constructor
    · intro he
      have : (p.take k).length = k := by simp [List.length_take]; omega
      rw [he] at this; simp at this; omega
    · intro he; cases he

/-! ## one frame -/

def resOf (h : Bytes) : Option Bytes → Bytes
  | none => []
  | some p => p.drop h.length

def idxOf (idx : Option Nat) (pl : Bytes) (qs : List Bytes) (cur : Option Bytes) : Option Nat :=
  match idx with
  | some i => some i
  | none => if qs = [] ∧ cur = none then none else some pl.length

theorem isEmpty_drop_eq_false {l : Bytes} {n : Nat} (h : n < l.length) :
    (l.drop n).isEmpty = false := by
  rw [List.isEmpty_eq_false_iff, ne_eq, List.drop_eq_nil_iff]; omega

theorem totalLen_cons (p : Bytes) (q : List Bytes) :
    totalLen (p :: q) = p.length + 1 + totalLen q := by
  simp [totalLen]

theorem fill_cons (mtu : Nat) (p : Bytes) (q : List Bytes) (sched : List Bool) (pl : Bytes)
    (idx : Option Nat) :
    fill mtu (p :: q) sched pl idx =
      if mtu - (hdrLen + pl.length) < 40 then ⟨pl, idx, [], p :: q, sched, false⟩
      else
        match ringRead pl.isEmpty sched with
        | (false, sched') => ⟨pl, idx, [], p :: q, sched', false⟩
        | (true, sched') =>
          if !validPkt p then fill mtu q sched' pl idx
          else
            if (p.drop (min (mtu - (hdrLen + pl.length)) p.length)).isEmpty then
              fill mtu q sched' (pl ++ p.take (min (mtu - (hdrLen + pl.length)) p.length))
                (setIndex idx pl.length)
            else ⟨pl ++ p.take (min (mtu - (hdrLen + pl.length)) p.length), setIndex idx pl.length,
                  p.drop (min (mtu - (hdrLen + pl.length)) p.length), q, sched', false⟩ := by
  rw [fill.eq_def]
  rfl

section
variable {mtu : Nat} {p : Bytes} {q : List Bytes} {sched sched' : List Bool} {pl : Bytes}
  {idx : Option Nat}

theorem fill_noroom (hroom : mtu - (hdrLen + pl.length) < 40) :
    fill mtu (p :: q) sched pl idx = ⟨pl, idx, [], p :: q, sched, false⟩ := by
  rw [fill_cons, if_pos hroom]

theorem fill_wait (hroom : ¬ mtu - (hdrLen + pl.length) < 40)
    (hrr : ringRead pl.isEmpty sched = (false, sched')) :
    fill mtu (p :: q) sched pl idx = ⟨pl, idx, [], p :: q, sched', false⟩ := by
  rw [fill_cons, if_neg hroom, hrr]

theorem fill_skip (hroom : ¬ mtu - (hdrLen + pl.length) < 40)
    (hrr : ringRead pl.isEmpty sched = (true, sched')) (hv : ¬ validPkt p = true) :
    fill mtu (p :: q) sched pl idx = fill mtu q sched' pl idx := by
  rw [fill_cons, if_neg hroom, hrr]
  simp [hv]

theorem fill_fits (hroom : ¬ mtu - (hdrLen + pl.length) < 40)
    (hrr : ringRead pl.isEmpty sched = (true, sched')) (hv : validPkt p = true)
    (hfit : p.length ≤ mtu - (hdrLen + pl.length)) :
    fill mtu (p :: q) sched pl idx = fill mtu q sched' (pl ++ p) (setIndex idx pl.length) := by
  rw [fill_cons, if_neg hroom, hrr, Nat.min_eq_right hfit]
  simp [hv]

/-- the frame is full; the rest of the packet stays in `e.pkt` -/
theorem fill_split (hroom : ¬ mtu - (hdrLen + pl.length) < 40)
    (hrr : ringRead pl.isEmpty sched = (true, sched')) (hv : validPkt p = true)
    (hfit : ¬ p.length ≤ mtu - (hdrLen + pl.length)) :
    fill mtu (p :: q) sched pl idx =
      ⟨pl ++ p.take (mtu - (hdrLen + pl.length)), setIndex idx pl.length,
        p.drop (mtu - (hdrLen + pl.length)), q, sched', false⟩ := by
  rw [fill_cons, if_neg hroom, hrr, Nat.min_eq_left (by omega)]
  simp [hv, isEmpty_drop_eq_false (Nat.lt_of_not_le hfit)]

end

structure FillSpec (mtu : Nat) (q : List Bytes) (sched : List Bool) (pl : Bytes) (idx : Option Nat)
    (qs : List Bytes) (h : Bytes) (cur : Option Bytes) : Prop where
  payload : (fill mtu q sched pl idx).payload = pl ++ qs.flatten ++ h
  valid : ∀ x ∈ qs, validPkt x = true
  head : HeadOK h cur
  res : (fill mtu q sched pl idx).res = resOf h cur
  owed : q.filter validPkt = qs ++ cur.toList ++ (fill mtu q sched pl idx).queue.filter validPkt
  index : (fill mtu q sched pl idx).index = idxOf idx pl qs cur
  room : (qs ≠ [] ∨ cur ≠ none) → pl.length + 40 ≤ mtu - hdrLen
  eof : (fill mtu q sched pl idx).eof = true →
    pl = [] ∧ qs = [] ∧ cur = none ∧ (fill mtu q sched pl idx).queue.filter validPkt = []

theorem FillSpec.stop {mtu : Nat} {q : List Bytes} {sched s' : List Bool} {pl : Bytes}
    {idx : Option Nat} {e : Bool} (hf : fill mtu q sched pl idx = ⟨pl, idx, [], q, s', e⟩)
    (he : e = true → pl = [] ∧ q = []) : FillSpec mtu q sched pl idx [] [] none := by
  constructor <;> simp [hf, HeadOK, resOf, idxOf]
  · cases idx <;> rfl
  · intro h
    simp [he h]

theorem fill_shape (mtu : Nat) (q : List Bytes) : ∀ (sched : List Bool) (pl : Bytes) (idx : Option Nat),
    ∃ qs h cur, FillSpec mtu q sched pl idx qs h cur := by
  induction q with
  | nil =>
    intro sched pl idx
    exact ⟨[], [], none, .stop (by rw [fill]) (by simp)⟩
  | cons p q ih =>
    intro sched pl idx
    by_cases hroom : mtu - (hdrLen + pl.length) < 40
    · exact ⟨[], [], none, .stop (fill_noroom hroom) nofun⟩
    · cases hrr : ringRead pl.isEmpty sched with
      | mk got sched' =>
        cases got with
        | false => exact ⟨[], [], none, .stop (fill_wait hroom hrr) nofun⟩
        | true =>
          by_cases hv : validPkt p = true
          · have hlen := valid_length p hv
            by_cases hfit : p.length ≤ mtu - (hdrLen + pl.length)
            · obtain ⟨qs, h, cur, sp⟩ := ih sched' (pl ++ p)
                (setIndex idx pl.length)
              have hf := fill_fits (q := q) (idx := idx) hroom hrr hv hfit
              refine ⟨p :: qs, h, cur, ?_⟩
              constructor
              · rw [hf, sp.payload]; simp
              · exact List.forall_mem_cons.2 ⟨hv, sp.valid⟩
              · exact sp.head
              · rw [hf, sp.res]
              · rw [hf, List.filter_cons_of_pos hv, sp.owed]; simp
              · rw [hf, sp.index]
                cases idx <;> simp [idxOf, setIndex]
              · intro _; simp only [hdrLen] at *; omega
              · intro he
                rw [hf] at he
                have := (sp.eof he).1
                have hl : (pl ++ p).length = 0 := by rw [this]; rfl
                rw [List.length_append] at hl
                omega
            · have hf := fill_split (q := q) (idx := idx) hroom hrr hv hfit
              refine ⟨[], p.take (mtu - (hdrLen + pl.length)), some p, ?_⟩
              have hk : (p.take (mtu - (hdrLen + pl.length))).length = mtu - (hdrLen + pl.length) := by
                simp [List.length_take]; omega
              constructor
              · rw [hf]; simp
              · intro x hx; cases hx
              · exact ⟨hv, _, rfl, by omega, by omega⟩
              · rw [hf]; simp only [resOf, hk]
              · rw [hf, List.filter_cons_of_pos hv]; simp
              · rw [hf]; cases idx <;> simp [idxOf, setIndex]
              · intro _; simp only [hdrLen] at *; omega
              · intro he; rw [hf] at he; cases he
          · obtain ⟨qs, h, cur, sp⟩ := ih sched' pl idx
            have hf := fill_skip (q := q) (idx := idx) hroom hrr hv
            exact ⟨qs, h, cur, hf ▸ sp.payload, sp.valid, sp.head, hf ▸ sp.res,
              by rw [hf, List.filter_cons_of_neg hv]; exact sp.owed, hf ▸ sp.index, sp.room,
              hf ▸ sp.eof⟩

/-- `fill` never lengthens what is left to send; unless the ring is closed and empty it consumes
something or the frame had bytes already -/
theorem fill_measure (mtu : Nat) (q : List Bytes) (sched : List Bool) (pl : Bytes) (idx : Option Nat) :
    (fill mtu q sched pl idx).res.length + totalLen (fill mtu q sched pl idx).queue ≤ totalLen q ∧
    (hdrLen + 40 ≤ mtu → (fill mtu q sched pl idx).eof = false →
      (fill mtu q sched pl idx).res.length + totalLen (fill mtu q sched pl idx).queue <
        pl.length + totalLen q) := by
  fun_induction fill mtu q sched pl idx with
  | case1 sched pl idx => cases pl <;> simp [totalLen]
  | case2 p q sched pl idx hroom =>
    refine ⟨by simp, fun hm _ => ?_⟩
    simp only [hdrLen, List.length_nil] at *; omega
  | case3 p q sched pl idx hroom sched' hrr =>
    refine ⟨by simp, fun _ _ => ?_⟩
    -- a blocking read (empty frame) always gets its packet
    cases pl with
    | nil => cases sched <;> simp [ringRead] at hrr
    | cons b pl => simp only [List.length_nil, List.length_cons]; omega
  | case4 p q sched pl idx hroom sched' hrr hv ih =>
    rw [totalLen_cons]
    exact ⟨by omega, fun hm he => by have := ih.2 hm he; omega⟩
  | case5 p q sched pl idx hroom sched' hrr hv idx' n pl' res hres ih =>
    rw [totalLen_cons]
    exact ⟨by omega, fun _ _ => by omega⟩
  | case6 p q sched pl idx hroom sched' hrr hv idx' n pl' res hres =>
    simp only [totalLen_cons, res, List.length_drop]
    exact ⟨by omega, fun _ _ => by omega⟩

theorem fill_len (mtu : Nat) (q : List Bytes) (sched : List Bool) (pl : Bytes) (idx : Option Nat)
    (h : pl.length ≤ mtu - hdrLen) : (fill mtu q sched pl idx).payload.length ≤ mtu - hdrLen := by
  fun_induction fill mtu q sched pl idx with
  | case1 | case2 | case3 => exact h
  | case4 _ _ _ _ _ _ _ _ _ ih => exact ih h
  | case5 p q sched pl idx hroom sched' hrr hv idx' n pl' res hres ih =>
    apply ih
    simp only [pl', n, List.length_append, List.length_take, hdrLen] at *
    omega
  | case6 p q sched pl idx hroom sched' hrr hv idx' n pl' res hres =>
    simp only [pl', n, List.length_append, List.length_take, hdrLen] at *
    omega

/-- `encoder.Read` by what is left of the packet in progress: more than a frame holds (a full
slice goes out), or `fill` continues behind it (behind nothing, if no packet is in progress) -/
theorem readFrame_eq (mtu epoch : Nat) (st : EncSt) (queue : List Bytes) (sched : List Bool) :
    readFrame mtu epoch st queue sched =
      if mtu - hdrLen < st.res.length then
        .frame ⟨noIndex, epoch, st.seq, st.res.take (mtu - hdrLen)⟩
          ⟨st.seq + 1, st.res.drop (mtu - hdrLen)⟩ queue sched
      else
        let r := fill mtu queue sched st.res none
        if st.res.isEmpty && r.eof then .nothing ⟨st.seq + 1, []⟩ r.sched
        else .frame ⟨indexField r.index, epoch, st.seq, r.payload⟩ ⟨st.seq + 1, r.res⟩ r.queue r.sched := by
  unfold readFrame
  by_cases hbig : mtu - hdrLen < st.res.length
  · have hne : st.res.isEmpty = false := by
      rw [List.isEmpty_eq_false_iff]; intro h; simp [h] at hbig
    simp [hbig, hne, isEmpty_drop_eq_false hbig, Nat.min_eq_left (Nat.le_of_lt hbig)]
  · rw [if_neg hbig]
    cases hres : st.res with
    | nil => simp
    | cons b l =>
      rw [← hres, Nat.min_eq_right (Nat.le_of_not_lt hbig)]
      simp [hres]

theorem readFrame_len (mtu epoch : Nat) (st : EncSt) (queue : List Bytes) (sched : List Bool)
    (f : Frame) (st' : EncSt) (q' : List Bytes) (s' : List Bool)
    (h : readFrame mtu epoch st queue sched = .frame f st' q' s') :
    f.payload.length ≤ mtu - hdrLen := by
  rw [readFrame_eq] at h
  split at h
  · cases h
    simp only [List.length_take]; omega
  · dsimp only at h
    split at h
    · cases h
    · cases h
      exact fill_len _ _ _ _ _ (by omega)

theorem encodeF_len (mtu epoch : Nat) : ∀ (fuel : Nat) (st : EncSt) (queue : List Bytes)
    (sched : List Bool), ∀ f ∈ encodeF mtu epoch fuel st queue sched,
      f.payload.length ≤ mtu - hdrLen := by
  intro fuel
  induction fuel with
  | zero => intro st queue sched f hf; cases hf
  | succ fuel ih =>
    intro st queue sched f hf
    rw [encodeF] at hf
    cases hrf : readFrame mtu epoch st queue sched with
    | nothing st' s' => rw [hrf] at hf; cases hf
    | frame f' st' q' s' =>
      rw [hrf] at hf
      rcases List.mem_cons.1 hf with rfl | hf
      · exact readFrame_len mtu epoch st queue sched _ st' q' s' hrf
      · exact ih st' q' s' f hf

/-! ## the trace -/

/-- the packet in progress and the number of its bytes already carried by earlier frames -/
abbrev Pend := Option (Bytes × Nat)

def Pend.pkt : Pend → List Bytes
  | none => []
  | some (p, _) => [p]

def tailOf : Pend → Bytes
  | none => []
  | some (p, c) => p.drop c

def PendOK : Pend → Prop
  | none => True
  | some (p, c) => validPkt p = true ∧ 0 < c ∧ c < p.length

def postOf (h : Bytes) : Option Bytes → Pend
  | none => none
  | some p => some (p, h.length)

structure Step where
  f : Frame
  pre : Pend
  post : Pend
  /-- packets that start and end in this frame -/
  qs : List Bytes
  /-- the frame carries the end of the packet in progress (if any) -/
  completes : Bool

def Step.done (s : Step) : List Bytes := (if s.completes then s.pre.pkt else []) ++ s.qs

inductive StepOK (mtu : Nat) : Step → Prop
  | middle (p : Bytes) (c : Nat) (f : Frame) :
      validPkt p = true → 0 < c → c + (mtu - hdrLen) < p.length →
      f.payload = (p.drop c).take (mtu - hdrLen) → f.index = noIndex →
      StepOK mtu ⟨f, some (p, c), some (p, c + (mtu - hdrLen)), [], false⟩
  | general (pre : Pend) (qs : List Bytes) (h : Bytes) (cur : Option Bytes) (f : Frame) :
      PendOK pre → (∀ x ∈ qs, validPkt x = true) → HeadOK h cur →
      f.payload = tailOf pre ++ qs.flatten ++ h →
      f.index = (if qs = [] ∧ cur = none then noIndex else (tailOf pre).length) →
      ((qs ≠ [] ∨ cur ≠ none) → (tailOf pre).length < noIndex) →
      StepOK mtu ⟨f, pre, postOf h cur, qs, true⟩

def ResOK (res : Bytes) (pre : Pend) : Prop := PendOK pre ∧ res = tailOf pre

theorem postOf_ok (h : Bytes) (cur : Option Bytes) (hh : HeadOK h cur) :
    ResOK (resOf h cur) (postOf h cur) := by
  cases cur with
  | none => exact ⟨trivial, rfl⟩
  | some p =>
    obtain ⟨hv, k, rfl, hk, hlt⟩ := hh
    have hl : (p.take k).length = k := by simp [List.length_take]; omega
    exact ⟨⟨hv, by omega, by omega⟩, rfl⟩

theorem postOf_pkt (h : Bytes) (cur : Option Bytes) : (postOf h cur).pkt = cur.toList := by
  cases cur <;> rfl

theorem readFrame_step (mtu epoch : Nat) (hm : hdrLen + 40 ≤ mtu) (hM : mtu ≤ 65535) (st : EncSt)
    (queue : List Bytes) (sched : List Bool) (pre : Pend) (hr : ResOK st.res pre) :
    match readFrame mtu epoch st queue sched with
    | .nothing _ _ => pre = none ∧ queue.filter validPkt = []
    | .frame f st' q' _ =>
      ∃ step : Step, step.f = f ∧ step.pre = pre ∧ StepOK mtu step ∧ f.seq = st.seq ∧
        f.epoch = epoch ∧ st'.seq = st.seq + 1 ∧ ResOK st'.res step.post ∧
        pre.pkt ++ queue.filter validPkt = step.done ++ step.post.pkt ++ q'.filter validPkt ∧
        st'.res.length + totalLen q' < st.res.length + totalLen queue := by
  obtain ⟨hp, hres⟩ := hr
  rw [readFrame_eq]
  by_cases hbig : mtu - hdrLen < st.res.length
  · rw [if_pos hbig]
    cases pre with
    | none => rw [hres] at hbig; cases hbig
    | some pc =>
      obtain ⟨p, c⟩ := pc
      obtain ⟨hv, hc0, hcl⟩ := hp
      have hrl : st.res.length = p.length - c := by rw [hres]; simp [tailOf]
      refine ⟨⟨_, some (p, c), some (p, c + (mtu - hdrLen)), [], false⟩, rfl, rfl,
        .middle p c _ hv hc0 (by omega) (by simp [hres, tailOf]) rfl, rfl, rfl, rfl,
        ⟨⟨hv, by omega, by omega⟩, ?_⟩, by simp [Step.done, Pend.pkt], ?_⟩
      · simp only [tailOf, hres, List.drop_drop]
      · simp only [List.length_drop, hdrLen] at *; omega
  · rw [if_neg hbig]
    obtain ⟨qs, h, cur, sp⟩ := fill_shape mtu queue sched st.res none
    dsimp only
    cases he : (fill mtu queue sched st.res none).eof with
    | true =>
      obtain ⟨hpl, hq, hc, hrest⟩ := sp.eof he
      simp only [hpl, List.isEmpty_nil, Bool.and_self, if_true]
      refine ⟨?_, by rw [sp.owed, hq, hc, hrest]; rfl⟩
      cases pre with
      | none => rfl
      | some pc =>
        have := congrArg List.length (hres.symm.trans hpl)
        simp only [tailOf, List.length_drop, List.length_nil] at this
        have := hp.2.2
        omega
    | false =>
      rw [Bool.and_false, if_neg Bool.false_ne_true]
      refine ⟨⟨_, pre, postOf h cur, qs, true⟩, rfl, rfl, ?_, rfl, rfl, rfl, ?_, ?_, ?_⟩
      · refine .general pre qs h cur _ hp sp.valid sp.head (hres ▸ sp.payload) ?_ ?_
        · simp only [← hres, sp.index, idxOf]
          split <;> rfl
        · intro hq
          have := sp.room hq
          simp only [← hres, hdrLen, noIndex] at *
          omega
      · rw [sp.res]; exact postOf_ok h cur sp.head
      · simp only [Step.done, if_true, postOf_pkt]
        rw [sp.owed]; simp
      · exact (fill_measure mtu queue sched st.res none).2 hm he

def TraceOK (mtu epoch : Nat) : Nat → Pend → List Step → Prop
  | _, _, [] => True
  | s, pre, st :: rest =>
    st.pre = pre ∧ st.f.seq = s ∧ st.f.epoch = epoch ∧ StepOK mtu st ∧
      TraceOK mtu epoch (s + 1) st.post rest

def finalPost : Pend → List Step → Pend
  | pre, [] => pre
  | _, st :: rest => finalPost st.post rest

theorem encodeF_trace (mtu epoch : Nat) (hm : hdrLen + 40 ≤ mtu) (hM : mtu ≤ 65535) :
    ∀ (fuel : Nat) (st : EncSt) (queue : List Bytes) (sched : List Bool) (pre : Pend),
      ResOK st.res pre →
      ∃ tr : List Step, TraceOK mtu epoch st.seq pre tr ∧
        tr.map (·.f) = encodeF mtu epoch fuel st queue sched ∧
        (∀ s ∈ tr, ∀ x ∈ s.pre.pkt, x ∈ pre.pkt ++ queue.filter validPkt) ∧
        (st.res.length + totalLen queue < fuel →
          tr.flatMap Step.done = pre.pkt ++ queue.filter validPkt ∧ finalPost pre tr = none) := by
  intro fuel
  induction fuel with
  | zero =>
    intro st queue sched pre _
    refine ⟨[], trivial, rfl, ?_, ?_⟩
    · intro s hs; cases hs
    · intro h; omega
  | succ fuel ih =>
    intro st queue sched pre hr
    have hstep := readFrame_step mtu epoch hm hM st queue sched pre hr
    rw [encodeF]
    cases hrf : readFrame mtu epoch st queue sched with
    | nothing st' s' =>
      rw [hrf] at hstep
      obtain ⟨hp, hq⟩ := hstep
      refine ⟨[], trivial, rfl, ?_, ?_⟩
      · intro s hs; cases hs
      · intro _; rw [hp, hq]; exact ⟨rfl, rfl⟩
    | frame f st' q' s' =>
      rw [hrf] at hstep
      obtain ⟨step, hf, hpre, hok, hseq, hep, hseq', hres', howed, hmeas⟩ := hstep
      obtain ⟨tr, htr, hmap, hmem, hdone⟩ := ih st' q' s' step.post hres'
      refine ⟨step :: tr, ?_, ?_, ?_, ?_⟩
      · refine ⟨hpre, by rw [hf]; exact hseq, by rw [hf]; exact hep, hok, ?_⟩
        rw [← hseq']; exact htr
      · simp only [List.map_cons, hf, hmap]
      · intro s hs x hx
        rcases List.mem_cons.1 hs with rfl | hs
        · rw [hpre] at hx; exact List.mem_append_left _ hx
        · have := hmem s hs x hx
          rw [howed]
          rcases List.mem_append.1 this with h1 | h1
          · exact List.mem_append_left _ (List.mem_append_right _ h1)
          · exact List.mem_append_right _ h1
      · intro hfuel
        obtain ⟨hd1, hd2⟩ := hdone (by omega)
        refine ⟨?_, hd2⟩
        simp only [List.flatMap_cons]
        rw [hd1, howed]
        simp

theorem trace_get (mtu ep : Nat) : ∀ (tr : List Step) (s : Nat) (pre : Pend),
    TraceOK mtu ep s pre tr → ∀ (k : Nat) (hk : k < tr.length),
      (tr[k]).f.seq = s + k ∧ (tr[k]).f.epoch = ep ∧ StepOK mtu (tr[k]) ∧
        (∀ hk1 : k + 1 < tr.length, (tr[k + 1]).pre = (tr[k]).post) := by
  intro tr
  induction tr with
  | nil => intro s pre _ k hk; simp at hk
  | cons a tr ih =>
    intro s pre h k hk
    obtain ⟨h1, h2, h3, h4, h5⟩ := h
    cases k with
    | zero =>
      refine ⟨h2, h3, h4, ?_⟩
      intro hk1
      cases tr with
      | nil => simp at hk1
      | cons b tr => exact h5.1
    | succ k =>
      have hk' : k < tr.length := by simp only [List.length_cons] at hk; omega
      obtain ⟨i1, i2, i3, i4⟩ := ih (s + 1) a.post h5 k hk'
      refine ⟨by simp only [List.getElem_cons_succ]; omega, i2, i3, ?_⟩
      intro hk1
      exact i4 (by simp only [List.length_cons] at hk1; omega)

def carried : Pend → Bytes
  | none => []
  | some (p, c) => p.take c

theorem carried_tail (pre : Pend) : carried pre ++ tailOf pre = pre.pkt.flatten := by
  cases pre with
  | none => rfl
  | some pc => simp [carried, tailOf, Pend.pkt]

theorem carried_post {h : Bytes} {cur : Option Bytes} (hh : HeadOK h cur) :
    carried (postOf h cur) = h := by
  cases cur with
  | none => exact hh.symm
  | some p' =>
    obtain ⟨_, k, rfl, _, _⟩ := hh
    simp [postOf, carried, List.length_take]

theorem trace_bytes (mtu ep : Nat) : ∀ (tr : List Step) (s : Nat) (pre : Pend),
    TraceOK mtu ep s pre tr →
      carried pre ++ (tr.map (·.f.payload)).flatten =
        (tr.flatMap Step.done).flatten ++ carried (finalPost pre tr) := by
  intro tr
  induction tr with
  | nil => intro s pre _; simp [finalPost]
  | cons a tr ih =>
    intro s pre h
    obtain ⟨h1, _, _, h4, h5⟩ := h
    have := ih (s + 1) a.post h5
    simp only [List.map_cons, List.flatten_cons, List.flatMap_cons, List.flatten_append, finalPost,
      List.append_assoc]
    rw [← this, ← List.append_assoc, ← List.append_assoc]
    congr 1
    subst h1
    cases h4 with
    | middle p c f hv hc hlt hpl hidx =>
      simp only [carried, Step.done, Pend.pkt, Bool.false_eq_true, if_false, List.flatten_nil,
        List.nil_append, hpl, List.append_nil]
      rw [← List.take_add]
    | general pre qs h cur f hp hq hh hpl hidx hb =>
      simp only [Step.done, if_true, hpl, List.flatten_append, carried_post hh]
      rw [← List.append_assoc, ← List.append_assoc, carried_tail]

end Scion.Proofs.GwFrames
