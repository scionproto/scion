import Scion.Model.Resolve
import Scion.Proofs.Guard
/-! Helper lemmas for `Scion/Props/C11.lean` (core Lean only). -/
namespace Scion.C11.Proofs
open Scion.Resolve Scion.Util

/-! ### bytes -/

theorem be16_val (v : Nat) (h : v < 65536) :
    (UInt8.ofNat (v / 256)).toNat * 256 + (UInt8.ofNat (v % 256)).toNat = v := by
  simp only [UInt8.toNat_ofNat']
  omega

theorem u16At_isSome (bs : Bytes) (off : Nat) (h : off + 2 ≤ bs.length) :
    (u16At bs off).isSome = true := by
  have hl : 2 ≤ (bs.drop off).length := by simp; omega
  unfold u16At
  cases hd : bs.drop off with
  | nil => simp [hd] at hl
  | cons a t =>
    cases t with
    | nil => simp [hd] at hl
    | cons b t' => simp

@[simp] theorem be16_length (v : Nat) : (be16 v).length = 2 := rfl

theorem u16At_be16 (v : Nat) (rest : Bytes) (h : v < 65536) :
    u16At (be16 v ++ rest) 0 = some v := by
  simp [u16At, be16]; omega

theorem u16At_be16_2 (a v : Nat) (rest : Bytes) (h : v < 65536) :
    u16At (be16 a ++ be16 v ++ rest) 2 = some v := by
  simp [u16At, be16]; omega

theorem udp_port (src dst : Nat) (rest : Bytes) (q : Quote) (hd : dst < 65536)
    (hl : 4 ≤ rest.length) :
    dstScionPort l4UDP (be16 src ++ be16 dst ++ rest) q = .ok dst := by
  have hlen : ¬ (be16 src ++ be16 dst ++ rest).length < 8 := by
    simp; omega
  simp only [dstScionPort, if_true, if_neg hlen, u16At_be16_2 src dst rest hd]

theorem tcp_port (src dst : Nat) (rest : Bytes) (q : Quote) (hd : dst < 65536)
    (hl : 16 ≤ rest.length) :
    dstScionPort l4TCP (be16 src ++ be16 dst ++ rest) q = .ok dst := by
  have hlen : ¬ (be16 src ++ be16 dst ++ rest).length < 20 := by
    simp; omega
  have h1 : ¬ (l4TCP = l4UDP) := by decide
  simp only [dstScionPort, if_neg h1, if_true, if_neg hlen, u16At_be16_2 src dst rest hd]

theorem scmp_dispatch (pld : Bytes) (q : Quote) :
    dstScionPort l4SCMP pld q = scmpPort pld q := by
  have h1 : ¬ (l4SCMP = l4UDP) := by decide
  have h2 : ¬ (l4SCMP = l4TCP) := by decide
  simp only [dstScionPort, if_neg h1, if_neg h2, if_true]

theorem echo_reply_port (code c1 c2 : UInt8) (id : Nat) (rest : Bytes) (q : Quote)
    (hd : id < 65536) (hl : 2 ≤ rest.length) :
    dstScionPort l4SCMP ([129, code, c1, c2] ++ be16 id ++ rest) q = .ok id := by
  rw [scmp_dispatch]
  have hlen : ¬ (be16 id ++ rest).length < 4 := by simp; omega
  have hu := u16At_be16 id rest hd
  simp only [List.cons_append, List.nil_append, scmpPort]
  have e1 : ¬ ((129 : UInt8).toNat = 128 ∨ (129 : UInt8).toNat = 130) := by decide
  simp only [if_neg e1, if_neg hlen, hu]
  rfl

theorem traceroute_reply_port (code c1 c2 : UInt8) (id : Nat) (rest : Bytes) (q : Quote)
    (hd : id < 65536) (hl : 18 ≤ rest.length) :
    dstScionPort l4SCMP ([131, code, c1, c2] ++ be16 id ++ rest) q = .ok id := by
  rw [scmp_dispatch]
  have hlen : ¬ (be16 id ++ rest).length < 20 := by simp; omega
  have hu := u16At_be16 id rest hd
  simp only [List.cons_append, List.nil_append, scmpPort]
  have e1 : ¬ ((131 : UInt8).toNat = 128 ∨ (131 : UInt8).toNat = 130) := by decide
  have e2 : ¬ ((131 : UInt8).toNat = 129) := by decide
  simp only [if_neg e1, if_neg e2, if_neg hlen, hu]
  rfl

theorem errHdrLen_types (t : Nat) (h : Nat) (ht : scmpErrHdrLen t = some h) :
    t ≠ 128 ∧ t ≠ 129 ∧ t ≠ 130 ∧ t ≠ 131 := by
  refine ⟨?_, ?_, ?_, ?_⟩ <;> (rintro rfl; simp [scmpErrHdrLen] at ht)

theorem scmp_error_port (t code c1 c2 : UInt8) (hdr quote : Bytes) (q : Quote)
    (ht : scmpErrHdrLen t.toNat = some hdr.length) (hq : quote ≠ []) :
    dstScionPort l4SCMP ([t, code, c1, c2] ++ hdr ++ quote) q = quotePort q := by
  rw [scmp_dispatch]
  obtain ⟨h1, h2, h3, h4⟩ := errHdrLen_types _ _ ht
  have hpos : 0 < quote.length := List.length_pos_iff.mpr hq
  have hl1 : ¬ (hdr ++ quote).length < hdr.length := by simp
  have hl2 : ¬ (hdr ++ quote).length = hdr.length := by simp; omega
  have hl3 : ¬ (hdr.length + quote.length < hdr.length) := by omega
  simp only [List.cons_append, List.nil_append, scmpPort]
  simp [h1, h2, h3, h4, ht, hl3, hq]

/-! ### services -/

theorem mem_instances (svcs : List SvcEntry) (k : Nat) (a : UAddr) :
    a ∈ instances svcs k ↔ (k, a.1, a.2) ∈ svcs := by
  simp only [instances, List.mem_map, List.mem_filter]
  constructor
  · rintro ⟨e, ⟨he, hk⟩, rfl⟩
    have : e.1 = k := by simpa using hk
    obtain ⟨e1, e2, e3⟩ := e
    simp at this; subst this; exact he
  · intro h
    exact ⟨(k, a.1, a.2), ⟨h, by simp⟩, rfl⟩

theorem svc_resolve (c : Cfg) (r : Range) (v proto : Nat) (pld : Bytes) (q : Quote)
    (hlink : c.link = some r) :
    resolveLocalDst c (.svc v) proto pld q =
      if instances c.svcs (svcBase v) = [] then .error .noSvc
      else .ok ((instances c.svcs (svcBase v)).map (fun a => (a.1, r.apply a.2))) := by
  cases h : instances c.svcs (svcBase v) <;> simp [resolveLocalDst, hlink, linkResolve, h]

theorem svc_spec (c : Cfg) (r : Range) (v proto : Nat) (pld : Bytes) (q : Quote)
    (hlink : c.link = some r) :
    (∀ as, resolveLocalDst c (.svc v) proto pld q = .ok as →
       as ≠ [] ∧ ∀ a ∈ as, ∃ ip port, (svcBase v, ip, port) ∈ c.svcs ∧ a = (ip, r.apply port)) ∧
    ((∀ ip port, (svcBase v, ip, port) ∉ c.svcs) →
       resolveLocalDst c (.svc v) proto pld q = .error .noSvc) ∧
    (∀ proto' pld' q', resolveLocalDst c (.svc v) proto' pld' q' =
       resolveLocalDst c (.svc v) proto pld q) := by
  refine ⟨fun as h => ?_, fun hnone => ?_, fun proto' pld' q' => ?_⟩
  · simp only [svc_resolve c r v proto pld q hlink, ite_error_eq_ok, Except.ok.injEq] at h
    obtain ⟨hne, rfl⟩ := h
    refine ⟨by simpa using hne, fun a ha => ?_⟩
    obtain ⟨b, hb, rfl⟩ := List.mem_map.1 ha
    exact ⟨b.1, b.2, (mem_instances _ _ _).1 hb, rfl⟩
  · rw [svc_resolve c r v proto pld q hlink, if_pos]
    exact List.eq_nil_iff_forall_not_mem.2 fun a ha => hnone _ _ ((mem_instances _ _ _).1 ha)
  · rw [svc_resolve c r v proto pld q hlink, svc_resolve c r v proto' pld' q' hlink]

theorem svc_complete (c : Cfg) (r : Range) (v proto : Nat) (pld : Bytes) (q : Quote)
    (ip : Bytes) (port : Nat) (hlink : c.link = some r) (hm : (svcBase v, ip, port) ∈ c.svcs) :
    ∃ as, resolveLocalDst c (.svc v) proto pld q = .ok as ∧ (ip, r.apply port) ∈ as := by
  have hmem : (ip, port) ∈ instances c.svcs (svcBase v) := (mem_instances _ _ (ip, port)).2 hm
  rw [svc_resolve c r v proto pld q hlink, if_neg (List.ne_nil_of_mem hmem)]
  exact ⟨_, rfl, List.mem_map.2 ⟨(ip, port), hmem, rfl⟩⟩

theorem step_addSvc_svcs (c : Cfg) (svc : Nat) (ip : Bytes) (port : Nat)
    (hv : validSvcAddr ip = true) :
    (step c (.addSvc svc ip port)).svcs =
      if (svc, ip, port) ∈ c.svcs then c.svcs else c.svcs ++ [(svc, ip, port)] := by
  by_cases hc : (svc, ip, port) ∈ c.svcs
  · have hc' : c.svcs.contains (svc, ip, port) = true := by simpa using hc
    simp only [step, hv, hc', if_true, if_pos hc]
  · have hc' : c.svcs.contains (svc, ip, port) = false := by simpa using hc
    simp [step, hv, hc]

theorem step_delSvc_svcs (c : Cfg) (svc : Nat) (ip : Bytes) (port : Nat)
    (hv : validSvcAddr ip = true) :
    (step c (.delSvc svc ip port)).svcs = c.svcs.erase (svc, ip, port) := by
  simp only [step, hv, if_true]

theorem svc_table (c : Cfg) (svc : Nat) (ip : Bytes) (port : Nat) (hv : validSvcAddr ip = true)
    (hnd : c.svcs.Nodup) :
    (svc, ip, port) ∈ (step c (.addSvc svc ip port)).svcs ∧
    (svc, ip, port) ∉ (step c (.delSvc svc ip port)).svcs ∧
    (∀ x, x ≠ (svc, ip, port) →
      ((x ∈ (step c (.addSvc svc ip port)).svcs ↔ x ∈ c.svcs) ∧
       (x ∈ (step c (.delSvc svc ip port)).svcs ↔ x ∈ c.svcs))) ∧
    (step c (.addSvc svc ip port)).svcs.Nodup ∧ (step c (.delSvc svc ip port)).svcs.Nodup := by
  rw [step_addSvc_svcs c svc ip port hv, step_delSvc_svcs c svc ip port hv]
  have hdel : (svc, ip, port) ∉ c.svcs.erase (svc, ip, port) := by rw [hnd.mem_erase_iff]; simp
  by_cases hc : (svc, ip, port) ∈ c.svcs
  · rw [if_pos hc]
    exact ⟨hc, hdel, fun x hx => ⟨Iff.rfl, List.mem_erase_of_ne hx⟩, hnd, hnd.erase _⟩
  · rw [if_neg hc]
    refine ⟨by simp, hdel, fun x hx => ⟨by simp [hx], List.mem_erase_of_ne hx⟩, ?_, hnd.erase _⟩
    rw [List.nodup_append]
    refine ⟨hnd, by simp, fun a ha b hb => ?_⟩
    simp at hb; subst hb
    rintro rfl; exact hc ha

/-! ### configuration order -/

theorem step_ov (c : Cfg) (x : Call) :
    (step c x).ovStart = c.ovStart ∧ (step c x).ovStop = c.ovStop := by
  cases x <;> simp [step] <;> (try split) <;> (try split) <;> simp

theorem step_prov (c : Cfg) (x : Call) :
    (step c x).prov = match x with
      | .setPortRange s e => wanted c.ovStart c.ovStop s e
      | _ => c.prov := by
  cases x <;> simp [step, wanted] <;> (try split) <;> (try split) <;> simp

/-- the internal link after a call: `SetPortRange` updates an existing one, `AddInternalInterface`
creates it from the provider's range unless there is one already -/
theorem step_link (c : Cfg) (x : Call) :
    (step c x).link = match x with
      | .setPortRange s e => c.link.map fun _ => wanted c.ovStart c.ovStop s e
      | .addInternal => some (c.link.getD c.prov)
      | _ => c.link := by
  cases x <;> simp only [step, wanted] <;> (try split) <;> (try split) <;> simp [*]

theorem run_prov (c : Cfg) (cs : List Call) :
    (run c cs).prov = match lastSet cs with
      | some (s, e) => wanted c.ovStart c.ovStop s e
      | none => c.prov := by
  induction cs generalizing c with
  | nil => simp [run, lastSet]
  | cons x xs ih =>
    rw [show run c (x :: xs) = run (step c x) xs from rfl, ih, (step_ov c x).1, (step_ov c x).2]
    cases hl : lastSet xs with
    | some p => simp [lastSet, hl]
    | none =>
      rw [step_prov]
      cases x <;> simp [lastSet, hl]

def LinkInv (c : Cfg) : Prop := ∀ r, c.link = some r → r = c.prov

theorem step_inv (c : Cfg) (x : Call) (h : LinkInv c) : LinkInv (step c x) := by
  intro r hr
  rw [step_link] at hr
  rw [step_prov]
  cases x with
  | setPortRange s e =>
    obtain ⟨_, _, rfl⟩ := Option.map_eq_some_iff.1 hr
    rfl
  | addInternal =>
    cases hl : c.link with
    | none => simp [hl] at hr; exact hr.symm
    | some l => simp [hl] at hr; exact hr ▸ h l hl
  | _ => exact h r hr

theorem run_inv (c : Cfg) (cs : List Call) (h : LinkInv c) : LinkInv (run c cs) := by
  induction cs generalizing c with
  | nil => exact h
  | cons x xs ih => exact ih _ (step_inv c x h)

theorem step_link_some (c : Cfg) (x : Call) (h : c.link.isSome = true) :
    (step c x).link.isSome = true := by
  rw [step_link]
  cases x <;> simp [h]

theorem run_link_some (c : Cfg) (cs : List Call)
    (h : c.link.isSome = true ∨ Call.addInternal ∈ cs) : (run c cs).link.isSome = true := by
  induction cs generalizing c with
  | nil =>
    rcases h with h | h
    · exact h
    · cases h
  | cons x xs ih =>
    apply ih (step c x)
    rcases h with h | h
    · exact Or.inl (step_link_some c x h)
    · rcases List.mem_cons.mp h with h | h
      · subst h
        left
        rw [step_link]; rfl
      · exact Or.inr h

theorem effective_range (ovStart ovStop : Option Nat) (cs : List Call) (s e : Nat)
    (hI : Call.addInternal ∈ cs) (hP : lastSet cs = some (s, e)) :
    (run (Cfg.init ovStart ovStop) cs).link = some (wanted ovStart ovStop s e) := by
  have hinv : LinkInv (run (Cfg.init ovStart ovStop) cs) :=
    run_inv _ cs (by intro r hr; simp [Cfg.init] at hr)
  have hsome := run_link_some (Cfg.init ovStart ovStop) cs (Or.inr hI)
  have hprov := run_prov (Cfg.init ovStart ovStop) cs
  rw [hP] at hprov
  cases hl : (run (Cfg.init ovStart ovStop) cs).link with
  | none => rw [hl] at hsome; simp at hsome
  | some r =>
    have := hinv r hl
    rw [this, hprov]; simp [Cfg.init]

theorem lastSet_filter (cs : List Call) : lastSet (cs.filter Call.isSetPortRange) = lastSet cs := by
  induction cs with
  | nil => rfl
  | cons x xs ih =>
    cases x <;> simp [List.filter, Call.isSetPortRange, lastSet, ih] <;> cases lastSet xs <;> rfl

theorem config_order_irrelevant (ovStart ovStop : Option Nat) (cs cs' : List Call) (s e : Nat)
    (hperm : cs.Perm cs') (hI : Call.addInternal ∈ cs)
    (hP : cs.filter Call.isSetPortRange = [.setPortRange s e]) :
    (run (Cfg.init ovStart ovStop) cs').link = some (wanted ovStart ovStop s e) := by
  have hf : cs'.filter Call.isSetPortRange = [.setPortRange s e] := by
    have := (hperm.filter Call.isSetPortRange).symm
    rw [hP] at this
    exact List.perm_singleton.mp this
  exact effective_range ovStart ovStop cs' s e (hperm.mem_iff.mp hI) (by rw [← lastSet_filter, hf]; rfl)

/-! ### the text form of the range -/

theorem isDigit_ne_dash (c : Char) (h : isDigit c = true) : c ≠ '-' := by
  rintro rfl; exact absurd h (by decide)

theorem splitDash_ne_nil (l : List Char) : splitDash l ≠ [] := by
  induction l with
  | nil => simp [splitDash]
  | cons c cs ih =>
    simp only [splitDash]
    split
    · simp
    · split
      · exact absurd ‹_› ih
      · simp

theorem splitDash_digits (l : List Char) (h : l.all isDigit = true) : splitDash l = [l] := by
  induction l with
  | nil => rfl
  | cons c cs ih =>
    simp only [List.all_cons, Bool.and_eq_true] at h
    have hc := isDigit_ne_dash c h.1
    simp [splitDash, hc, ih h.2]

theorem splitDash_append (a b : List Char) (h : a.all isDigit = true) :
    splitDash (a ++ '-' :: b) = a :: splitDash b := by
  induction a with
  | nil => simp [splitDash]
  | cons c cs ih =>
    simp only [List.all_cons, Bool.and_eq_true] at h
    have hc := isDigit_ne_dash c h.1
    simp [splitDash, hc, ih h.2]

theorem parseU16_digits (l : List Char) (hne : l ≠ []) (h : l.all isDigit = true) :
    parseU16 l = if decVal l < 65536 then some (decVal l) else none := by
  have : l.isEmpty = false := by cases l <;> simp_all
  simp [parseU16, this, h]

theorem range_text_spec (da db : List Char) (ha : da ≠ []) (hb : db ≠ [])
    (hda : da.all isDigit = true) (hdb : db.all isDigit = true) :
    validatePortRange (da ++ '-' :: db) =
      if 1 ≤ decVal da ∧ decVal da ≤ decVal db ∧ decVal db ≤ 65535
      then some (decVal da, decVal db) else none := by
  obtain ⟨d, da', rfl⟩ := List.exists_cons_of_ne_nil ha
  have hd : isDigit d = true := by simp [List.all_cons] at hda; exact hda.1
  have h1 : ¬ ((d :: da') ++ '-' :: db = [] ∨ (d :: da') ++ '-' :: db = ['-']) := by
    simp
  have h2 : ¬ ((d :: da') ++ '-' :: db = ['a', 'l', 'l'] ∨ (d :: da') ++ '-' :: db = ['A', 'L', 'L']) := by
    simp; constructor <;> (rintro rfl; exact absurd hd (by decide))
  have hs : splitDash ((d :: da') ++ '-' :: db) = [d :: da', db] := by
    rw [splitDash_append _ _ hda, splitDash_digits _ hdb]
  unfold validatePortRange
  rw [if_neg h1, if_neg h2, hs]
  simp only [parseU16_digits _ ha hda, parseU16_digits _ hb hdb]
  generalize decVal (d :: da') = x
  generalize decVal db = y
  by_cases hx : x < 65536 <;> by_cases hy : y < 65536 <;> simp only [hx, hy, if_true, if_false]
  · split
    · rw [if_neg (by omega)]
    · split
      · rw [if_neg (by omega)]
      · split
        · rw [if_neg (by omega)]
        · rw [if_pos (by omega)]
  all_goals rw [if_neg (by omega)]

end Scion.C11.Proofs
