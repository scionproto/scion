import Scion.Proofs.RingMon
import Scion.Gen.Ring
/-! # C48 — the ring buffer is a linearizable bounded FIFO queue

Model: `Scion.Model.Ring` (state and index arithmetic of `private/ringbuf.Ring` as in the code;
`Fifo` = the abstract bounded FIFO of the statement; `Mon` = mutex + two condition variables).
Lemmas: `Scion.Proofs.Ring`, `Scion.Proofs.RingMon`. Facts regenerated from the source:
`Scion.Gen.Ring`. The model is tied to the code by engine `ring` (sequential differential
streams incl. the index fields, and linearisations of real concurrent histories). -/
namespace Scion.C48
open Scion.Ring

/-! ### Representation invariant -/

/-- `writable + readable = count`, both indices within `[0, count]`, and
`readIndex + readable ≡ writeIndex (mod count)` -/
theorem inv_init_empty (count : Nat) (h : 0 < count) : Inv (newEmpty count) := by
  constructor <;> simp [newEmpty, State.cap] <;> omega

theorem inv_init_full (es : List Nat) (h : es ≠ []) : Inv (newFull es) := by
  have : 0 < es.length := List.length_pos_iff.mpr h
  constructor <;> simp [newFull, State.cap] <;> omega

/-- the invariant is preserved by every operation (Write, Read, Close; blocking or not) -/
theorem inv_preserved (s : State) (o : Op) (s' : State) (out : Out)
    (h : step s o = some (s', out)) (hI : Inv s) : Inv s' := by
  rcases step_some h with ⟨es, b, n, hw⟩ | ⟨len, b, n, c, hr⟩ | rfl
  · exact write_inv s es b s' n hw hI
  · exact read_inv s len b s' n c hr hI
  · exact ⟨hI.1, hI.2, hI.3, hI.4, hI.5⟩

theorem inv_history (os : List Op) (s s' : State) (outs : List Out)
    (h : runOps s os = some (s', outs)) (hI : Inv s) : Inv s' :=
  runOps_preserves inv_preserved h hI

/-- **Cells outside the live window are nil.** Every slot of `entries` that is not one of the
`readable` entries starting at `readIndex` holds nil: initially, and after every operation
(`Ring.read` clears what it hands out, `Ring.write` only fills free slots) — so an entry is
referenced by the ring only while it is stored, and a read can never hand out a stale entry. -/
theorem clean_init_empty (count : Nat) : Clean (newEmpty count) := by
  intro p hp _
  simp only [newEmpty, State.cap, List.length_replicate] at hp ⊢
  rw [List.getElem?_replicate]
  simp [hp]

theorem clean_init_full (es : List Nat) : Clean (newFull es) := by
  intro p hp hn
  simp only [newFull, State.cap, List.length_map] at hp hn
  exact absurd (by unfold touched; omega) hn

theorem clean_preserved (s : State) (o : Op) (s' : State) (out : Out)
    (h : step s o = some (s', out)) (hI : Inv s) (hC : Clean s) : Clean s' := by
  rcases step_some h with ⟨es, b, n, hw⟩ | ⟨len, b, n, c, hr⟩ | rfl
  · exact write_clean s es b s' n hw hI hC
  · exact read_clean s len b s' n c hr hI hC
  · exact hC

theorem clean_history (os : List Op) : ∀ (s s' : State) (outs : List Out),
    runOps s os = some (s', outs) → Inv s → Clean s → Inv s' ∧ Clean s' := by
  intro s s' outs h hI hC
  exact runOps_preserves (P := fun s => Inv s ∧ Clean s)
    (fun s o s' out h hP =>
      ⟨inv_preserved s o s' out h hP.1, clean_preserved s o s' out h hP.1 hP.2⟩)
    h ⟨hI, hC⟩

/-! ### Refinement of the bounded FIFO -/

/-- `Write` refines the FIFO's write: same enabledness (would block ⇔ queue full, not closed,
something to write, blocking call), same returned count (0 when full and non-blocking, −1 after
close, otherwise `min(space, len)`), and the abstract queue grows by exactly the first `n`
entries, in order. -/
theorem write_refines (s : State) (es : List Nat) (b : Bool) (hI : Inv s) :
    (write s es b).map (fun p => (absF p.1, p.2)) = (absF s).write es b :=
  Scion.Ring.write_refines s es b hI

/-- `Read` refines the FIFO's read: same enabledness, same count (−1 only after close *and*
drained), the cells handed out are the first `n` of the queue in order and are removed. -/
theorem read_refines (s : State) (len : Nat) (b : Bool) (hI : Inv s) :
    (read s len b).map (fun p => (absF p.1, p.2.1, p.2.2)) = (absF s).read len b :=
  Scion.Ring.read_refines s len b hI

theorem close_refines (s : State) : absF (close s) = (absF s).close := rfl

/-- **Every sequential history** (= every order of critical sections, see `linearizable`) of the
ring is, operation by operation and output by output, a history of the bounded FIFO. -/
theorem history_refines (os : List Op) (s : State) (hI : Inv s) :
    (runOps s os).map (fun p => (absF p.1, p.2)) = (absF s).runOps os := by
  induction os generalizing s with
  | nil => rfl
  | cons o os ih =>
    unfold runOps Fifo.runOps
    rw [← step_refines s o hI]
    cases h1 : step s o with
    | none => rfl
    | some p =>
      dsimp only [Option.map_some]
      rw [← ih p.1 (inv_preserved s o p.1 p.2 h1 hI)]
      cases runOps p.1 os <;> rfl

/-! ### What the bounded FIFO guarantees (the clauses of the statement) -/

/-- no call transfers more than the capacity / the stored amount / its own batch allows -/
theorem write_bounds (f : Fifo) (es : List Nat) (b : Bool) (f' : Fifo) (n : Int)
    (h : f.write es b = some (f', n)) (hq : f.q.length ≤ f.cap) :
    n ≤ es.length ∧ n ≤ f.cap - f.q.length ∧ f'.q.length ≤ f'.cap ∧ f'.cap = f.cap := by
  unfold Fifo.write at h
  split at h
  · split at h
    · cases h
    · cases h; omega
  · split at h
    · cases h; omega
    · cases h
      simp only [List.length_append, List.length_map, List.length_take, and_true]
      omega

theorem read_bounds (f : Fifo) (len : Nat) (b : Bool) (f' : Fifo) (n : Int) (c : List Cell)
    (h : f.read len b = some (f', n, c)) :
    n ≤ len ∧ n ≤ f.q.length ∧ (0 ≤ n → c.length = n) := by
  unfold Fifo.read at h
  split at h
  · split at h
    · cases h
    · cases h; simp
  · split at h
    · cases h; simp
    · cases h
      simp only [List.length_take]
      omega

/-- **FIFO order, at most once, none lost.** For every history: initial content followed by
everything the writes accepted (in call order) equals everything the reads handed out (in call
order) followed by what is still stored. -/
theorem fifo_conservation (os : List Op) (f f' : Fifo) (outs : List Out)
    (h : Fifo.runOps f os = some (f', outs)) :
    f.q ++ writtenCells os outs = readCells outs ++ f'.q := by
  induction os generalizing f f' outs with
  | nil => simp only [Fifo.runOps] at h; cases h; simp [writtenCells, readCells]
  | cons o os ih =>
    simp only [Fifo.runOps] at h
    split at h
    · cases h
    · rename_i f1 out hs
      split at h
      · cases h
      · rename_i f2 outs' hr
        cases h
        have hi := ih f1 _ _ hr
        cases o with
        | write es b =>
          obtain ⟨w, hw, he⟩ := Option.map_eq_some_iff.1 hs
          cases he
          simp only [writtenCells, readCells]
          rw [← hi, Fifo.write_q f es b w.1 w.2 hw, List.append_assoc]
        | read len b =>
          obtain ⟨w, hw, he⟩ := Option.map_eq_some_iff.1 hs
          cases he
          simp only [writtenCells, readCells]
          rw [List.append_assoc, ← hi, Fifo.read_q f len b w.1 w.2.1 w.2.2 hw, List.append_assoc]
        | close =>
          cases hs
          simp only [writtenCells, readCells]
          exact hi

/-- the same for the ring itself -/
theorem ring_conservation (os : List Op) (s s' : State) (outs : List Out) (hI : Inv s)
    (h : runOps s os = some (s', outs)) :
    abs s ++ writtenCells os outs = readCells outs ++ abs s' := by
  have hr := history_refines os s hI
  rw [h] at hr
  simp only [Option.map_some] at hr
  exact fifo_conservation os (absF s) (absF s') outs hr.symm

/-- after close writes fail … -/
theorem write_after_close (s : State) (es : List Nat) (b : Bool) (hc : s.closed = true) :
    write s es b = some (s, -1) := by
  unfold write
  rw [if_neg (by simp [hc]), if_pos hc]

/-- … and reads return the remaining entries before reporting closure -/
theorem read_after_close (s : State) (len : Nat) (b : Bool) (hc : s.closed = true) :
    ∃ s' n out, Scion.Ring.read s len b = some (s', n, out) ∧ (n = -1 ↔ s.readable = 0) := by
  unfold Scion.Ring.read
  rw [if_neg (by simp [hc])]
  by_cases hz : s.readable = 0
  · rw [if_pos ⟨hc, hz⟩]; exact ⟨_, _, _, rfl, by simp [hz]⟩
  · rw [if_neg (by simp [hz])]
    refine ⟨_, _, _, rfl, ?_⟩
    constructor
    · intro h; omega
    · intro h; exact absurd h hz

/-- a blocking call waits only when it can do nothing useful: Write when full, Read when empty,
and never after close -/
theorem blocks_iff_write (s : State) (es : List Nat) :
    write s es true = none ↔ (0 < es.length ∧ s.writable = 0 ∧ s.closed = false) := by
  unfold write
  constructor
  · intro h
    split at h
    · assumption
    · split at h <;> cases h
  · intro h; rw [if_pos h]; rfl

theorem blocks_iff_read (s : State) (len : Nat) :
    Scion.Ring.read s len true = none ↔ (0 < len ∧ s.readable = 0 ∧ s.closed = false) := by
  unfold Scion.Ring.read
  constructor
  · intro h
    split at h
    · assumption
    · split at h <;> cases h
  · intro h; rw [if_pos h]; rfl

/-- non-blocking calls never wait -/
theorem nonblocking_enabled (s : State) (o : Op)
    (h : match o with | .write _ b => b = false | .read _ b => b = false | .close => True) :
    (step s o).isSome = true := by
  cases o with
  | write es b =>
    subst h
    simp only [step, write]
    split
    · rfl
    · split <;> rfl
  | read len b =>
    subst h
    simp only [step, Scion.Ring.read]
    split
    · rfl
    · split <;> rfl
  | close => rfl

/-! ### Concurrency: monitor with condition variables -/

/-- the broadcasts the source performs (T3, regenerated from ringbuf.go on every run) -/
def codeCfg : Cfg :=
  ⟨Scion.Gen.Ring.writeWakesReaders, Scion.Gen.Ring.readWakesWriters,
   Scion.Gen.Ring.closeWakesWriters, Scion.Gen.Ring.closeWakesReaders⟩

/-- T3: every method body is one critical section of the ring's mutex, every state change is
followed by the broadcast that its waiters need, and each `Wait` sits in a loop re-checking
exactly the condition the model uses for "not enabled". -/
theorem gen_monitor_facts :
    codeCfg = allWake ∧
    Scion.Gen.Ring.writeLocked = true ∧ Scion.Gen.Ring.readLocked = true ∧
    Scion.Gen.Ring.closeLocked = true ∧
    Scion.Gen.Ring.writeWaitCond = "r.writable == 0 && !r.closed" ∧
    Scion.Gen.Ring.writeWaitOn = "writableC" ∧ Scion.Gen.Ring.writeWaits = 1 ∧
    Scion.Gen.Ring.readWaitCond = "r.readable == 0 && !r.closed" ∧
    Scion.Gen.Ring.readWaitOn = "readableC" ∧ Scion.Gen.Ring.readWaits = 1 :=
  ⟨rfl, rfl, rfl, rfl, rfl, rfl, rfl, rfl, rfl, rfl⟩

def startMon (s : State) : Mon := ⟨s, [], []⟩

/-- **No lost wake-up.** In every reachable state of the monitor (any interleaving of callers
parking, and of Write/Read/Close bodies, with the broadcasts the source performs) a caller is
parked on `readableC` only while `readable = 0 ∧ ¬closed`, and on `writableC` only while
`writable = 0 ∧ ¬closed`: blocked callers are released by data, space or close. -/
theorem no_lost_wakeup (s : State) (steps : List MStep) (m : Mon)
    (h : mrun codeCfg (startMon s) steps = some m) : NoLost m := by
  rw [gen_monitor_facts.1] at h
  exact mrun_noLost h ⟨fun hne => absurd rfl hne, fun hne => absurd rfl hne⟩

/-- **Linearizability (of the monitor model).** Whatever the interleaving, the bodies executed
under the mutex form, in the order of their critical sections, a sequential history of the ring —
hence (by `history_refines`) of the bounded FIFO. -/
theorem linearizable (c : Cfg) (s : State) (hI : Inv s) (steps : List MStep) (m : Mon)
    (h : mrun c (startMon s) steps = some m) :
    ∃ outs, runOps s (steps.filterMap MStep.op?) = some (m.ring, outs) ∧
      (absF s).runOps (steps.filterMap MStep.op?) = some (absF m.ring, outs) := by
  obtain ⟨outs, (ho : runOps s _ = some (m.ring, outs))⟩ :=
    mrun_is_history c steps (startMon s) m h
  refine ⟨outs, ho, ?_⟩
  have hr := history_refines (steps.filterMap MStep.op?) s hI
  rw [ho] at hr
  exact hr.symm

/-- without the broadcast in Write the invariant fails (the T3 fact is necessary): a reader
parks on the empty ring, a write stores an entry, the reader is still parked. -/
theorem broadcast_needed :
    ∃ m, mrun ⟨false, true, true, true⟩ (startMon (newEmpty 2)) [.parkR 1 1, .doWrite [7] false] = some m ∧
      ¬ NoLost m := by
  refine ⟨_, rfl, ?_⟩
  intro h
  have := h.1 (by decide)
  exact absurd this.1 (by decide)

/-! ### Non-vacuity -/

example : Inv (newEmpty 3) := inv_init_empty 3 (by decide)
/-- wrap-around: capacity 3, write 2, read 2, write 3 (wraps), read 3 — FIFO order kept -/
example : (runOps (newEmpty 3) [.write [1, 2] false, .read 2 false, .write [3, 4, 5, 6] false,
    .read 5 true, .close, .read 1 true, .write [9] true]).map (·.2) =
    some [.wrote 2, .got 2 [some 1, some 2], .wrote 3, .got 3 [some 3, some 4, some 5], .closed,
          .got (-1) [], .wrote (-1)] := by decide
example : step (newEmpty 1) (.read 1 true) = none := by decide
example : (mrun allWake (startMon (newEmpty 2)) [.parkR 1 1, .doWrite [7] false, .doRead 1 true]).isSome := by
  decide

end Scion.C48
