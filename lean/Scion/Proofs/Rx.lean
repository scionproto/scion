import Scion.Model.Seq
/-! The derivative matcher `Rx.accepts` decides the usual language of a regular expression. -/
namespace Scion.Seq.Rx
variable {π α : Type} (sat : π → α → Bool)

def Lang : Rx π → List α → Prop
  | zero, _ => False
  | eps, w => w = []
  | atom p, w => ∃ x, w = [x] ∧ sat p x = true
  | cat a b, w => ∃ u v, w = u ++ v ∧ Lang a u ∧ Lang b v
  | alt a b, w => Lang a w ∨ Lang b w
  | opt a, w => w = [] ∨ Lang a w
  | plus a, w => ∃ ws : List (List α), ws ≠ [] ∧ w = ws.flatten ∧ ∀ u ∈ ws, Lang a u
  | star a, w => ∃ ws : List (List α), w = ws.flatten ∧ ∀ u ∈ ws, Lang a u

theorem accepts_nil (e : Rx π) : accepts sat e [] = e.nullable := rfl

theorem accepts_cons (e : Rx π) (x : α) (xs : List α) :
    accepts sat e (x :: xs) = accepts sat (deriv sat e x) xs := rfl

theorem accepts_zero (w : List α) : accepts sat (zero : Rx π) w = false := by
  induction w with
  | nil => rfl
  | cons x xs ih => simpa [accepts_cons, deriv] using ih

theorem accepts_eps (w : List α) : accepts sat (eps : Rx π) w = w.isEmpty := by
  cases w with
  | nil => rfl
  | cons x xs => simp [accepts_cons, deriv, accepts_zero]

theorem accepts_atom (p : π) (w : List α) :
    accepts sat (atom p) w = true ↔ ∃ x, w = [x] ∧ sat p x = true := by
  cases w with
  | nil => simp [accepts_nil, nullable]
  | cons x xs =>
    rw [accepts_cons]
    simp only [deriv]
    by_cases h : sat p x = true
    · simp only [h, if_true, accepts_eps]
      cases xs <;> simp [h]
    · simp [h, accepts_zero]

theorem accepts_alt (a b : Rx π) (w : List α) :
    accepts sat (alt a b) w = (accepts sat a w || accepts sat b w) := by
  induction w generalizing a b with
  | nil => rfl
  | cons x xs ih => simp only [accepts_cons, deriv, ih]

theorem exists_cons_eq_append {x : α} {xs : List α} {P : List α → List α → Prop} :
    (∃ u v, x :: xs = u ++ v ∧ P u v) ↔ P [] (x :: xs) ∨ ∃ u v, xs = u ++ v ∧ P (x :: u) v := by
  simp only [List.cons_eq_append_iff]
  constructor
  · rintro ⟨u, v, ⟨rfl, rfl⟩ | ⟨u', rfl, rfl⟩, hp⟩
    · exact .inl hp
    · exact .inr ⟨u', v, rfl, hp⟩
  · rintro (hp | ⟨u, v, rfl, hp⟩)
    · exact ⟨[], _, .inl ⟨rfl, rfl⟩, hp⟩
    · exact ⟨x :: u, v, .inr ⟨u, rfl, rfl⟩, hp⟩

theorem accepts_cat (a b : Rx π) (w : List α) :
    accepts sat (cat a b) w = true ↔
      ∃ u v, w = u ++ v ∧ accepts sat a u = true ∧ accepts sat b v = true := by
  induction w generalizing a b with
  | nil => simp [accepts_nil, nullable, and_assoc]
  | cons x xs ih =>
    rw [exists_cons_eq_append, accepts_cons]
    simp only [deriv, accepts_nil, accepts_cons]
    by_cases hn : a.nullable = true <;> simp [hn, accepts_alt, ih, or_comm]

theorem accepts_opt (a : Rx π) (w : List α) :
    accepts sat (opt a) w = (w.isEmpty || accepts sat a w) := by
  cases w with
  | nil => rfl
  | cons x xs => simp [accepts_cons, deriv]

theorem accepts_star_cons (a : Rx π) (x : α) (xs : List α) :
    accepts sat (star a) (x :: xs) = true ↔
      ∃ u v, xs = u ++ v ∧ accepts sat a (x :: u) = true ∧ accepts sat (star a) v = true := by
  rw [accepts_cons]
  simp only [deriv, accepts_cat]
  rfl

theorem accepts_star_of_flatten (a : Rx π) (ws : List (List α))
    (h : ∀ u ∈ ws, accepts sat a u = true) : accepts sat (star a) ws.flatten = true := by
  induction ws with
  | nil => rfl
  | cons u ws ih =>
    obtain ⟨hu, hr⟩ := List.forall_mem_cons.1 h
    cases u with
    | nil => exact ih hr
    | cons x xs => exact (accepts_star_cons sat a x _).2 ⟨xs, ws.flatten, rfl, hu, ih hr⟩

theorem accepts_star_iff (a : Rx π) (w : List α) :
    accepts sat (star a) w = true ↔
      ∃ ws : List (List α), w = ws.flatten ∧ ∀ u ∈ ws, accepts sat a u = true := by
  refine ⟨?_, fun ⟨ws, hw, hall⟩ => hw ▸ accepts_star_of_flatten sat a ws hall⟩
  -- peel off the first factor; the rest is shorter
  induction hn : w.length using Nat.strongRecOn generalizing w with
  | _ n ih =>
    intro h
    cases w with
    | nil => exact ⟨[], rfl, by simp⟩
    | cons x xs =>
      obtain ⟨u, v, rfl, hu, hv⟩ := (accepts_star_cons sat a x xs).1 h
      obtain ⟨ws, rfl, hall⟩ := ih v.length (by simp [← hn]; omega) v rfl hv
      exact ⟨(x :: u) :: ws, rfl, List.forall_mem_cons.2 ⟨hu, hall⟩⟩

theorem accepts_plus (a : Rx π) (w : List α) :
    accepts sat (plus a) w = accepts sat (cat a (star a)) w := by
  cases w with
  | nil => simp [accepts_nil, nullable]
  | cons x xs => by_cases hn : a.nullable = true <;> simp [accepts_cons, deriv, accepts_alt, hn]

theorem Lang_plus_cat (a : Rx π) (w : List α) :
    Lang sat (plus a) w ↔ Lang sat (cat a (star a)) w := by
  simp only [Lang]
  constructor
  · rintro ⟨_ | ⟨u, ws⟩, hne, rfl, hall⟩
    · exact absurd rfl hne
    · exact ⟨u, _, rfl, (List.forall_mem_cons.1 hall).1, ws, rfl, (List.forall_mem_cons.1 hall).2⟩
  · rintro ⟨u, _, rfl, hu, ws, rfl, hall⟩
    exact ⟨u :: ws, by simp, rfl, List.forall_mem_cons.2 ⟨hu, hall⟩⟩

/-- Induction over expressions in which `opt a` and `plus a` are handed the case of their
expansions `alt eps a` and `cat a (star a)`: a statement that follows the language (`Lang (opt a)`
unfolds to `Lang (alt eps a)`, `Lang_plus_cat`) has six cases of its own and two transfers. -/
theorem sugarInd {motive : Rx π → Prop} (zero : motive zero) (eps : motive eps)
    (atom : ∀ p, motive (atom p)) (cat : ∀ a b, motive a → motive b → motive (cat a b))
    (alt : ∀ a b, motive a → motive b → motive (alt a b)) (star : ∀ a, motive a → motive (star a))
    (opt : ∀ a, motive (.alt .eps a) → motive (opt a))
    (plus : ∀ a, motive (.cat a (.star a)) → motive (plus a)) (e : Rx π) : motive e :=
  Rx.rec zero eps atom cat alt (fun a ih => opt a (alt _ _ eps ih))
    (fun a ih => plus a (cat _ _ ih (star _ ih))) star e

/-- **the matcher decides the language** -/
theorem accepts_iff_lang (e : Rx π) : ∀ w : List α, accepts sat e w = true ↔ Lang sat e w := by
  induction e using sugarInd with
  | zero => simp [accepts_zero, Lang]
  | eps => simp [accepts_eps, Lang]
  | atom p => simp [accepts_atom, Lang]
  | cat a b iha ihb => simp only [accepts_cat, Lang, iha, ihb, implies_true]
  | alt a b iha ihb => simp only [accepts_alt, Bool.or_eq_true, Lang, iha, ihb, implies_true]
  | star a iha => simp only [accepts_star_iff, Lang, iha, implies_true]
  | opt a ih => simpa only [accepts_opt, accepts_alt, accepts_eps, Lang] using ih
  | plus a ih => simpa only [accepts_plus, Lang_plus_cat] using ih

theorem accepts_plus_iff (a : Rx π) (w : List α) :
    accepts sat (plus a) w = true ↔
      ∃ ws : List (List α), ws ≠ [] ∧ w = ws.flatten ∧ ∀ u ∈ ws, accepts sat a u = true := by
  simp only [accepts_iff_lang, Lang]

end Scion.Seq.Rx
