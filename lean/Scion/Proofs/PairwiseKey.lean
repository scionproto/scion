/-! In a list whose keys are pairwise distinct, an entry is determined by its key. -/
namespace Scion

theorem eq_of_mem_of_key_eq {α β : Type} {f : α → β} {l : List α}
    (hd : l.Pairwise fun a b => f a ≠ f b) {a b : α} (ha : a ∈ l) (hb : b ∈ l) (h : f a = f b) :
    a = b :=
  List.Pairwise.forall_of_forall_of_flip (R := fun a b => f a = f b → a = b)
    (fun _ _ _ => rfl) (hd.imp fun h e => absurd e h) (hd.imp fun h e => absurd e.symm h) ha hb h

end Scion
