import Scion.Proofs.NetPeer
import Scion.Proofs.NetMulti
/-!
# C02 — Paths built from beacons are accepted hop by hop and reach the destination

Model: `Scion.Model.Net` (beacon extender `extend`/`Beaconed`/`Registered`, combinator `pathOf`,
per-router step `routerStep`, end-to-end `run`/`send`).  The per-router step, the reply
construction and the reversal are tied to the real data plane by engine `net` (every real router
invocation is replayed through the model with AES-CMAC as the MAC); the same engine evaluates the
statement itself on random topologies with the real extender, combinator and routers.
-/
namespace Scion.C02
open Scion.Net

/-- **C02 at full strength** (any number of border routers per AS, every edge list the combinator
    may produce — shortcuts and peering included): the packet is delivered in the destination AS
    and crosses exactly the interfaces of the path metadata, in order. -/
def C02_full : Prop :=
  ∀ (mac : MacFn) (net : Net) (now : Nat) (edges : List Edge) (src dst : Nat) (c : Cursor),
    WFNet net → AllUp net → Joinable mac net edges src dst → pathOf edges = some c →
    Unexpired now c →
    ∃ cf, send mac net now src dst c = .delivered dst (pathIfaces edges) cf

/-- **Stage 2 in general: every path without peering**, any admissible combination of segments
    (up, core, down, up+core, up+down, core+down, up+core+down, and the mirror images that occur
    as reversed paths), whole or cut at shortcut ASes; one border router per AS.  By induction
    over the list of segments (`tail_run`): along a segment the transit induction, at a joint AS
    the cross-over step, which validates the last hop of the old and the first hop of the new
    segment and the link-type pair. -/
theorem nonpeering_accepted_partial (mac : MacFn) (net : Net) (now : Nat)
    (hWF : WFNet net) (hUp : AllUp net) (hSR : SingleRouter net)
    (edges : List Edge) (src dst : Nat) (c : Cursor) (hnp : ∀ e ∈ edges, e.peer = none)
    (hJ : Joinable mac net edges src dst) (hp : pathOf edges = some c) (hexp : Unexpired now c) :
    ∃ cf, send mac net now src dst c = .delivered dst (pathIfaces edges) cf := by
  obtain ⟨s, rest, _, _, _, _, _, _, h⟩ := nonpeer_specs mac net now src dst hWF hUp hSR edges c hnp hJ hp hexp
  exact ⟨_, h⟩

/-- **Stage 1 (single segment, up, core or down, whole or from/to a shortcut AS)** — proved for
    networks with one border router per AS (hence `_partial`; sibling hand-over is covered by the
    tie to the real routers only).  By induction over the hops of the segment: the control-plane
    invariant `Chain` (every registered segment carries, hop by hop, the MAC of its AS under the
    accumulator β_j — `registered_chain`) meets the data-plane invariant "the SegID in the packet
    on arrival at hop j is the one that hop was created with" (C22).  The conclusion includes
    stage 4 for these paths: the interfaces crossed are exactly those of the path metadata
    (`trace_eq_metadata_partial`) and the packet is handed to the internal network of `dst`. -/
theorem single_segment_accepted_partial (mac : MacFn) (net : Net) (now : Nat)
    (hWF : WFNet net) (hUp : AllUp net) (hSR : SingleRouter net)
    (e : Edge) (src dst : Nat) (c : Cursor) (hpeer : e.peer = none)
    (hJ : Joinable mac net [e] src dst) (hp : pathOf [e] = some c) (hexp : Unexpired now c) :
    ∃ cf, send mac net now src dst c = .delivered dst (pathIfaces [e]) cf :=
  nonpeering_accepted_partial mac net now hWF hUp hSR [e] src dst c
    (List.forall_mem_singleton.2 hpeer) hJ hp hexp

/-- stage 4 spelled out: whatever `send` returns for such a path, it is a delivery in `dst` whose
    trace is the metadata's interface list -/
theorem trace_eq_metadata_partial (mac : MacFn) (net : Net) (now : Nat)
    (hWF : WFNet net) (hUp : AllUp net) (hSR : SingleRouter net)
    (e : Edge) (src dst : Nat) (c : Cursor) (hpeer : e.peer = none)
    (hJ : Joinable mac net [e] src dst) (hp : pathOf [e] = some c) (hexp : Unexpired now c)
    (a : Nat) (tr : List (Nat × Nat)) (cf : Cursor)
    (h : send mac net now src dst c = .delivered a tr cf) : a = dst ∧ tr = pathIfaces [e] := by
  obtain ⟨cf', h'⟩ := single_segment_accepted_partial mac net now hWF hUp hSR e src dst c hpeer hJ hp hexp
  rw [h'] at h
  cases h
  exact ⟨rfl, rfl⟩

/-- the control-plane invariant the induction rests on (re-exported): every registered segment is
    a chain of hop entries whose MACs were computed by the right AS under the right accumulator,
    joined by existing links of the right kind, starting with ingress 0 and ending with egress 0 -/
theorem registered_is_chain (mac : MacFn) (net : Net) (core : Bool) (s : PSeg)
    (h : Registered mac net core s) :
    Chain mac net core s.ts s.s0 s.entries ∧
    (∃ first, s.entries.head? = some first ∧ first.hop.cIn = 0) ∧
    (∃ last, s.entries.getLast? = some last ∧ last.hop.cEg = 0) ∧
    2 ≤ s.entries.length := registered_chain mac net core s h

/-- **Stage 2, up segment + down segment** joined at a common AS (the core AS both start from, or —
    child–child shortcut — any AS below it that both pass through), one border router per AS.
    At the joint AS one router validates the last hop of the up segment (SegID after the ingress
    update = β of that hop) and the first hop of the down segment (SegID = `calculateBeta` of the
    down edge), checks the link-type pair and forwards; from there the down segment's induction
    takes over. -/
theorem xover_accepted_partial (mac : MacFn) (net : Net) (now : Nat)
    (hWF : WFNet net) (hUp : AllUp net) (hSR : SingleRouter net)
    (eu ed : Edge) (src dst : Nat) (c : Cursor)
    (hud : eu.down = false) (huc : eu.core = false) (hup : eu.peer = none)
    (hdd : ed.down = true) (hdc : ed.core = false) (hdp : ed.peer = none)
    (hJ : Joinable mac net [eu, ed] src dst) (hp : pathOf [eu, ed] = some c)
    (hexp : Unexpired now c) :
    ∃ cf, send mac net now src dst c = .delivered dst (pathIfaces [eu, ed]) cf :=
  nonpeering_accepted_partial mac net now hWF hUp hSR [eu, ed] src dst c
    (List.forall_mem_cons.2 ⟨hup, List.forall_mem_singleton.2 hdp⟩) hJ hp hexp

/-- **Stage 3: peering paths** — an up segment ending in a peer entry, the peering link, a down
    segment starting with the matching peer entry (each side one or more ASes); one border router
    per AS.  The peering hops are validated with the accumulator of the *next* hop in construction
    order and leave the SegID untouched (C22). -/
theorem peering_accepted_partial (mac : MacFn) (net : Net) (now : Nat)
    (hWF : WFNet net) (hUp : AllUp net) (hSR : SingleRouter net)
    (eu ed : Edge) (src dst : Nat) (c : Cursor) (ku kd : Nat)
    (hup : eu.peer = some ku) (hdp : ed.peer = some kd)
    (hJ : Joinable mac net [eu, ed] src dst) (hp : pathOf [eu, ed] = some c)
    (hexp : Unexpired now c) :
    ∃ cf, send mac net now src dst c = .delivered dst (pathIfaces [eu, ed]) cf :=
  peering_accepted mac net now src dst hWF hUp hSR eu ed c ku kd hup hdp hJ hp hexp

/-- **C02 for networks with one border router per AS**: `C02_full` with the additional hypothesis
    `SingleRouter` — every path path combination can build (all segment combinations, shortcuts,
    peering shortcuts) is forwarded by every AS on it through exactly the interfaces of the path
    metadata and delivered in the destination AS. -/
theorem C02_single_router_partial (mac : MacFn) (net : Net) (now : Nat) (edges : List Edge)
    (src dst : Nat) (c : Cursor)
    (hWF : WFNet net) (hUp : AllUp net) (hSR : SingleRouter net)
    (hJ : Joinable mac net edges src dst) (hp : pathOf edges = some c) (hexp : Unexpired now c) :
    ∃ cf, send mac net now src dst c = .delivered dst (pathIfaces edges) cf := by
  rcases joinable_cases mac net edges src dst hJ with hnp | ⟨e1, e2, k1, k2, rfl, h1, h2⟩
  · exact nonpeering_accepted_partial mac net now hWF hUp hSR edges src dst c hnp hJ hp hexp
  · exact peering_accepted mac net now src dst hWF hUp hSR e1 e2 c k1 k2 h1 h2 hJ hp hexp

/-- **Several border routers per AS, transit hop**:
    the router `r1` owning the ingress interface validates the hop, applies the ingress SegID
    update and hands the packet, unchanged otherwise, to the sibling router `r2` owning the egress
    interface; `r2` accepts it only over the sibling link from exactly that router
    (`validateTransitUnderlaySrc`), validates the hop again and sends it out — with exactly the
    SegID and pointers a single router produces (`transit_step`: `nextSeg = egSeg ∘ usedSeg`). -/
theorem sibling_handover_partial (mac : MacFn) (net : Net) (now src dst : Nat) (cd : Bool)
    (ts seg a r1 r2 i : Nat) (h : Hop) (done todo : List Hop) (after : List Seg) (fi f : Iface)
    (ha : ∀ s ∈ after, s.hops.length ≠ 1) (hdone : done ≠ []) (htodo : todo ≠ [])
    (hi0 : i ≠ 0) (hi : i = inSide cd h) (hsrc : a ≠ src) (hdst : a ≠ dst)
    (hmac : macOk mac (net a).key ⟨cd, false, usedSeg cd seg h, ts⟩ h = true)
    (hexp : expired now ts h.exp = false) (hia : h.inAlert = false) (hea : h.egAlert = false)
    (hfi : (net a).iface i = some fi) (hfio : fi.owner = r1) (h12 : r1 ≠ r2)
    (hf : (net a).iface (outSide cd h) = some f) (ho0 : outSide cd h ≠ 0) (hup : f.up = true)
    (hown : f.owner = r2) (hlt : ltSame fi.lt f.lt = true) :
    routerStep mac (cfgR net a r1) now (.ext i) (a == src) (a == dst)
        ⟨[], ⟨cd, false, seg, ts⟩, done, h, todo, after⟩ =
      .forward (outSide cd h) ⟨[], ⟨cd, false, usedSeg cd seg h, ts⟩, done, h, todo, after⟩ ∧
    routerStep mac (cfgR net a r2) now (.sibling r1) (a == src) (a == dst)
        ⟨[], ⟨cd, false, usedSeg cd seg h, ts⟩, done, h, todo, after⟩ =
      .forward (outSide cd h)
        (mkCur [] ⟨cd, false, nextSeg cd seg h, ts⟩ (done ++ [h]) todo after) := by
  rw [beq_false_of_ne hsrc, beq_false_of_ne hdst]
  have hte : todo.isEmpty = false := isEmpty_false htodo
  have hsing : ∀ sg, (!false && (⟨[], ⟨cd, false, sg, ts⟩, done, h, todo, after⟩ : Cursor).hasSingleton) = false :=
    fun sg => noSingleton_of [] ⟨cd, false, sg, ts⟩ done h todo after (Or.inr ⟨nofun, ha, by
      have := List.length_pos_iff.mpr hdone; omega⟩)
  have hx : ∀ sg, ((⟨[], ⟨cd, false, sg, ts⟩, done, h, todo, after⟩ : Cursor).isXover && !false) = false := by
    intro sg; show (todo.isEmpty && !after.isEmpty && !false) = false; rw [hte]; rfl
  have hing := ingUpd_ext ⟨[], ⟨cd, false, seg, ts⟩, done, h, todo, after⟩ i false hi0
  rw [usedSeg_eq_lastSeg] at hing
  refine ⟨?_, ?_⟩
  · have := routerStep_ext_handover mac (cfgR net a r1) now i _ false fi f (hsing seg) rfl hi0 hi
      (by show (todo.isEmpty && after.isEmpty) = false; rw [hte]; rfl) (hx seg) hexp
      (by rw [hing]; exact hmac) hia hea hfi hf ho0 (by rw [hown]; exact Ne.symm h12) hlt
    rw [hing] at this
    exact this
  · refine sibling_out_step mac net now a r1 r2 false _ false fi f _ (hsing _) rfl hexp
      (by show ([].isEmpty && done.isEmpty) = false; rw [isEmpty_false hdone]; rfl)
      (by rw [hi] at hfi; exact hfi) hfio h12 hmac (hx _) ho0 hf hown
      (by rw [hia, hea]; exact ite_self _) hup ?_
    rw [egUpd_nopeer]
    show (⟨[], ⟨cd, false, egSeg cd (usedSeg cd seg h) h, ts⟩, done, h, todo, after⟩ : Cursor).incPath = _
    rw [egSeg_usedSeg]
    exact incPath_mkCur [] _ done h todo after htodo

/-- **Several border routers per AS, any kind of hop — the egress router** (transit hop, first hop
    after a segment change, peering hop out of the up segment, peering hop into the down segment:
    `p` and the position of `cm` are arbitrary).  The packet `cm` comes over the sibling link from
    router `r1`; router `r2` accepts it because `r1` owns the ingress interface of the hop
    (`validateTransitUnderlaySrc`; after a segment change that is the interface of the *previous*
    segment's last hop, `ingressInterface`), validates expiry and MAC again, does no segment change
    of its own, and sends the packet out after egress processing. -/
theorem sibling_egress_any_hop (mac : MacFn) (net : Net) (now a r1 r2 : Nat) (sl : Bool) (cm : Cursor)
    (p : Bool) (fi f : Iface) (c' : Cursor)
    (hsing : (!cm.info.peer && cm.hasSingleton) = false)
    (hp : determinePeer cm = some p)
    (hexp : expired now cm.info.ts cm.cur.exp = false)
    (hnf : cm.isFirstHop = false)
    (hfi : (net a).iface (ingressInterface cm p) = some fi) (hr1 : fi.owner = r1) (h12 : r1 ≠ r2)
    (hmac : macOk mac (net a).key cm.info cm.cur = true)
    (hx : (cm.isXover && !p) = false)
    (he0 : egressOf cm ≠ 0) (hf : (net a).iface (egressOf cm) = some f) (hr2 : f.owner = r2)
    (hal : (if cm.info.consDir then cm.cur.egAlert else cm.cur.inAlert) = false)
    (hup : f.up = true) (hinc : (egUpd cm p).incPath = some c') :
    routerStep mac (cfgR net a r2) now (.sibling r1) sl false cm = .forward (egressOf cm) c' :=
  sibling_out_step mac net now a r1 r2 sl cm p fi f c' hsing hp hexp hnf hfi hr1 h12 hmac hx he0 hf hr2
    hal hup hinc

/-- **Crossing an AS with several border routers = crossing it with one.**  `collapse net` is
    `net` with every interface moved to router 0.  For ANY packet `c` (every segment with the same
    Peer flag, not on its very first hop, on the first hop of a later segment only across a
    peering link — what holds for every packet a router sends to a neighbour, `ArrOK`) that the
    single router of the collapsed AS forwards: the router owning the ingress interface either
    does exactly the same, or (cross-over included) hands the packet to the sibling owning the
    egress interface, which sends out exactly the same packet over the same interface; and the
    packet sent out satisfies the same invariants, with fewer hop fields left.  This one lemma
    covers transit hops, segment changes and both peering hops, ingress and egress router. -/
theorem as_crossing_with_siblings (mac : MacFn) (net : Net) (now a i : Nat) (sl dl : Bool) (c : Cursor)
    (e : Nat) (c' : Cursor) (fi : Iface) (hfi : (net a).iface i = some fi) (hi0 : i ≠ 0)
    (hU : Uniform c) (hA : ArrOK c)
    (h : routerStep mac (cfgOf (collapse net) a) now (.ext i) sl dl c = .forward e c') :
    dl = false ∧ ∃ f, (net a).iface e = some f ∧ e ≠ 0 ∧
      ((f.owner = fi.owner ∧
          routerStep mac (cfgR net a fi.owner) now (.ext i) sl false c = .forward e c') ∨
       (f.owner ≠ fi.owner ∧ ∃ cm,
          routerStep mac (cfgR net a fi.owner) now (.ext i) sl false c = .forward e cm ∧
          routerStep mac (cfgR net a f.owner) now (.sibling fi.owner) sl false cm = .forward e c')) ∧
      Uniform c' ∧ ArrOK c' ∧ remaining c' < remaining c :=
  step_sim_ext mac net now a i sl dl c e c' fi hfi hi0 hU hA h

/-- whatever the collapsed network delivers, the network as it is delivers — same trace, same
    final packet (induction over the run with `as_crossing_with_siblings`; the fuel `send` grants,
    two router invocations per hop field, suffices) -/
theorem send_with_siblings (mac : MacFn) (net : Net) (now src dst : Nat) (hWF : WFNet net) (c : Cursor)
    (hU : Uniform c) (hfirst : c.isFirstHop = true) (d : Nat) (tr : List (Nat × Nat)) (cf : Cursor)
    (h : send mac (collapse net) now src dst c = .delivered d tr cf) :
    send mac net now src dst c = .delivered d tr cf :=
  send_sim mac net now src dst hWF c hU hfirst d tr cf h

/-- **C02 at full strength is a theorem**: any number of border routers per AS, every edge list
    the combinator may produce (all segment combinations, shortcuts, peering).  The hypotheses of
    `C02_full` do not depend on which router owns which interface, so they hold for
    `collapse net`; `C02_single_router_partial` delivers the packet there; `send_with_siblings`
    transfers the delivery, trace included, to `net`. -/
theorem C02_holds : C02_full := by
  intro mac net now edges src dst c hWF hUp hJ hp hexp
  obtain ⟨cf, h⟩ := C02_single_router_partial mac (collapse net) now edges src dst c
    (wf_collapse net hWF) (allUp_collapse net hUp) (singleRouter_collapse net)
    (joinable_collapse mac net edges src dst hJ) hp hexp
  obtain ⟨hU, hfirst⟩ := pathOf_uniform mac net edges src dst c hJ hp
  exact ⟨cf, send_sim mac net now src dst hWF c hU hfirst dst _ cf h⟩

/-! Non-vacuity: a two-AS network (core 1 with child 2), the beacon 1→2;
the down path is delivered by `send`. -/
def exMac : MacFn := fun k inp => (k ++ inp).foldl (fun a b => (a * 31 + b.toNat) % 281474976710656) 7
def exNet : Net := fun a =>
  if a = 1 then ⟨[1], true, [⟨5, .child, true, 0, 2, 9⟩]⟩
  else if a = 2 then ⟨[2], false, [⟨9, .parent, true, 0, 1, 5⟩]⟩
  else ⟨[], false, []⟩
def exSeg : PSeg :=
  extend exMac exNet (extend exMac exNet ⟨77, 1000, []⟩ 1 63 0 5 []) 2 63 9 0 []

def exDelivered : Bool :=
  match pathOf [⟨exSeg, false, true, 0, none⟩] with
  | some c =>
    (match send exMac exNet 2000000 1 2 c with
     | .delivered a tr _ => a == 2 && tr == [(1, 5), (2, 9)]
     | _ => false)
  | none => false

example : exDelivered = true := by decide +kernel

/-- … and the segment is `Registered` in the sense of the theorems (originated by AS 1 on its
    child interface 5, terminated by AS 2) -/
example : Registered exMac exNet false exSeg :=
  Registered.terminate _ 2 9 63 []
    (Beaconed.originate 1 77 1000 63 5 [] ⟨5, .child, true, 0, 2, 9⟩ (by decide) rfl (by decide)
      (by intro p hp; cases hp))
    (by intro p hp; cases hp)

end Scion.C02
