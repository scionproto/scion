import Scion.Proofs.Signer
import Scion.Props.C34
import Scion.Gen.Pki2
/-!
# C36 — Signers are backed by a currently verifiable chain and expire in time

Property theorems only.  The model (`Scion.Model.Signer`) mirrors `SignerGen.Generate`,
`bestForKey`, `bestChain`, `Signer.validate`, `LastExpiring`; it is tied to the real functions by
`harness/cmd/signer` (real keys, freshly issued certificates, in-memory trust DB, wall clock with
>= 1 s margin).  "The chain verifies now against TRC i" is an oracle Boolean per chain
(`okLatest`, `okPred`), obtained by really calling `cppki.VerifyChain`; what it means is C34.

The clause "messages it signs verify with a verifier bound to its ISD-AS": the decisions
`Verifier.Verify` takes on the key id (bound ISD-AS, wildcard, engine, chains) are modelled
(`verifyMsg`, theorem `verifies_with_bound_ia`) with the ECDSA check as an oracle bit per chain;
that a message produced by the real `Signer.Sign` of a generated signer does verify with the
real `trust.Verifier` bound to its ISD-AS (and not with one bound elsewhere) is evaluated on the
real code for every generated signer by the harness predicate.
-/
namespace Scion.C36
open Scion.Chain Scion.Signer

/-- the chains `bestForKey` chooses from: the DB answer, filtered by the wanted key usage -/
def candidates (k : KeyIn) (want : Nat) : List ChainInfo :=
  match k.chains with
  | some cs => if want = 0 then cs else filterChains cs want
  | none => []

theorem candidates_sub (k : KeyIn) (want : Nat) (c : ChainInfo) (h : c ∈ candidates k want) :
    ∃ cs, k.chains = some cs ∧ c ∈ cs ∧ (want ≠ 0 → want ∈ c.eku) := by
  unfold candidates at h
  split at h
  · rename_i cs hcs
    split at h
    · rename_i hw; exact ⟨cs, hcs, h, fun hne => absurd hw hne⟩
    · simp only [filterChains, List.mem_filter, List.contains_iff_mem] at h
      exact ⟨cs, hcs, h.1, fun _ => h.2⟩
  · cases h

/-- the three ways `bestForKey` yields a signer: under the only active TRC, under the latest of two, or —
when no candidate verifies against the latest — under the predecessor in the grace period -/
theorem bestForKey_signer (act : ActiveRes) (want : Nat) (z : Int) (k : KeyIn) (s : SignerOut)
    (h : bestForKey act want z k = .signer s) :
    ∃ t, s.trcBase = t.base ∧ s.trcSerial = t.serial ∧
      ((s.inGrace = false ∧ (act = .one t ∨ ∃ g, act = .two t g) ∧
          bestChain (·.okLatest) (candidates k want) = some s.chain ∧
          s.expiration = minT s.chain.notAfter t.notAfter) ∨
       (s.inGrace = true ∧ ∃ g, act = .two t g ∧
          bestChain (·.okLatest) (candidates k want) = none ∧
          bestChain (·.okPred) (candidates k want) = some s.chain ∧
          s.expiration = minT (minT s.chain.notAfter (t.graceEnd z)) g.notAfter)) := by
  unfold bestForKey at h
  unfold candidates
  split at h; · cases h
  split at h; · cases h
  split at h; · cases h
  rename_i cs hc
  rw [hc]
  split at h
  · rename_i t
    unfold bestOne at h
    split at h <;> cases h
    rename_i c hb
    exact ⟨t, rfl, rfl, .inl ⟨rfl, .inl rfl, hb, rfl⟩⟩
  · rename_i t g
    unfold bestTwo at h
    split at h
    · cases h
      rename_i c hb
      exact ⟨t, rfl, rfl, .inl ⟨rfl, .inr ⟨g, rfl⟩, hb, rfl⟩⟩
    · rename_i hn
      split at h <;> cases h
      rename_i c hb
      exact ⟨t, rfl, rfl, .inr ⟨rfl, g, rfl, hn, hb, rfl⟩⟩
  · cases h

/-- **Choice of the chain.**  A signer produced for a key uses a chain of that key which
verifies against the latest (active) TRC — or, only if *no* candidate chain verifies against the
latest TRC and the predecessor is active (grace period), one that verifies against the
predecessor; and among the chains verifying against that TRC it is one with the greatest
`NotAfter` (with equal `NotAfter` any may be chosen). -/
theorem signer_choice (act : ActiveRes) (want : Nat) (z : Int) (k : KeyIn) (s : SignerOut)
    (h : bestForKey act want z k = .signer s) :
    s.chain ∈ candidates k want ∧
    ((s.inGrace = false ∧ s.chain.okLatest = true ∧
        (∀ c ∈ candidates k want, c.okLatest = true → c.notAfter ≤ s.chain.notAfter) ∧
        ∃ t, t ∈ act.trcs ∧ act.trcs.head? = some t ∧ s.trcBase = t.base ∧ s.trcSerial = t.serial) ∨
     (s.inGrace = true ∧ (∀ c ∈ candidates k want, c.okLatest = false) ∧
        s.chain.okPred = true ∧
        (∀ c ∈ candidates k want, c.okPred = true → c.notAfter ≤ s.chain.notAfter) ∧
        ∃ t g, act = .two t g ∧ s.trcBase = t.base ∧ s.trcSerial = t.serial)) := by
  obtain ⟨t, hb, hs, ⟨hg, ha, hc, _⟩ | ⟨hg, g, ha, hn, hc, _⟩⟩ := bestForKey_signer act want z k s h
  · obtain ⟨h1, h2, h3⟩ := bestChain_some _ _ _ hc
    refine ⟨h1, .inl ⟨hg, h2, h3, t, ?_, ?_, hb, hs⟩⟩ <;>
      rcases ha with rfl | ⟨g, rfl⟩ <;> simp [ActiveRes.trcs]
  · obtain ⟨h1, h2, h3⟩ := bestChain_some _ _ _ hc
    exact ⟨h1, .inr ⟨hg, (bestChain_none _ _).1 hn, h2, h3, t, g, ha, hb, hs⟩⟩

/-- **No signer** for a (usable) key exactly when no candidate chain verifies against the latest
TRC and — in the grace period — none against the predecessor either. -/
theorem signer_none_iff (act : ActiveRes) (want : Nat) (z : Int) (k : KeyIn)
    (hk : k.skidOk = true) (ha : k.algoOk = true) (cs : List ChainInfo) (hc : k.chains = some cs) :
    bestForKey act want z k = .skip ↔
      ((∃ t, act = .one t) ∧ ∀ c ∈ candidates k want, c.okLatest = false) ∨
      ((∃ t g, act = .two t g) ∧ ∀ c ∈ candidates k want, c.okLatest = false ∧ c.okPred = false) := by
  have hcand : candidates k want = if want = 0 then cs else filterChains cs want := by
    simp [candidates, hc]
  rw [hcand]
  unfold bestForKey
  rw [hk, ha, hc]
  cases act <;> simp [bestOne_skip_iff, bestTwo_skip_iff]

/-- **Expiry.**  Not in grace: the earliest of the chain's expiry and the latest TRC's validity
end.  In grace: the earliest of the chain's expiry, the grace-period end of the latest TRC and
the predecessor TRC's validity end. -/
theorem signer_expiry (act : ActiveRes) (want : Nat) (z : Int) (k : KeyIn) (s : SignerOut)
    (h : bestForKey act want z k = .signer s) :
    (s.inGrace = false → ∃ t, act.trcs.head? = some t ∧
        s.expiration = minT s.chain.notAfter t.notAfter) ∧
    (s.inGrace = true → ∃ t g, act = .two t g ∧
        s.expiration = minT (minT s.chain.notAfter (t.graceEnd z)) g.notAfter) := by
  obtain ⟨t, _, _, ⟨hg, ha, _, he⟩ | ⟨hg, g, ha, _, _, he⟩⟩ := bestForKey_signer act want z k s h
  · refine ⟨fun _ => ⟨t, ?_, he⟩, fun h' => (by rw [hg] at h'; cases h')⟩
    rcases ha with rfl | ⟨g, rfl⟩ <;> rfl
  · exact ⟨fun h' => (by rw [hg] at h'; cases h'), fun _ => ⟨t, g, ha, he⟩⟩

/-- the expiry is *the earliest* of its bounds: below each of them and equal to one of them -/
theorem expiry_is_earliest_active (a b : Int) :
    minT a b ≤ a ∧ minT a b ≤ b ∧ (minT a b = a ∨ minT a b = b) :=
  ⟨minT_le_left a b, minT_le_right a b, minT_eq a b⟩

theorem expiry_is_earliest_grace (a b c : Int) :
    let e := minT (minT a b) c
    e ≤ a ∧ e ≤ b ∧ e ≤ c ∧ (e = a ∨ e = b ∨ e = c) := by
  intro e
  refine ⟨Int.le_trans (minT_le_left _ c) (minT_le_left a b),
    Int.le_trans (minT_le_left _ c) (minT_le_right a b), minT_le_right _ c, ?_⟩
  rcases minT_eq (minT a b) c with h | h
  · rcases minT_eq a b with h' | h'
    · exact .inl (h.trans h')
    · exact .inr (.inl (h.trans h'))
  · exact .inr (.inr h)

theorem graceEnd_of_inGrace (t : TrcInfo) (z now : Int) (h : t.inGrace now = true) :
    t.graceEnd z = t.notBefore + t.grace :=
  graceEnd_of_ne ((C34.inGrace_iff t now).1 h).1 z

/-- **Signing fails once the signer has expired** (and only then). -/
theorem sign_fails_after_expiry (expiration now : Int) :
    signOk expiration now = false ↔ expiration < now := by
  simp only [signOk, Bool.not_eq_false', decide_eq_true_eq]
  omega

theorem sign_ok_iff (expiration now : Int) : signOk expiration now = true ↔ now ≤ expiration := by
  simp only [signOk, Bool.not_eq_true', decide_eq_false_iff_not]
  omega

/-- **`Generate`** returns only signers that are the `bestForKey` result of one of the ring's
keys, at least one of them, and only if `activeTRCs` succeeded. -/
theorem generate_signers (keys : Option (List KeyIn)) (act : ActiveRes) (want : Nat) (z : Int)
    (l : List SignerOut) (h : generate keys act want z = .ok l) :
    l ≠ [] ∧ act.trcs ≠ [] ∧
    ∃ ks, keys = some ks ∧ ∀ s ∈ l, ∃ k ∈ ks, bestForKey act want z k = .signer s := by
  unfold generate at h
  split at h
  · cases h
  · cases h
  · rename_i ks _
    split at h
    · cases h
    · cases h
    · cases h
    · rename_i a h1 h2 h3
      split at h
      · cases h
      · cases h
      · rename_i l' hne hl'
        injection h with h; subst h
        refine ⟨hne, ?_, ks, rfl, collect_mem _ _ _ _ _ hl'⟩
        cases act <;> simp_all [ActiveRes.trcs]

/-- Composition with C34: whenever a signer is generated, the ISD's latest TRC is valid now;
a grace signer exists only inside the latest TRC's grace period, and then its expiry is at most
the grace-period end `notBefore + grace`. -/
theorem signer_respects_trc_timeline (latest pred : Lookup) (now : Int) (want : Nat) (z : Int)
    (k : KeyIn) (s : SignerOut)
    (h : bestForKey (activeTRCs latest pred now) want z k = .signer s) :
    ∃ L, latest = .found L ∧ (L.notBefore ≤ now ∧ now ≤ L.notAfter) ∧
      s.trcBase = L.base ∧ s.trcSerial = L.serial ∧ s.expiration ≤ s.chain.notAfter ∧
      (s.inGrace = false → s.expiration ≤ L.notAfter) ∧
      (s.inGrace = true → ∃ g, pred = .found g ∧ L.base ≠ L.serial ∧ L.notBefore ≤ now ∧
          now ≤ L.notBefore + L.grace ∧ s.expiration ≤ L.notBefore + L.grace ∧
          s.expiration ≤ g.notAfter) := by
  obtain ⟨t, hb, hs, ⟨hg, ha, _, he⟩ | ⟨hg, g, ha, _, _, he⟩⟩ := bestForKey_signer _ want z k s h
  · have hL : latest = .found t ∧ contains t.notBefore t.notAfter now = true := by
      rcases ha with ha | ⟨g, ha⟩
      · exact ⟨(activeTRCs_eq_one_iff.1 ha).1, (activeTRCs_eq_one_iff.1 ha).2.1⟩
      · exact ⟨(activeTRCs_eq_two_iff.1 ha).1, (activeTRCs_eq_two_iff.1 ha).2.1⟩
    exact ⟨t, hL.1, (contains_iff ..).1 hL.2, hb, hs, he ▸ minT_le_left _ _,
      fun _ => he ▸ minT_le_right _ _, fun h' => (by rw [hg] at h'; cases h')⟩
  · obtain ⟨hL, hc, hgr, hp⟩ := activeTRCs_eq_two_iff.1 ha
    have hgr' := (C34.inGrace_iff t now).1 hgr
    have hb3 := expiry_is_earliest_grace s.chain.notAfter (t.graceEnd z) g.notAfter
    rw [← he, graceEnd_of_ne hgr'.1] at hb3
    exact ⟨t, hL, (contains_iff ..).1 hc, hb, hs, hb3.1, fun h' => (by rw [hg] at h'; cases h'),
      fun _ => ⟨g, hp, hgr'.1, hgr'.2.1, hgr'.2.2, hb3.2.1, hb3.2.2.1⟩⟩

/-- `LastExpiring` returns a signer whose validity covers the request and whose expiry is the
greatest among those that do -/
theorem lastExpiring_spec (signers : List (Int × Int)) (nb na : Int) (r : Int × Int)
    (h : lastExpiring signers nb na = some r) :
    r ∈ signers ∧ (r.1 ≤ nb ∧ na ≤ r.2) ∧
      ∀ s ∈ signers, (s.1 ≤ nb ∧ na ≤ s.2) → s.2 ≤ r.2 := by
  have := lastExpiring_best signers nb na
  rw [h] at this
  obtain ⟨hm, -, hall⟩ := this
  have hm' := List.mem_filter.1 hm
  exact ⟨hm'.1, (covers_iff ..).1 hm'.2,
    fun s hs hc => hall s (List.mem_filter.2 ⟨hs, (covers_iff ..).2 hc⟩) trivial⟩

theorem lastExpiring_none_iff (signers : List (Int × Int)) (nb na : Int) :
    lastExpiring signers nb na = none ↔ ∀ s ∈ signers, ¬ (s.1 ≤ nb ∧ na ≤ s.2) := by
  exact (lastExpiring_best signers nb na).eq_none_iff.trans
    ⟨fun h s hs hc => h s (List.mem_filter.2 ⟨hs, (covers_iff ..).2 hc⟩) trivial,
     fun h s hs _ => h s (List.mem_filter.1 hs).1 ((covers_iff ..).1 (List.mem_filter.1 hs).2)⟩

/-! ## Verification with a verifier bound to an ISD-AS -/

/-- **`verifies_with_bound_ia`.**  `Verifier.Verify` accepts a signed message iff its header and
key id parse, the key id carries a subject key id, the verifier is unbound or bound to exactly
the ISD-AS named in the key id (which `Signer.Sign` sets to the signer's ISD-AS), that ISD-AS
is not a wildcard, the engine accepts the TRC notification and hands out at least one chain
whose AS key verifies the signature. -/
theorem verifies_with_bound_ia (v : VerifyIn) :
    verifyMsg v = true ↔
      v.hdrOk = true ∧ v.skidEmpty = false ∧ (v.boundIA = 0 ∨ v.boundIA = v.ia) ∧
      isWildcard v.ia = false ∧ v.engineNil = false ∧ v.notifyOk = true ∧
      ∃ cs, v.chains = some cs ∧ true ∈ cs := by
  unfold verifyMsg
  cases v.chains <;> simp [Decidable.or_iff_not_imp_left]

theorem bound_other_ia_rejected (v : VerifyIn) (hb : v.boundIA ≠ 0) (hne : v.boundIA ≠ v.ia) :
    verifyMsg v = false := by
  cases h : verifyMsg v
  · rfl
  · have := (verifies_with_bound_ia v).1 h
    rcases this.2.2.1 with h0 | h1
    · exact absurd h0 hb
    · exact absurd h1 hne

/-! ## Facts regenerated from the source (T3) -/

theorem gen_call_order :
    Gen.Pki2.bestForKeyCalls =
      ["SubjectKeyID", "SelectSignatureAlgorithm", "Chains", "filterChains", "bestChain", "bestChain",
       "minTime", "minTime", "minTime", "GracePeriodEnd"] ∧
    Gen.Pki2.bestChainCalls = ["VerifyChain"] :=
  ⟨rfl, rfl⟩

/-! ## Non-vacuity -/

def exChains : List ChainInfo :=
  [⟨1, -3600, 3600, [1, 2, 8], false, true⟩, ⟨2, -3600, 7200, [1, 2, 8], false, true⟩,
   ⟨3, -3600, 9000, [8], false, false⟩]

def exKey : KeyIn := ⟨true, true, some exChains⟩

def exLatest : TrcInfo := ⟨1, 2, -10, 100000, 60⟩
def exPred : TrcInfo := ⟨1, 1, -100000, 5000, 0⟩

/-- in the grace period, no chain under the latest TRC: chain 2 (latest expiring under the
predecessor) is used and the expiry is the grace-period end -/
example : bestForKey (.two exLatest exPred) 0 (-1000000) exKey =
    .signer ⟨⟨2, -3600, 7200, [1, 2, 8], false, true⟩, 50, true, 1, 2⟩ := by decide

example : bestForKey (.one exLatest) 0 (-1000000) exKey = .skip := by decide

example : bestForKey (.one exLatest) 0 0
    ⟨true, true, some [⟨1, -3600, 3600, [1, 2, 8], true, false⟩, ⟨2, -5, 200000, [8], true, false⟩]⟩ =
    .signer ⟨⟨2, -5, 200000, [8], true, false⟩, 100000, false, 1, 2⟩ := by decide

example : signOk 50 51 = false ∧ signOk 50 50 = true := by decide

end Scion.C36
