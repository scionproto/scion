import Scion.Proofs.RouterProcess
import Scion.Proofs.RouterExamples
import Scion.Gen.Router1
/-!
# C01 — Routers forward only along unexpired hop fields issued by their own AS

Property theorems only. Model: `Scion.Model.Router` (`processPkt` = decoder + `process`, tied to
`router/dataplane.go` by `harness/cmd/router`: real output bytes, disposition, SCMP type/code/
pointer compared on every generated packet, MACs by a real AES-CMAC). `mac` is a parameter:
every theorem holds for all keyed functions, all configurations, all packets, all times.
-/
namespace Scion.C01
open Scion.Util Scion.Router
open Scion.PathMeta hiding Info

/-- hop field `hop`, taken with info field `inf`, carries the MAC the AS key yields for
(SegID, timestamp, expiry, interface pair) and has not expired at `now` -/
def HopValid (mac : Mac) (key : Bytes) (now : Nat) (inf : Info) (hop : Hop) : Prop :=
  hop.mac = (mac key (macInput inf.segID inf.ts hop.exp hop.consIn hop.consEg)).take 6 ∧
  now ≤ inf.ts * 1000000000 + (hop.exp + 1) * expUnitNs

theorem hopValid_iff (mac : Mac) (key : Bytes) (now : Nat) (inf : Info) (hop : Hop) :
    HopValid mac key now inf hop ↔ (macOk mac key inf hop = true ∧ unexpired now inf hop = true) := by
  unfold HopValid macOk unexpired
  simp

/-- the segment-identifier accumulator the current hop is verified against: the SegID as
carried, except on an external ingress against construction direction off a peering hop, where
the ingress router first XORs in the first two MAC bytes -/
def accInfo (ing : Ingress) (inf : Info) (hop : Hop) (peering : Bool) : Info :=
  if ingressUpdates ing inf peering then updSegID inf hop else inf

/-- the current hop field and its info field, as they sit in the received packet -/
structure Current (h : Hd) (pm : Hdr) (raw : Bytes) (hop : Hop) (inf : Info) (peering : Bool) : Prop where
  hhop : getHop h raw pm.currHF = some hop
  hinf : getInfo h raw pm.currINF = some inf
  hpeer : determinePeer pm inf = some peering

/-- the effective cross-over condition of the received packet -/
def Crosses (cfg : Cfg) (h : Hd) (pm : Hdr) (peering : Bool) : Prop :=
  h.dstIA ≠ cfg.localIA ∧ isXover (base h pm) = true ∧ peering = false

theorem Current.unique {h : Hd} {pm : Hdr} {raw : Bytes} {hop hop' : Hop} {inf inf' : Info}
    {peering peering' : Bool} (c : Current h pm raw hop inf peering)
    (c' : Current h pm raw hop' inf' peering') : hop' = hop ∧ inf' = inf ∧ peering' = peering := by
  obtain rfl : hop' = hop := Option.some.inj (c'.hhop.symm.trans c.hhop)
  obtain rfl : inf' = inf := Option.some.inj (c'.hinf.symm.trans c.hinf)
  exact ⟨rfl, rfl, Option.some.inj (c'.hpeer.symm.trans c.hpeer)⟩

/-- **C01 (current hop).** A packet is forwarded or delivered only if its current hop field is
valid under the AS key for the accumulator / timestamp / expiry / interfaces it carries, and
unexpired. -/
theorem current_hop_valid (cfg : Cfg) (mac : Mac) (resolve : Cfg → Hd → ResolveOut) (now : Nat)
    (ing : Ingress) (h : Hd) (pm : Hdr) (raw : Bytes)
    (hacc : (process cfg mac resolve now ing h pm raw).1.accepting = true) :
    ∃ hop inf peering, Current h pm raw hop inf peering ∧
      HopValid mac cfg.key now (accInfo ing inf hop peering) hop := by
  obtain ⟨s0, s1, p⟩ := process_accepting_inv hacc
  have a := stParse_ok p.parse
  have b := stSegID_ends.ok p.segid
  have c := stValidate1_ends.ok p.val
  have d := stMac_ok p.macst
  refine ⟨s0.hop, s0.inf, s0.peering, ⟨a.hop, a.inf, a.peer⟩, ?_⟩
  rw [hopValid_iff]
  unfold accInfo
  rw [← b.inf, ← b.hop]
  exact ⟨d.2, c.2.1⟩

/-- **C01 (cross-over).** If the packet is forwarded across an effective segment cross-over,
the first hop field of the next segment — read from the received packet, with its own info
field — is valid and unexpired as well. -/
theorem xover_next_hop_valid (cfg : Cfg) (mac : Mac) (resolve : Cfg → Hd → ResolveOut) (now : Nat)
    (ing : Ingress) (h : Hd) (pm : Hdr) (raw : Bytes)
    (hacc : (process cfg mac resolve now ing h pm raw).1.accepting = true)
    (hop : Hop) (inf : Info) (peering : Bool) (cur : Current h pm raw hop inf peering)
    (hx : Crosses cfg h pm peering) :
    ∃ hop2 inf2, getHop h raw (pm.currHF + 1) = some hop2 ∧
      getInfo h raw (infIdx pm (pm.currHF + 1)) = some inf2 ∧
      HopValid mac cfg.key now inf2 hop2 := by
  obtain ⟨hdst, hxo, hpeer⟩ := hx
  obtain ⟨s0, s1, p, ⟨hd, _⟩ | ⟨_, s5, l, o⟩⟩ := process_accepting_cases hacc
  · exact absurd hd hdst
  have a := stParse_ok p.parse
  have b := stSegID_ends.ok p.segid
  have hpe : s0.peering = peering := (cur.unique ⟨a.hop, a.inf, a.peer⟩).2.2
  have x := stXover_ends.ok o.xo
  have hdx : doesXover h s1 = true := by
    unfold doesXover
    rw [b.hpm, a.hpm, b.peering, hpe, hpeer, hxo]; rfl
  obtain ⟨_, _, _, _, _, hh, hi⟩ := xover_reads_raw a b x hdx
  obtain ⟨_, _, _, _, _, _, hexp, hmac, _⟩ := x.yes hdx
  exact ⟨s5.hop, s5.inf, hh, hi, (hopValid_iff _ _ _ _ _).2 ⟨hmac, hexp⟩⟩

/-- **Expired hop**: once the path header is well formed (`stParse` succeeds) an expired current
hop is answered with SCMP ParameterProblem / PathExpired whose pointer is the offset of that hop
field — whatever else is wrong with the packet. -/
theorem expired_answer (cfg : Cfg) (mac : Mac) (resolve : Cfg → Hd → ResolveOut) (now : Nat)
    (ing : Ingress) (h : Hd) (pm : Hdr) (raw : Bytes) (s0 : St)
    (hp : stParse h pm raw = .ok s0) (hx : unexpired now s0.inf s0.hop = false) :
    (process cfg mac resolve now ing h pm raw).1 = .slow PP cExpired (hopOff h pm.currHF) := by
  have a := stParse_ok hp
  have bi := getInfo_some_bound a.inf
  unfold process stSegID
  simp only [hp]
  cases hu : ingressUpdates ing s0.inf s0.peering
  · simp only [Bool.false_eq_true, if_false, stValidate1_expired hx]
    rw [a.hpm]; rfl
  · simp only [a.hpm, a.buf, bi.1, if_true, wrInfo_of_le bi.2]
    -- the update touches the SegID only, which the expiry check does not read
    rw [stValidate1_expired (by exact hx)]; rfl

/-- **Invalid MAC**: if every earlier check passes and the MAC of the current hop does not
verify, the answer is SCMP ParameterProblem / InvalidHopFieldMAC pointing at that hop field. -/
theorem bad_mac_answer (cfg : Cfg) (mac : Mac) (resolve : Cfg → Hd → ResolveOut) (now : Nat)
    (ing : Ingress) (h : Hd) (pm : Hdr) (raw : Bytes) (s0 s1 : St)
    (hp : stParse h pm raw = .ok s0) (hs : stSegID h ing s0 = .ok s1)
    (hv : stValidate1 h now ing s1 = .ok s1) (ht : stTransit cfg h ing s1 = .ok s1)
    (hd : stSrcDst cfg h ing s1 = .ok s1)
    (hbad : macOk mac cfg.key (accInfo ing s0.inf s0.hop s0.peering) s0.hop = false) :
    (process cfg mac resolve now ing h pm raw).1 = .slow PP cBadMac (hopOff h pm.currHF) := by
  have a := stParse_ok hp
  have b := stSegID_ends.ok hs
  have hb : macOk mac cfg.key s1.inf s1.hop = false := by
    rw [b.inf, b.hop]; exact hbad
  unfold process
  simp only [hp, hs, hv, ht, hd, stMac_bad hb]
  rw [b.hpm, a.hpm]; rfl

/-- the second pair of checks, after the cross-over: an expired / wrongly MACed first hop of the
next segment is answered with PathExpired / InvalidHopFieldMAC pointing at *that* hop field -/
theorem xover_bad_answer (cfg : Cfg) (mac : Mac) (h : Hd) (now : Nat) (s : St) (b' : Base)
    (hop2 : Hop) (inf2 : Info)
    (hx : doesXover h s = true) (hinc : incPath (base h s.pm) = .ok b')
    (hb : h.pathOff + 4 ≤ s.buf.length)
    (hh : getHop h (setMeta h s.buf b'.pm) b'.pm.currHF = some hop2)
    (hi : getInfo h (setMeta h s.buf b'.pm) b'.pm.currINF = some inf2)
    (hbad : ¬ HopValid mac cfg.key now inf2 hop2) :
    ∃ code, (code = cExpired ∨ code = cBadMac) ∧
      (stXover cfg mac h now s) = .error (.slow PP code (hopOff h (s.pm.currHF + 1)), setMeta h s.buf b'.pm) := by
  have e := (incPath_ok hinc).1
  simp only [base] at e
  unfold stXover
  simp only [hx, if_true, hinc, wrMeta_of_le hb, readHop_eq_ok.2 hh, readInfo_eq_ok.2 hi]
  rw [hopValid_iff] at hbad
  cases he : unexpired now inf2 hop2
  · exact ⟨cExpired, Or.inl rfl, by simp [hopPtr, e]⟩
  · cases hm : macOk mac cfg.key inf2 hop2
    · exact ⟨cBadMac, Or.inr rfl, by simp [hopPtr, e]⟩
    · exact absurd ⟨hm, he⟩ hbad

/-- the valid hop field is the one `Current` names -/
theorem Current.valid {cfg mac resolve now ing h pm raw hop inf peering}
    (cur : Current h pm raw hop inf peering)
    (hacc : (process cfg mac resolve now ing h pm raw).1.accepting = true) :
    HopValid mac cfg.key now (accInfo ing inf hop peering) hop := by
  obtain ⟨hop', inf', peering', cur', hv⟩ := current_hop_valid cfg mac resolve now ing h pm raw hacc
  obtain ⟨rfl, rfl, rfl⟩ := cur.unique cur'
  exact hv

/-- an invalid or expired current hop is never forwarded or delivered (contrapositive form) -/
theorem invalid_never_forwarded (cfg : Cfg) (mac : Mac) (resolve : Cfg → Hd → ResolveOut) (now : Nat)
    (ing : Ingress) (h : Hd) (pm : Hdr) (raw : Bytes) (hop : Hop) (inf : Info) (peering : Bool)
    (cur : Current h pm raw hop inf peering)
    (hbad : ¬ HopValid mac cfg.key now (accInfo ing inf hop peering) hop) :
    (process cfg mac resolve now ing h pm raw).1.accepting = false :=
  Bool.eq_false_iff.2 fun hacc => hbad (cur.valid hacc)

/-- **peering hops.** On either hop field of a peering link traversal (`determinePeer` = true:
the last hop of the first segment or the first hop of the second, Peer flag set) the router
performs no SegID update and no cross-over: an accepted packet's peering hop field verifies
under the AS key for the SegID exactly as carried, and is unexpired. -/
theorem peering_hop_valid (cfg : Cfg) (mac : Mac) (resolve : Cfg → Hd → ResolveOut) (now : Nat)
    (ing : Ingress) (h : Hd) (pm : Hdr) (raw : Bytes) (hop : Hop) (inf : Info)
    (cur : Current h pm raw hop inf true)
    (hacc : (process cfg mac resolve now ing h pm raw).1.accepting = true) :
    HopValid mac cfg.key now inf hop ∧ ¬ Crosses cfg h pm true := by
  refine ⟨?_, fun hc => by simp [Crosses] at hc⟩
  simpa [accInfo, ingressUpdates] using cur.valid hacc

/-- the regular (non-peering) hops of a path that carries the Peer flag are treated like any
other hop: accumulator rule as usual -/
theorem peering_path_regular_hop (cfg : Cfg) (mac : Mac) (resolve : Cfg → Hd → ResolveOut) (now : Nat)
    (ing : Ingress) (h : Hd) (pm : Hdr) (raw : Bytes) (hop : Hop) (inf : Info)
    (cur : Current h pm raw hop inf false) (_hpeer : inf.peer = true)
    (hacc : (process cfg mac resolve now ing h pm raw).1.accepting = true) :
    HopValid mac cfg.key now (accInfo ing inf hop false) hop :=
  cur.valid hacc

/-- **delivery.** A packet is delivered to `(kind, host, port)` only if — besides the valid,
unexpired hop field — its destination is the local AS, it came from another AS at its last hop,
and the destination resolution (`resolveLocalDst`, property C11) returned exactly that
address. -/
theorem deliver_resolution (cfg : Cfg) (mac : Mac) (resolve : Cfg → Hd → ResolveOut) (now : Nat)
    (ing : Ingress) (h : Hd) (pm : Hdr) (raw : Bytes) (k : Nat) (host : Bytes) (port : Nat)
    (hd : (process cfg mac resolve now ing h pm raw).1 = .deliver k host port) :
    h.dstIA = cfg.localIA ∧ resolve cfg h = .ok k host port ∧ ing.ifID ≠ 0 ∧
    isLastHop (base h pm) = true := by
  have hacc : (process cfg mac resolve now ing h pm raw).1.accepting = true := by rw [hd]; rfl
  obtain ⟨s0, s1, p, ⟨hdst, e⟩ | ⟨_, s5, l, o⟩⟩ := process_accepting_cases hacc
  · have c := (stSrcDst_ends.ok p.srcdst).2
    rw [e] at hd
    have hres : resolve cfg h = .ok k host port := by
      unfold inbound at hd
      cases hr : resolve cfg h <;> simp [hr] at hd
      obtain ⟨h1, h2, h3⟩ := hd
      subst h1 h2 h3; rfl
    have hext : ing.ifID ≠ 0 := fun h0 => c.intDst h0 hdst
    have hl := (c.extDst hext).mpr hdst
    rw [(stSegID_ends.ok p.segid).hpm, (stParse_ok p.parse).hpm] at hl
    exact ⟨hdst, hres, hext, hl⟩
  · exact nomatch o.disp.symm.trans hd

/-- **C01 on raw packets**: whatever bytes arrive, on whatever link, under whatever
configuration and key: accepted ⇒ the packet decodes to a SCION-path packet whose current hop
field (and, at an effective cross-over, the next segment's first hop field) is valid and
unexpired. -/
theorem forward_or_deliver_mac_valid (cfg : Cfg) (mac : Mac) (resolve : Cfg → Hd → ResolveOut)
    (now : Nat) (ing : Ingress) (raw : Bytes)
    (hacc : (processPkt cfg mac resolve now ing raw).1.accepting = true) :
    ∃ h pm hop inf peering, parse raw = .ok h pm ∧ Current h pm raw hop inf peering ∧
      HopValid mac cfg.key now (accInfo ing inf hop peering) hop ∧
      (Crosses cfg h pm peering →
        ∃ hop2 inf2, getHop h raw (pm.currHF + 1) = some hop2 ∧
          getInfo h raw (infIdx pm (pm.currHF + 1)) = some inf2 ∧
          HopValid mac cfg.key now inf2 hop2) := by
  obtain ⟨h, pm, hp, e⟩ := processPkt_accepting_inv hacc
  rw [e] at hacc
  obtain ⟨hop, inf, peering, cur, hv⟩ := current_hop_valid cfg mac resolve now ing h pm raw hacc
  exact ⟨h, pm, hop, inf, peering, hp, cur, hv,
    fun hx => xover_next_hop_valid cfg mac resolve now ing h pm raw hacc hop inf peering cur hx⟩

/-! ### non-vacuity: concrete packets meet the hypotheses (toy MAC = identity on the input) -/

/-- a first-hop packet from a local host is forwarded … -/
example : (processPkt Ex.cfg Ex.idMac resolveLocal Ex.now ⟨0, 0⟩ Ex.firstHop).1 = .forward 2 :=
  congrArg Prod.fst Ex.firstHop_out

/-- … a packet at its last hop is delivered … -/
example : (processPkt Ex.cfg Ex.idMac resolveLocal Ex.now ⟨1, 10⟩ Ex.lastHop).1.accepting = true := by
  rw [Ex.lastHop_out]; rfl

/-- … and a packet is forwarded across an effective cross-over (`Crosses` holds of it) -/
example : (processPkt Ex.cfg Ex.idMac resolveLocal Ex.now ⟨1, 10⟩ Ex.xover).1 = .forward 2 ∧
    ∃ h pm, parse Ex.xover = .ok h pm ∧ Crosses Ex.cfg h pm false := by
  refine ⟨by rw [Ex.xover_out], _, _, rfl, by decide, by decide, rfl⟩

/-- the same packet with one MAC bit flipped is answered with InvalidHopFieldMAC at hop 1 -/
example : (processPkt Ex.cfg Ex.idMac resolveLocal Ex.now ⟨1, 10⟩ (Ex.xover.set 76 1)).1 =
    .slow PP cBadMac 68 := by decide

/-! ### T3: the model was written against the code's current structure -/

/-- the stages of the model are the checks `process` calls, in the same order -/
theorem stage_order : Scion.Gen.Router1.processCalls = Router.processCallOrder := rfl

/-- the SCMP requests of the two checks of C01 -/
theorem scmp_requests :
    Scion.Gen.Router1.req_validateHopExpiry =
      ["slowPathType(slayers.SCMPTypeParameterProblem)|slayers.SCMPCodePathExpired|p.currentHopPointer()"] ∧
    Scion.Gen.Router1.req_verifyCurrentMAC =
      ["slowPathType(slayers.SCMPTypeParameterProblem)|slayers.SCMPCodeInvalidHopFieldMAC|p.currentHopPointer()"] ∧
    Scion.Gen.Router1.expr_currentHopPointer =
      "uint16(slayers.CmnHdrLen + p.scionLayer.AddrHdrLen() + p.epicHdrLen() + scion.MetaLen + path.InfoLen*p.path.NumINF + path.HopLen*int(p.path.PathMeta.CurrHF))" ∧
    Scion.Gen.Router1.expr_currentInfoPointer =
      "uint16(slayers.CmnHdrLen + p.scionLayer.AddrHdrLen() + p.epicHdrLen() + scion.MetaLen + path.InfoLen*int(p.path.PathMeta.CurrINF))" :=
  ⟨rfl, rfl, rfl, rfl⟩

/-- `epicHdrLen()` as the model has it: `epic.MetadataLen` iff the path type is EPIC, else 0 -/
theorem epic_hdr_len_fact :
    Scion.Gen.Router1.conds_epicHdrLen = ["p.scionLayer.PathType == epic.PathType"] ∧
    Scion.Gen.Router1.rets_epicHdrLen = ["epic.MetadataLen", "0"] ∧
    Router.epicPathType = Scion.Gen.Router1.EpicPathType ∧
    Router.scionPathType = Scion.Gen.Router1.ScionPathType ∧
    Router.epicHdrLen Router.epicPathType = Scion.Gen.Router1.EpicMetadataLen :=
  ⟨rfl, rfl, rfl, rfl, rfl⟩

/-- for the SCION path type — the only one this model accepts — the EPIC term of the pointer
expressions is 0 -/
theorem epic_term_zero : Router.epicHdrLen Router.scionPathType = 0 := rfl

/-- the model decodes a packet only if its path type byte is the SCION path type -/
theorem parse_ok_scion_path (raw : Bytes) (h : Hd) (pm : Hdr) (e : parse raw = .ok h pm) :
    ∃ pt, raw[8]? = some pt ∧ pt.toNat = Router.scionPathType := by
  have d := parse_ok_iff.1 e
  have h8 : 8 < raw.length := by have := d.len12; omega
  refine ⟨raw[8], List.getElem?_eq_getElem h8, ?_⟩
  have := d.ptype
  simpa [u8, scionPathType, List.getD_eq_getElem?_getD, List.getElem?_eq_getElem h8] using this

/-- the constants of the model are the code's -/
theorem gen_consts :
    Router.PP = Scion.Gen.Router1.SCMPTypeParameterProblem ∧
    Router.cBadMac = Scion.Gen.Router1.SCMPCodeInvalidHopFieldMAC ∧
    Router.cExpired = Scion.Gen.Router1.SCMPCodePathExpired ∧
    Router.CmnHdrLen = Scion.Gen.Router1.CmnHdrLen ∧ Router.MetaLen = Scion.Gen.Router1.MetaLen ∧
    Router.InfoLen = Scion.Gen.Router1.InfoLen ∧ Router.HopLen = Scion.Gen.Router1.HopLen ∧
    Scion.Gen.Router1.MacLen = 6 ∧ Scion.Gen.Router1.MACBufferSize = 16 := by decide

/-- the SCMP pointer of both answers is the byte offset of the offending hop field:
`CmnHdrLen + AddrHdrLen + epicHdrLen + MetaLen + InfoLen·NumINF + HopLen·idx`, the EPIC term being
0 for the SCION path type (`h.pathOff = CmnHdrLen + AddrHdrLen`) -/
theorem pointer_formula (h : Hd) (idx : Nat) :
    hopOff h idx = h.pathOff + Router.epicHdrLen Router.scionPathType + Scion.Gen.Router1.MetaLen +
      Scion.Gen.Router1.InfoLen * h.numINF + Scion.Gen.Router1.HopLen * idx := by
  unfold hopOff epicHdrLen scionPathType epicPathType
  rfl

end Scion.C01
