import Scion.Model.PktclsSyntax
/-! Helper lemmas for C43: the token-level parser inverts the printer on well-formed trees, and
everything the parser returns is well-formed. -/
namespace Scion.Proofs.Pktcls
open Scion.Pktcls

/-! ### fuel measure -/

mutual
def sz : Cond → Nat
  | .all cs => 1 + szl cs
  | .any cs => 1 + szl cs
  | .not c => 1 + sz c
  | _ => 1
def szl : List Cond → Nat
  | [] => 0
  | c :: cs => 1 + max (sz c) (szl cs)
end

/-! ### leaves -/

theorem hexTok_value : ∀ v, v < 256 → hexTokValue (hexTok v) = some v := by
  decide +kernel

theorem proto_table_wf : ∀ e ∈ protoTable, lettersOnly e.2 = true → wfProto e.1 = true := by
  decide +kernel

theorem parseNet_octets (n : Net) (h : n.wf = true) :
    parseNet (n.bits / 2^24 % 256) (n.bits / 2^16 % 256) (n.bits / 2^8 % 256) (n.bits % 256) n.len
      = some n := by
  obtain ⟨bits, len⟩ := n
  simp only [Net.wf, Bool.and_eq_true, decide_eq_true_eq, beq_iff_eq] at h
  obtain ⟨⟨h1, h2⟩, h3⟩ := h
  unfold parseNet
  have hv : bits / 2^24 % 256 * 2^24 + bits / 2^16 % 256 * 2^16 + bits / 2^8 % 256 * 2^8 + bits % 256
      = bits := by omega
  have m : ∀ x, x % 256 ≤ 255 := fun x => Nat.le_of_lt_succ (Nat.mod_lt x (by decide))
  rw [if_pos ⟨m _, m _, m _, m _, h1⟩]
  simp only [hv]
  rw [Nat.div_mul_cancel (Nat.dvd_of_mod_eq_zero h3)]

theorem parseNet_wf (a b c d m : Nat) (n : Net) (h : parseNet a b c d m = some n) :
    n.wf = true := by
  unfold parseNet at h
  split at h
  · rename_i hr
    simp only [Option.some.injEq] at h
    subst h
    simp only [Net.wf, Bool.and_eq_true, decide_eq_true_eq, beq_iff_eq]
    refine ⟨⟨hr.2.2.2.2, ?_⟩, Nat.mul_mod_left _ _⟩
    have hv : a * 2^24 + b * 2^16 + c * 2^8 + d < 2^32 := by omega
    exact Nat.lt_of_le_of_lt (Nat.div_mul_le_self _ _) hv
  · cases h

/-! ### induction over trees -/

def Leaf : Cond → Prop
  | .all _ | .any _ | .not _ => False
  | _ => True

/-- induction over trees and argument lists together, the nine leaf forms as one case -/
theorem cond_induction {P : Cond → Prop} {Q : List Cond → Prop}
    (all : ∀ cs, Q cs → P (.all cs)) (any : ∀ cs, Q cs → P (.any cs))
    (not : ∀ c, P c → P (.not c)) (leaf : ∀ e, Leaf e → P e)
    (nil : Q []) (cons : ∀ c cs, P c → Q cs → Q (c :: cs)) : (∀ e, P e) ∧ ∀ cs, Q cs :=
  have hP : ∀ e, P e :=
    Cond.rec (motive_1 := P) (motive_2 := Q) all any not (fun _ => leaf _ trivial)
      (fun _ => leaf _ trivial) (fun _ => leaf _ trivial) (fun _ => leaf _ trivial)
      (fun _ => leaf _ trivial) (fun _ => leaf _ trivial) (fun _ _ => leaf _ trivial)
      (fun _ _ => leaf _ trivial) (fun _ => leaf _ trivial) nil cons
  ⟨hP, fun cs => List.rec nil (fun c _ ih => cons c _ (hP c) ih) cs⟩

theorem sz_leaf (e : Cond) (hl : Leaf e) : sz e = 1 := by
  cases e <;> first | exact hl.elim | rfl

theorem printArgs_single (c : Cond) : printArgs [c] = print c ++ [.rpar] := by
  rw [printArgs]

theorem printArgs_cons_cons (c c' : Cond) (cs : List Cond) :
    printArgs (c :: c' :: cs) = print c ++ .comma :: printArgs (c' :: cs) := by
  rw [printArgs]

/-! ### the parser inverts the printer -/

theorem pLeaf_print_bool (b : Bool) (rest : List Tok) :
    pLeaf (print (.bool b) ++ rest) = some (.bool b, rest) := by
  cases b <;> rfl

theorem pLeaf_print (e : Cond) (hl : Leaf e) (h : e.wf = true) (rest : List Tok) :
    pLeaf (print e ++ rest) = some (e, rest) := by
  cases e with
  | all _ | any _ | not _ => exact hl.elim
  | bool b => exact pLeaf_print_bool b rest
  | src n | dst n =>
    simp only [Cond.wf] at h
    simp only [print, List.cons_append, List.nil_append, pLeaf, parseNet_octets n h]
  | dscp v | tos v =>
    simp only [Cond.wf, decide_eq_true_eq] at h
    simp only [print, List.cons_append, List.nil_append, pLeaf, hexTok_value v h]
  | proto p =>
    simp only [Cond.wf, wfProto, beq_iff_eq] at h
    simp only [print, List.cons_append, List.nil_append, pLeaf, h]
  | sport lo hi | dport lo hi =>
    simp only [Cond.wf, Bool.and_eq_true, decide_eq_true_eq] at h
    simp only [print, List.cons_append, List.nil_append, pLeaf, h, and_self, if_true]
  | cls n => rfl

/-- the text of a leaf does not begin with `all`, `any` or `not` -/
theorem pCond_leaf (e : Cond) (hl : Leaf e) (f : Nat) (rest : List Tok) :
    pCond (f + 1) (print e ++ rest) = pLeaf (print e ++ rest) := by
  cases e <;> first | exact hl.elim | rfl

theorem print_parse :
    (∀ e : Cond, e.wf = true → ∀ (f : Nat) (rest : List Tok), sz e ≤ f →
      pCond f (print e ++ rest) = some (e, rest)) ∧
    ∀ cs : List Cond, cs ≠ [] → wfAll cs = true → ∀ (f : Nat) (rest : List Tok), szl cs ≤ f →
      pArgs f (printArgs cs ++ rest) = some (cs, rest) := by
  refine cond_induction ?all ?any ?not ?leaf ?nil ?cons
  case all | any =>
    intro cs ih h f rest hf
    simp only [Cond.wf, Bool.and_eq_true, Bool.not_eq_true', List.isEmpty_eq_false_iff] at h
    simp only [sz] at hf
    obtain ⟨f, rfl⟩ : ∃ g, f = g + 1 := ⟨f - 1, by omega⟩
    simp only [print, List.cons_append, pCond]
    rw [ih h.1 h.2 f rest (by omega)]
  case not =>
    intro c ih h f rest hf
    simp only [Cond.wf] at h
    simp only [sz] at hf
    obtain ⟨f, rfl⟩ : ∃ g, f = g + 1 := ⟨f - 1, by omega⟩
    simp only [print, List.cons_append, List.append_assoc, List.nil_append, pCond]
    rw [ih h f (.rpar :: rest) (by omega)]
  case leaf =>
    intro e hl h f rest hf
    rw [sz_leaf e hl] at hf
    obtain ⟨f, rfl⟩ : ∃ g, f = g + 1 := ⟨f - 1, by omega⟩
    rw [pCond_leaf e hl, pLeaf_print e hl h]
  case nil => exact fun h => absurd rfl h
  case cons =>
    intro c cs ihc ihcs _ h f rest hf
    simp only [wfAll, Bool.and_eq_true] at h
    simp only [szl] at hf
    obtain ⟨f, rfl⟩ : ∃ g, f = g + 1 := ⟨f - 1, by omega⟩
    cases cs with
    | nil =>
      rw [printArgs_single]
      simp only [List.append_assoc, List.cons_append, List.nil_append, pArgs]
      rw [ihc h.1 f (Tok.rpar :: rest) (by omega)]
    | cons c' cs' =>
      rw [printArgs_cons_cons]
      simp only [List.append_assoc, List.cons_append, pArgs]
      rw [ihc h.1 f (Tok.comma :: (printArgs (c' :: cs') ++ rest)) (by omega)]
      simp only
      rw [ihcs (by simp) h.2 f rest (by omega)]

theorem pArgs_print : (cs : List Cond) → cs ≠ [] → wfAll cs = true →
    ∀ (f : Nat) (rest : List Tok), szl cs ≤ f → pArgs f (printArgs cs ++ rest) = some (cs, rest) :=
  print_parse.2

/-! ### fuel adequacy -/

theorem sz_le_length :
    (∀ e : Cond, sz e ≤ (print e).length) ∧ ∀ cs : List Cond, szl cs ≤ (printArgs cs).length := by
  refine cond_induction ?all ?any ?not ?leaf ?nil ?cons
  case all | any =>
    intro cs ih
    simp only [sz, print, List.length_cons]; omega
  case not =>
    intro c ih
    simp only [sz, print, List.length_cons, List.length_append, List.length_nil]; omega
  case leaf =>
    intro e hl
    rw [sz_leaf e hl]
    cases e <;> first | exact hl.elim | exact Nat.succ_pos _
  case nil => exact Nat.zero_le _
  case cons =>
    intro c cs ihc ihcs
    cases cs with
    | nil =>
      rw [printArgs_single]
      simp only [szl, List.length_append, List.length_cons, List.length_nil]; omega
    | cons c' cs' =>
      rw [printArgs_cons_cons, szl]
      simp only [List.length_append, List.length_cons]
      omega

theorem szl_le_printArgs : (cs : List Cond) → szl cs ≤ (printArgs cs).length :=
  sz_le_length.2

theorem parse_print (e : Cond) (h : e.wf = true) : parse (print e) = some e := by
  unfold parse
  have := print_parse.1 e h ((print e).length + 1) [] (by have := sz_le_length.1 e; omega)
  rw [List.append_nil] at this
  rw [this]

/-! ### everything the parser returns is well-formed -/

theorem protoNum_wf (s : List Char) (p : Nat) (h : protoNum s = some p) : wfProto p = true := by
  unfold protoNum at h
  split at h
  · rename_i e he
    simp only [Option.some.injEq] at h
    subst h
    have hm := List.mem_of_find?_eq_some he
    have hp := List.find?_some he
    simp only [Bool.and_eq_true] at hp
    exact proto_table_wf e hm hp.1
  · cases h

theorem hexTokValue_lt (t : Tok) (v : Nat) (h : hexTokValue t = some v) : v < 256 := by
  unfold hexTokValue at h
  split at h
  -- `DIGITS` and `HEX_DIGITS`: the guard of the `if`
  iterate 2
    · split at h
      · cases h; assumption
      · cases h
  · cases h

theorem pLeaf_wf (ts : List Tok) (e : Cond) (r : List Tok) (h : pLeaf ts = some (e, r)) :
    e.wf = true := by
  have ports : ∀ lo hi, lo < 65536 ∧ hi < 65536 →
      (decide (lo < 65536) && decide (hi < 65536)) = true := by
    intro lo hi hc
    simp only [Bool.and_eq_true, decide_eq_true_eq]; exact hc
  unfold pLeaf at h
  split at h
  -- `BOOL=true`, `BOOL=false`
  iterate 2
    · cases h; rfl
  -- `src=`, `dst=`: what `parseNet` returns
  iterate 2
    · split at h <;> cases h
      exact parseNet_wf _ _ _ _ _ _ ‹_›
  -- `dscp=0x`, `tos=0x`: what `hexTokValue` returns
  iterate 2
    · split at h <;> cases h
      exact decide_eq_true (hexTokValue_lt _ _ ‹_›)
  -- `protocol=`: what `protoNum` returns
  · split at h <;> cases h
    exact protoNum_wf _ _ ‹_›
  -- `srcport=`, `dstport=`, each as a range and as a single port: the guard of the `if`
  iterate 2
    · split at h <;> cases h
      exact ports _ _ ‹_›
    · split at h <;> cases h
      exact ports _ _ ⟨‹_›, ‹_›⟩
  -- `cls=`, and everything else
  · cases h; rfl
  · cases h

theorem parse_sound_aux (f : Nat) :
    (∀ ts e r, pCond f ts = some (e, r) → e.wf = true) ∧
    (∀ ts cs r, pArgs f ts = some (cs, r) → cs ≠ [] ∧ wfAll cs = true) := by
  induction f with
  | zero => exact ⟨by intro ts e r h; simp [pCond] at h, by intro ts cs r h; simp [pArgs] at h⟩
  | succ f ih =>
    obtain ⟨ihc, iha⟩ := ih
    constructor
    · intro ts e r h
      unfold pCond at h
      split at h
      -- `all(` and `any(`: the arguments are well-formed and there is at least one
      iterate 2
        · split at h
          · rename_i cs r' hh
            cases h
            simp only [Cond.wf, Bool.and_eq_true, Bool.not_eq_true', List.isEmpty_eq_false_iff]
            exact iha _ _ _ hh
          · cases h
      · split at h
        · rename_i c r' hh
          cases h
          simp only [Cond.wf]
          exact ihc _ _ _ hh
        · cases h
      · exact pLeaf_wf _ _ _ h
    · intro ts cs r h
      unfold pArgs at h
      split at h
      · rename_i c r' hh
        cases h
        exact ⟨by simp, by simp only [wfAll, Bool.and_true]; exact ihc _ _ _ hh⟩
      · rename_i c r' hh
        split at h
        · rename_i cs' r'' hh'
          cases h
          obtain ⟨_, h2⟩ := iha _ _ _ hh'
          exact ⟨by simp, by simp only [wfAll, Bool.and_eq_true]; exact ⟨ihc _ _ _ hh, h2⟩⟩
        · cases h
      · cases h

/-! ### evaluation is the boolean fold -/

theorem evalAll_eq (cs : List Cond) (p : Pkt) : evalAll cs p = cs.all (fun c => eval c p) := by
  induction cs with
  | nil => simp [evalAll]
  | cons c cs ih => simp [evalAll, ih]

theorem evalAny_eq (cs : List Cond) (p : Pkt) : evalAny cs p = cs.any (fun c => eval c p) := by
  induction cs with
  | nil => simp [evalAny]
  | cons c cs ih => simp [evalAny, ih]

end Scion.Proofs.Pktcls
