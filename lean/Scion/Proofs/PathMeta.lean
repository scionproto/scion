import Scion.Model.PathMeta
import Scion.Proofs.Bits
/-! The path meta header. What `infIdx` and `incPath` look at and establish; `baseDecode` in closed form;
the 32-bit meta line as a packed word of bit fields, and from that what each of its four bytes holds;
`Decoded.Reverse` on pointers in range, and its mirror law. -/
namespace Scion.PathMeta
open Scion.Util

theorem eq_infIdx_iff {m : Hdr} {hf i : Nat} :
    i = infIdx m hf ↔ (hf < m.s0 ∧ i = 0) ∨ (m.s0 ≤ hf ∧ hf < m.s0 + m.s1 ∧ i = 1) ∨
      (m.s0 + m.s1 ≤ hf ∧ i = 2) := by
  unfold infIdx; split
  · omega
  · split <;> omega

theorem incPath_ok {b b' : Base} (e : incPath b = .ok b') :
    b'.pm.currHF = b.pm.currHF + 1 ∧ b'.pm.currINF = infIdx b.pm (b.pm.currHF + 1) ∧
    b'.pm.s0 = b.pm.s0 ∧ b'.pm.s1 = b.pm.s1 ∧ b'.pm.s2 = b.pm.s2 ∧ b.pm.currHF + 1 < b.numHops := by
  unfold incPath at e
  split at e
  · cases e
  · split at e
    · cases e
    · rename_i hc
      cases e
      exact ⟨rfl, rfl, rfl, rfl, rfl, Nat.not_le.mp hc⟩

theorem infIdx_le_two (m : Hdr) (x : Nat) : infIdx m x ≤ 2 := by
  unfold infIdx; split <;> (try split) <;> omega

theorem incPath_inRange {b b' : Base} (e : incPath b = .ok b') (hr : b.pm.InRange) (hn : b.numHops ≤ 64) :
    b'.pm.InRange := by
  obtain ⟨f1, f2, f3, f4, f5, f6⟩ := incPath_ok e
  have := infIdx_le_two b.pm (b.pm.currHF + 1)
  obtain ⟨_, _, r3, r4, r5⟩ := hr
  exact ⟨by omega, by omega, by omega, by omega, by omega⟩

theorem infIdx_congr {m m' : Hdr} (h0 : m'.s0 = m.s0) (h1 : m'.s1 = m.s1) (x : Nat) :
    infIdx m' x = infIdx m x := by
  unfold infIdx; rw [h0, h1]

end Scion.PathMeta

/-! What `baseDecode` accepts and returns, in closed form (stated for C19, used wherever a decoded
path is reasoned about). -/
namespace Scion.C19
open Scion.PathMeta

/-- the shapes the statement allows: contiguous non-empty segments, at most 64 hops -/
def Shape (m : Hdr) : Prop :=
  (m.s0 = 0 → m.s1 = 0) ∧ (m.s1 = 0 → m.s2 = 0) ∧ m.s0 + m.s1 + m.s2 ≤ 64

def nonEmptySegs (m : Hdr) : Nat :=
  (if m.s0 > 0 then 1 else 0) + (if m.s1 > 0 then 1 else 0) + (if m.s2 > 0 then 1 else 0)

/-- the four shapes `Base.DecodeFromBytes` accepts: the non-empty segments come first -/
theorem nonEmptySegs_cases (m : Hdr) (hs : Shape m) :
    (m.s0 = 0 ∧ m.s1 = 0 ∧ m.s2 = 0 ∧ nonEmptySegs m = 0) ∨
    (0 < m.s0 ∧ m.s1 = 0 ∧ m.s2 = 0 ∧ nonEmptySegs m = 1) ∨
    (0 < m.s0 ∧ 0 < m.s1 ∧ m.s2 = 0 ∧ nonEmptySegs m = 2) ∨
    (0 < m.s0 ∧ 0 < m.s1 ∧ 0 < m.s2 ∧ nonEmptySegs m = 3) := by
  obtain ⟨h1, h2, _⟩ := hs
  unfold nonEmptySegs
  rcases Nat.eq_zero_or_pos m.s0 with a | a
  · simp [a, h1 a, h2 (h1 a)]
  rcases Nat.eq_zero_or_pos m.s1 with b | b
  · simp [a, b, h2 b]
  rcases Nat.eq_zero_or_pos m.s2 with c | c <;> simp [a, b, c]

/-- closed form of the loop in `Base.DecodeFromBytes` -/
theorem baseDecode_closed (m : Hdr) :
    baseDecode m =
      if (m.s0 = 0 → m.s1 = 0) ∧ (m.s1 = 0 → m.s2 = 0) ∧ m.s0 + m.s1 + m.s2 ≤ 64
      then some ⟨m, nonEmptySegs m, sumHops m⟩ else none := by
  obtain ⟨ci, ch, s0, s1, s2⟩ := m
  cases s0 <;> cases s1 <;> cases s2 <;>
    simp [baseDecode, List.foldl, baseStep, segLen, maxHops, nonEmptySegs, sumHops] <;>
    (try split) <;> (try simp) <;> (try omega)

/-- decoding accepts exactly the allowed shapes … -/
theorem accept_iff (m : Hdr) : (∃ b, baseDecode m = some b) ↔ Shape m := by
  rw [baseDecode_closed]
  unfold Shape
  split <;> simp_all

/-- … and then reports the number of non-empty segments and the total number of hops -/
theorem accept_values (m : Hdr) (b : Base) (h : baseDecode m = some b) :
    b.pm = m ∧ b.numINF = nonEmptySegs m ∧ b.numHops = sumHops m := by
  rw [baseDecode_closed] at h
  split at h
  · cases h; exact ⟨rfl, rfl, rfl⟩
  · cases h

end Scion.C19

namespace Scion.PathMeta
open Scion.Util Scion.C19

theorem baseDecode_congr {m m' : Hdr} {b : Base} (e : baseDecode m = some b)
    (h0 : m'.s0 = m.s0) (h1 : m'.s1 = m.s1) (h2 : m'.s2 = m.s2) :
    baseDecode m' = some ⟨m', b.numINF, b.numHops⟩ := by
  obtain ⟨_, hn, hh⟩ := accept_values m b e
  have hs := (accept_iff m).1 ⟨b, e⟩
  rw [baseDecode_closed, hn, hh, nonEmptySegs, nonEmptySegs, sumHops, sumHops, h0, h1, h2]
  exact if_pos hs

theorem baseDecode_numHops_le {m : Hdr} {b : Base} (e : baseDecode m = some b) : b.numHops ≤ 64 :=
  (accept_values m b e).2.2 ▸ ((accept_iff m).1 ⟨b, e⟩).2.2

theorem infIdx_lt_numINF {m : Hdr} {b : Base} (e : baseDecode m = some b) (c : Nat)
    (hc : c < b.numHops) : infIdx m c < b.numINF := by
  obtain ⟨_, hn, hh⟩ := accept_values m b e
  have := nonEmptySegs_cases m ((accept_iff m).1 ⟨b, e⟩)
  have := eq_infIdx_iff.1 (rfl : infIdx m c = infIdx m c)
  unfold sumHops at hh
  omega

/-- the meta line as bit fields: SegLen[2], SegLen[1], SegLen[0], six reserved bits, CurrHF, CurrINF -/
theorem encode_eq_pack (m : Hdr) :
    encode m = pack [(6, m.s2), (6, m.s1), (6, m.s0), (6, 0), (6, m.currHF), (2, m.currINF)] := by
  simp only [encode, pack]
  omega

theorem decode_eq_bits (w : Nat) :
    decode w = ⟨bits 30 2 w, bits 24 6 w, bits 12 6 w, bits 6 6 w, bits 0 6 w⟩ := by
  simp [decode, bits]

theorem decode_encode (m : Hdr) (h : m.InRange) : decode (encode m) = m := by
  obtain ⟨h1, h2, h3, h4, h5⟩ := h
  rw [decode_eq_bits, encode_eq_pack]
  simp only [bits_pack_lo, bits_pack_hi, Nat.reduceAdd, Nat.reduceSub, Nat.reduceLeDiff, Nat.le_refl]
  simp [bits, Nat.mod_eq_of_lt, *]

theorem decode_inRange (w : Nat) : (decode w).InRange := by
  simp only [decode, Hdr.InRange]
  omega

theorem encode_lt (m : Hdr) : encode m < 2^32 :=
  encode_eq_pack m ▸ pack_lt _

/-- byte 0 holds the pointers; the reserved bits and the top of SegLen[0] make byte 1; the segment lengths
straddle bytes 1–3 -/
theorem natBE_encode (m : Hdr) : natBE 4 (encode m) =
    [.ofNat (m.currHF % 64 + 64 * (m.currINF % 4)), .ofNat (m.s0 / 16 % 4),
     .ofNat (m.s1 / 4 % 16 + 16 * (m.s0 % 16)), .ofNat (m.s2 % 64 + 64 * (m.s1 % 4))] := by
  simp only [natBE, byte_eq_bits, encode_eq_pack, bits_pack_lo, bits_pack_hi, bits_pack_mid, Nat.reduceAdd,
    Nat.reduceSub, Nat.reduceLeDiff, Nat.reduceLT, Nat.reduceMul, Nat.le_refl]
  simp only [bits, pack, Nat.reducePow, Nat.pow_zero, Nat.div_one, Nat.zero_mod, Nat.mul_zero, Nat.add_zero,
    Nat.mod_mod]

/-- `MetaHdr.SerializeTo` of a header whose segment lengths are those read from the line `m0 m1 m2 m3`: only the
first byte carries the pointers, the reserved bits of the second byte come out as zero, the rest is as received -/
theorem natBE_encode_of_segs (m0 m1 m2 m3 : UInt8) (pm' : Hdr)
    (h0 : pm'.s0 = (decode (beNat [m0, m1, m2, m3])).s0)
    (h1 : pm'.s1 = (decode (beNat [m0, m1, m2, m3])).s1)
    (h2 : pm'.s2 = (decode (beNat [m0, m1, m2, m3])).s2) :
    natBE 4 (encode pm') =
      [UInt8.ofNat (pm'.currINF % 4 * 64 + pm'.currHF % 64), UInt8.ofNat (m1.toNat % 4), m2, m3] := by
  have := m2.toNat_lt; have := m3.toNat_lt
  simp only [natBE, byte_eq_bits, encode_eq_pack, h0, h1, h2, decode_eq_bits, beNat_eq_pack, List.reverse_cons,
    List.reverse_nil, List.nil_append, List.cons_append, List.map_cons, List.map_nil,
    bits_pack_lo, bits_pack_hi, bits_pack_mid, bits_bits, Nat.reduceAdd,
    Nat.reduceSub, Nat.reduceLeDiff, Nat.reduceLT, Nat.reduceMul, Nat.le_refl]
  simp only [bits, pack, Nat.mod_mod, Nat.reducePow, Nat.pow_zero, Nat.div_one, Nat.zero_mod, Nat.mul_zero,
    Nat.add_zero, List.cons.injEq, and_true, true_and]
  exact ⟨congrArg _ (by omega), ofNat_eq (by omega), ofNat_eq (by omega)⟩

/-! ### `Decoded.Reverse` -/

/-- `Decoded.Reverse` without the `uint8` wrapping: the first `NumINF` segment lengths in reverse order,
both pointers mirrored -/
def mirror (b : Base) : Base :=
  let m := b.pm
  let m' : Hdr :=
    if b.numINF = 2 then { m with s0 := m.s1, s1 := m.s0 }
    else if b.numINF ≥ 3 then { m with s0 := m.s2, s2 := m.s0 }
    else m
  { b with pm := { m' with currINF := b.numINF - 1 - m.currINF, currHF := b.numHops - 1 - m.currHF } }

/-- on pointers in range the `uint8` subtractions of `Decoded.Reverse` do not wrap -/
theorem reverseMeta_eq {b : Base} (hi : b.pm.currINF < b.numINF) (hc : b.pm.currHF < b.numHops)
    (hk : b.numINF ≤ 256) (hn : b.numHops ≤ 256) : reverseMeta b = some (mirror b) := by
  rw [reverseMeta, if_neg (by omega), mirror]
  dsimp only
  rw [show (b.numINF + 256 - b.pm.currINF % 256 - 1) % 256 = b.numINF - 1 - b.pm.currINF by omega,
    show (b.numHops + 256 - b.pm.currHF % 256 - 1) % 256 = b.numHops - 1 - b.pm.currHF by omega]

theorem mirror_mirror (b : Base) (hi : b.pm.currINF < b.numINF) (hc : b.pm.currHF < b.numHops) :
    mirror (mirror b) = b := by
  obtain ⟨⟨ci, ch, s0, s1, s2⟩, ninf, nh⟩ := b
  dsimp only at hi hc
  simp only [mirror, show ninf - 1 - (ninf - 1 - ci) = ci by omega, show nh - 1 - (nh - 1 - ch) = ch by omega]
  split
  · rfl
  · split <;> rfl

section
variable {b : Base} (hs : Shape b.pm) (hk : b.numINF = nonEmptySegs b.pm)
include hs hk

/-- reversing lists the non-empty segments backwards -/
theorem mirror_shape : Shape (mirror b).pm ∧ nonEmptySegs (mirror b).pm = b.numINF ∧
    sumHops (mirror b).pm = sumHops b.pm := by
  have k3 := hs.2.2
  rcases nonEmptySegs_cases b.pm hs with ⟨a, b, c, e⟩ | ⟨a, b, c, e⟩ | ⟨a, b, c, e⟩ | ⟨a, b, c, e⟩ <;>
    simp [mirror, Shape, nonEmptySegs, sumHops, *] <;> omega

/-- the mirror law: with `k` segments and `n` hops, hop `h` of segment `i` becomes hop `n-1-h`, which lies in
segment `k-1-i` -/
theorem infIdx_mirror {h : Nat} (hh : h < sumHops b.pm) :
    infIdx (mirror b).pm (sumHops b.pm - 1 - h) = b.numINF - 1 - infIdx b.pm h := by
  have p := eq_infIdx_iff.1 (rfl : infIdx b.pm h = infIdx b.pm h)
  refine (eq_infIdx_iff.2 ?_).symm
  have c := nonEmptySegs_cases b.pm hs
  rw [← hk] at c
  clear hs hk
  unfold sumHops at *
  generalize infIdx b.pm h = i at *
  obtain ⟨⟨ci, ch, s0, s1, s2⟩, k, n⟩ := b
  dsimp only at *
  -- the segment lengths are listed backwards, `(s0)`, `(s1, s0)`, `(s2, s1, s0)`: the same arithmetic three times
  rcases c with ⟨a, b, c, rfl⟩ | ⟨a, b, c, rfl⟩ | ⟨a, b, c, rfl⟩ | ⟨a, b, c, rfl⟩ <;>
    simp only [mirror, Nat.reduceEqDiff, Nat.reduceLeDiff, if_true, if_false, ge_iff_le] <;> omega

end

end Scion.PathMeta
