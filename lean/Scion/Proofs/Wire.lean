import Scion.Proofs.WireBasics
import Scion.Proofs.PathMeta
import Scion.Proofs.ListShape
/-! Lemmas about the SCION header codec `Scion.Wire`: reserved bits and the round trip of every piece
(info and hop fields, paths, common and address header). -/
namespace Scion.Wire
open Scion.Util

/-! ### reserved bits -/

theorem keepLow_zero (b : UInt8) : keepLow 0 b = 0 := by
  apply UInt8.toNat_inj.mp; simp [keepLow]; omega

theorem keepLow_two (b : UInt8) : keepLow 2 b = UInt8.ofNat (b.toNat % 4) := rfl

theorem clr_append_right (x y : Bytes) (p k : Nat) : clr (x.length + p) k (x ++ y) = x ++ clr p k y := by
  induction x with
  | nil => simp
  | cons a r ih =>
    simp only [List.length_cons, List.cons_append, Nat.add_right_comm _ 1 p, clr, ih]

theorem clr_append_left (x y : Bytes) (p k : Nat) (h : p < x.length) :
    clr p k (x ++ y) = clr p k x ++ y := by
  induction x generalizing p with
  | nil => simp at h
  | cons a r ih =>
    cases p with
    | zero => simp [clr]
    | succ q =>
      simp only [List.length_cons] at h
      simp [clr, ih q (by omega)]

theorem length_clr (p k : Nat) (l : Bytes) : (clr p k l).length = l.length := by
  induction l generalizing p with
  | nil => simp [clr]
  | cons a r ih => cases p <;> simp [clr, ih]

theorem length_clearBits (l : Bytes) (ms : List (Nat × Nat)) : (clearBits l ms).length = l.length := by
  induction ms generalizing l with
  | nil => rfl
  | cons m ms ih => obtain ⟨p, k⟩ := m; simp only [clearBits]; rw [ih, length_clr]

theorem clearBits_append_right (x y : Bytes) (ms : List (Nat × Nat)) :
    clearBits (x ++ y) (ms.map fun (p, k) => (x.length + p, k)) = x ++ clearBits y ms := by
  induction ms generalizing y with
  | nil => simp [clearBits]
  | cons m ms ih =>
    obtain ⟨p, k⟩ := m
    simp only [List.map_cons, clearBits, clr_append_right, ih]

theorem clearBits_append_left (x y : Bytes) (ms : List (Nat × Nat))
    (h : ∀ m ∈ ms, m.1 < x.length) : clearBits (x ++ y) ms = clearBits x ms ++ y := by
  induction ms generalizing x with
  | nil => simp [clearBits]
  | cons m ms ih =>
    obtain ⟨p, k⟩ := m
    rw [List.forall_mem_cons] at h
    simp only [clearBits, clr_append_left x y p k h.1]
    exact ih _ (by simpa only [length_clr] using h.2)

/-! ### info / hop fields -/

/-- the flag byte of an info or hop field holds its two flags in the two low bits -/
theorem flags_dec (c p : Bool) :
    ((UInt8.ofNat (b2n c + 2 * b2n p)).toNat % 2 == 1) = c ∧
    ((UInt8.ofNat (b2n c + 2 * b2n p)).toNat / 2 % 2 == 1) = p := by
  cases c <;> cases p <;> exact ⟨rfl, rfl⟩

theorem flags_enc (f : Nat) : b2n (f % 2 == 1) + 2 * b2n (f / 2 % 2 == 1) = f % 4 := by
  simp only [b2n, beq_iff_eq, two_flags]

theorem decInfo_encInfo (i : Info) (h : i.WF) : decInfo (encInfo i) = some i := by
  obtain ⟨h1, h2⟩ := h
  have e1 := beNat_natBE_of_lt (k := 2) h1
  have e2 := beNat_natBE_of_lt (k := 4) h2
  simp only [natBE] at e1 e2
  simp only [encInfo, natBE, List.cons_append, List.nil_append, decInfo, e1, e2, flags_dec]

theorem decHop_encHop (h : Hop) (hw : h.WF) : decHop (encHop h) = some h := by
  obtain ⟨h1, h2, h3, h4⟩ := hw
  obtain ⟨ia, ea, x, ci, ce, mac⟩ := h
  simp only at h1 h2 h3 h4
  match mac, h4 with
  | [m0, m1, m2, m3, m4, m5], _ =>
    have e1 := beNat_natBE_of_lt (k := 2) h2
    have e2 := beNat_natBE_of_lt (k := 2) h3
    simp only [natBE] at e1 e2
    simp only [encHop, natBE, List.cons_append, List.nil_append, decHop, fit, List.take, e1, e2,
      flags_dec, UInt8.toNat_ofNat_of_lt' h1]

/-- re-encoding a decoded info field zeroes the reserved bits only -/
theorem encInfo_decInfo (f r s0 s1 t0 t1 t2 t3 : UInt8) (i : Info)
    (h : decInfo [f, r, s0, s1, t0, t1, t2, t3] = some i) :
    encInfo i = [UInt8.ofNat (f.toNat % 4), 0, s0, s1, t0, t1, t2, t3] ∧ i.WF := by
  simp only [decInfo, Option.some.injEq] at h
  subst h
  refine ⟨?_, beNat_lt_of_length (k := 2) rfl, beNat_lt_of_length (k := 4) rfl⟩
  simp only [encInfo, flags_enc, natBE_beNat_of_length, List.length_cons, List.length_nil]
  rfl

theorem encHop_decHop (f e i0 i1 e0 e1 m0 m1 m2 m3 m4 m5 : UInt8) (h : Hop)
    (hd : decHop [f, e, i0, i1, e0, e1, m0, m1, m2, m3, m4, m5] = some h) :
    encHop h = [UInt8.ofNat (f.toNat % 4), e, i0, i1, e0, e1, m0, m1, m2, m3, m4, m5] ∧ h.WF := by
  simp only [decHop, Option.some.injEq] at hd
  subst hd
  refine ⟨?_, e.toNat_lt, beNat_lt_of_length (k := 2) rfl, beNat_lt_of_length (k := 2) rfl, rfl⟩
  simp only [encHop, flags_enc, natBE_beNat_of_length, List.length_cons, List.length_nil,
    UInt8.ofNat_toNat]
  rfl

/-! ### scion.Raw -/

theorem meta_decode_encode (m : PathMeta.Hdr) (h : m.InRange) :
    PathMeta.decode (PathMeta.encode m) = m ∧ PathMeta.encode m < 2^32 :=
  ⟨PathMeta.decode_encode m h, PathMeta.encode_lt m⟩

theorem decRaw_natBE (w : Nat) (tail : Bytes) :
    decRaw (natBE 4 w ++ tail) = decRawBody (w % 2^32) tail := by
  have e := beNat_natBE 4 w
  simp only [natBE] at e
  simp only [natBE, List.cons_append, List.nil_append, decRaw, e]

theorem decRaw_encRaw {m : PathMeta.Hdr} {body : Bytes} (hw : RawWF m body) (rest : Bytes) :
    decRaw (encRaw m body ++ rest) = .ok (m, body, 4 + body.length) := by
  obtain ⟨hm, b, hb, hl⟩ := rawWF_elim hw
  rw [encRaw, List.append_assoc, decRaw_natBE, Nat.mod_eq_of_lt (PathMeta.encode_lt m), decRawBody,
    PathMeta.decode_encode m hm, hb]
  simp only [List.length_append, hl, Nat.not_lt.mpr (Nat.le_add_right _ _), if_false, takeN_append']

theorem decRawBody_ok {w : Nat} {rest : Bytes} {m : PathMeta.Hdr} {body : Bytes} {n : Nat}
    (h : decRawBody w rest = .ok (m, body, n)) :
    m = PathMeta.decode w ∧ RawWF m body ∧ (∃ slack, rest = body ++ slack) ∧
      n = 4 + body.length := by
  unfold decRawBody at h
  split at h
  · cases h
  · rename_i base hb
    split at h
    · cases h
    · split at h
      · cases h
      · rename_i bd sl ht
        cases h
        obtain ⟨e1, e2⟩ := takeN_eq_some ht
        refine ⟨rfl, ⟨PathMeta.decode_inRange w, ?_⟩, ⟨sl, e1⟩, by omega⟩
        rw [hb]; exact e2

theorem decRawBody_ne_panic (w : Nat) (rest : Bytes) : decRawBody w rest ≠ .error .panic := by
  unfold decRawBody
  split
  · simp
  · split
    · simp
    · rename_i hlen
      split
      · rename_i ht
        exact absurd ht (takeN_ne_none (by omega))
      · simp

theorem decRaw_ne_panic (data : Bytes) : decRaw data ≠ .error .panic := by
  unfold decRaw
  split
  · exact decRawBody_ne_panic _ _
  · simp

/-! ### one-hop and EPIC paths -/

theorem decOneHop_enc (i : Info) (h1 h2 : Hop) (rest : Bytes) (hi : i.WF) (w1 : h1.WF) (w2 : h2.WF) :
    decOneHop (encInfo i ++ encHop h1 ++ encHop h2 ++ rest) = .ok (.onehop i h1 h2) := by
  rw [decOneHop, if_neg (by simp [length_encInfo, length_encHop]; omega)]
  simp only [List.append_assoc, takeN_append', length_encInfo, length_encHop, decInfo_encInfo i hi,
    decHop_encHop h1 w1, decHop_encHop h2 w2]

theorem decInfo_of_length {l : Bytes} (h : l.length = 8) : ∃ i, decInfo l = some i := by
  obtain ⟨a,b,c,d,e,f,g,k,rfl⟩ := list8_of_length h
  exact ⟨_, rfl⟩

theorem decHop_of_length {l : Bytes} (h : l.length = 12) : ∃ i, decHop l = some i := by
  obtain ⟨a,b,c,d,e,f,g,k,x,y,z,w,rfl⟩ := list12_of_length h
  exact ⟨_, rfl⟩

theorem decOneHop_ne_panic (data : Bytes) : decOneHop data ≠ .error .panic := by
  unfold decOneHop
  split
  · simp
  · rename_i hlen
    rw [takeN_of_le (by omega)]
    simp only
    rw [takeN_of_le (by simp only [List.length_drop]; omega)]
    simp only
    rw [takeN_of_le (by simp only [List.length_drop]; omega)]
    simp only
    obtain ⟨i, hi⟩ := decInfo_of_length (l := data.take 8) (by simp; omega)
    obtain ⟨x1, hx1⟩ := decHop_of_length (l := (data.drop 8).take 12) (by simp; omega)
    obtain ⟨x2, hx2⟩ := decHop_of_length (l := ((data.drop 8).drop 12).take 12) (by simp; omega)
    rw [hi, hx1, hx2]
    simp

theorem decOneHop_ok {data : Bytes} {p : PathV} (h : decOneHop data = .ok p) :
    ∃ i h1 h2 ib h1b h2b slack, p = .onehop i h1 h2 ∧ data = ib ++ h1b ++ h2b ++ slack ∧
      ib.length = 8 ∧ h1b.length = 12 ∧ h2b.length = 12 ∧
      decInfo ib = some i ∧ decHop h1b = some h1 ∧ decHop h2b = some h2 := by
  unfold decOneHop at h
  split at h
  · cases h
  · split at h
    · cases h
    · rename_i ib r1 ht1
      split at h
      · cases h
      · rename_i h1b r2 ht2
        split at h
        · cases h
        · rename_i h2b r3 ht3
          obtain ⟨e1, l1⟩ := takeN_eq_some ht1
          obtain ⟨e2, l2⟩ := takeN_eq_some ht2
          obtain ⟨e3, l3⟩ := takeN_eq_some ht3
          split at h
          · rename_i i x1 x2 hi hx1 hx2
            cases h
            refine ⟨i, x1, x2, ib, h1b, h2b, r3, rfl, ?_, l1, l2, l3, hi, hx1, hx2⟩
            rw [e1, e2, e3]; simp
          · cases h

/-! ### paths -/

theorem pathLen_scion {m : PathMeta.Hdr} {body : Bytes} (h : RawWF m body) :
    pathLen (.scion m body) = 4 + body.length := by
  obtain ⟨_, b, hb, hl⟩ := rawWF_elim h
  simp [pathLen, hb, hl]

theorem pathLen_epic {m : PathMeta.Hdr} {body : Bytes} (h : RawWF m body) (ts ctr : Nat) (p l : Bytes) :
    pathLen (.epic ts ctr p l m body) = 20 + body.length := by
  obtain ⟨_, b, hb, hl⟩ := rawWF_elim h
  simp [pathLen, hb, hl]

theorem length_encRaw (m : PathMeta.Hdr) (body : Bytes) : (encRaw m body).length = 4 + body.length := by
  simp [encRaw]

theorem decEpic_of (ts ctr : Nat) (p l tail : Bytes) (m : PathMeta.Hdr) (body : Bytes) (n : Nat)
    (h1 : ts < 2^32) (h2 : ctr < 2^32) (h3 : p.length = 4) (h4 : l.length = 4)
    (hr : decRaw tail = .ok (m, body, n)) :
    decEpic (natBE 4 ts ++ natBE 4 ctr ++ p ++ l ++ tail) =
      .ok (.epic ts ctr p l m body, 16 + n) := by
  obtain ⟨p0, p1, p2, p3, rfl⟩ := list4_of_length h3
  obtain ⟨l0, l1, l2, l3, rfl⟩ := list4_of_length h4
  have e1 := beNat_natBE_of_lt (k := 4) h1
  have e2 := beNat_natBE_of_lt (k := 4) h2
  simp only [natBE] at e1 e2
  simp only [natBE, List.cons_append, List.nil_append, decEpic, e1, e2, hr]

theorem decEpic_ne_panic (data : Bytes) : decEpic data ≠ .error .panic := by
  unfold decEpic
  split
  · rename_i rest
    have := decRaw_ne_panic rest
    split
    · rename_i e he; intro hc; cases hc; exact this he
    · simp
  · simp

theorem decPath_ne_panic (pt : Nat) (pb : Bytes) : decPath pt pb ≠ .error .panic := by
  unfold decPath
  split
  · split <;> simp
  · split
    · have := decRaw_ne_panic pb
      split
      · rename_i e he; intro hc; cases hc; exact this he
      · simp
    · split
      · have := decOneHop_ne_panic pb
        split
        · rename_i e he; intro hc; cases hc; exact this he
        · simp
      · split
        · exact decEpic_ne_panic pb
        · simp

theorem decPath_encPath (p : PathV) (hw : PathWF p) :
    ∃ pb, encPath p = some pb ∧ pb.length = pathLen p ∧ decPath p.type pb = .ok (p, pathLen p) := by
  cases p with
  | empty => exact ⟨[], rfl, rfl, rfl⟩
  | scion m body =>
    have hd := decRaw_encRaw hw []
    rw [List.append_nil] at hd
    exact ⟨_, rfl, by rw [pathLen_scion hw, length_encRaw],
      by simp only [decPath, PathV.type, pathLen_scion hw, hd]; simp⟩
  | onehop i h1 h2 =>
    obtain ⟨hi, w1, w2⟩ := hw
    have hd := decOneHop_enc i h1 h2 [] hi w1 w2
    rw [List.append_nil] at hd
    exact ⟨_, rfl, by simp [pathLen, length_encInfo, length_encHop],
      by simp only [decPath, PathV.type, pathLen, hd]; simp⟩
  | epic ts ctr p l m body =>
    obtain ⟨h1, h2, h3, h4, hr⟩ := hw
    have hd := decEpic_of ts ctr p l _ m body _ h1 h2 h3 h4 (decRaw_encRaw hr [])
    rw [List.append_nil] at hd
    refine ⟨natBE 4 ts ++ natBE 4 ctr ++ p ++ l ++ encRaw m body, by simp [encPath, h3, h4], ?_, ?_⟩
    · simp [pathLen_epic hr, length_encRaw, h3, h4]; omega
    · simp only [decPath, PathV.type, pathLen_epic hr, hd]; simp; omega

/-! ### common and address header -/

theorem length_encCmn (c : Cmn) : (encCmn c).length = 12 := by
  simp [encCmn]

theorem decCmn_encCmn (c : Cmn) (rest : Bytes) (h : c.WF) : decCmn (encCmn c ++ rest) = some (c, rest) := by
  obtain ⟨h1, h2, h3, h4, h5, h6, h7, h8, h9⟩ := h
  obtain ⟨l1, l2, l3, l4⟩ := line_split h1 h2 h3
  rw [encCmn, Nat.mod_eq_of_lt h1, Nat.mod_eq_of_lt h2, Nat.mod_eq_of_lt h3, Nat.mod_eq_of_lt h8,
    Nat.mod_eq_of_lt h9]
  -- from here on the first line is a number `w` of which `l1 … l4` say all that matters
  generalize c.version * 2^28 + c.tc * 2^20 + c.flowID = w at *
  have e1 := beNat_natBE_of_lt (k := 4) l4
  have e2 := beNat_natBE_of_lt (k := 2) h6
  simp only [natBE] at e1 e2
  simp only [natBE, List.cons_append, List.nil_append, decCmn, e1, e2, UInt8.toNat_ofNat']
  rw [l1, l2, l3, Nat.mod_eq_of_lt h4, Nat.mod_eq_of_lt h5, Nat.mod_eq_of_lt h7,
    show (c.dstType * 16 + c.srcType) % 2^8 / 16 % 16 = c.dstType by omega,
    show (c.dstType * 16 + c.srcType) % 2^8 % 16 = c.srcType by omega]

/-- re-encoding a decoded common header zeroes the two reserved bytes only -/
theorem encCmn_decCmn {data : Bytes} {c : Cmn} {rest : Bytes} (h : decCmn data = some (c, rest)) :
    ∃ pre, data = pre ++ rest ∧ pre.length = 12 ∧
      encCmn c = clearBits pre [(10, 0), (11, 0)] ∧ c.WF := by
  match data, h with
  | b0 :: b1 :: b2 :: b3 :: nh :: hl :: p0 :: p1 :: pt :: atl :: r0 :: r1 :: rest', h =>
    simp only [decCmn, Option.some.injEq, Prod.mk.injEq] at h
    obtain ⟨rfl, rfl⟩ := h
    have hw : beNat [b0, b1, b2, b3] < 2^32 := beNat_lt_of_length (k := 4) rfl
    obtain ⟨hj, hv⟩ := line_join hw
    have := atl.toNat_lt
    refine ⟨[b0, b1, b2, b3, nh, hl, p0, p1, pt, atl, r0, r1], rfl, rfl, ?_, ?_⟩
    · simp only [encCmn, Nat.mod_mod, hj, natBE_beNat_of_length, List.length_cons, List.length_nil,
        UInt8.ofNat_toNat, List.cons_append, List.nil_append, clearBits, clr, keepLow_zero,
        List.cons.injEq, and_true, true_and]
      exact ofNat_eq (by omega)
    · exact ⟨hv, Nat.mod_lt _ (by decide), Nat.mod_lt _ (by decide), nh.toNat_lt, hl.toNat_lt,
        beNat_lt_of_length (k := 2) rfl, pt.toNat_lt, Nat.mod_lt _ (by decide),
        Nat.mod_lt _ (by decide)⟩

theorem decCmn_none_iff (data : Bytes) : decCmn data = none ↔ data.length < 12 := by
  refine ⟨fun h => Nat.lt_of_not_le fun hl => ?_, fun hl => ?_⟩
  · obtain ⟨x, r, rfl, hx⟩ := exists_append_of_le hl
    obtain ⟨a, b, c, d, e, f, g, k, x, y, z, w, rfl⟩ := list12_of_length hx
    cases h
  · cases hc : decCmn data with
    | none => rfl
    | some v =>
      obtain ⟨pre, rfl, hp, _⟩ := encCmn_decCmn hc
      simp only [List.length_append, hp] at hl
      omega

theorem length_encAddr (c : Cmn) (a : Addr) : (encAddr c a).length = addrHdrLen c := by
  simp [encAddr, length_fit, addrHdrLen]; omega

theorem decAddr_encAddr (c : Cmn) (a : Addr) (rest : Bytes) (h : a.WF c) :
    decAddr c (encAddr c a ++ rest) = .ok (a, rest) := by
  obtain ⟨h1, h2, h3, h4⟩ := h
  rw [decAddr, if_neg (by simp [length_encAddr]), encAddr, fit_eq _ _ h3, fit_eq _ _ h4]
  simp only [List.append_assoc, takeN_append', length_natBE, h3, h4, beNat_natBE_of_lt (k := 8) h1,
    beNat_natBE_of_lt (k := 8) h2]

theorem decAddr_ne_panic (c : Cmn) (rest : Bytes) : decAddr c rest ≠ .error .panic := by
  unfold decAddr
  split
  · simp
  · rename_i hlen
    unfold addrHdrLen at hlen
    rw [takeN_of_le (by omega)]
    simp only
    rw [takeN_of_le (by simp only [List.length_drop]; omega)]
    simp only
    rw [takeN_of_le (by simp only [List.length_drop]; omega)]
    simp only
    rw [takeN_of_le (by simp only [List.length_drop]; omega)]
    simp

theorem decAddr_ok {c : Cmn} {rest : Bytes} {a : Addr} {r4 : Bytes} (h : decAddr c rest = .ok (a, r4)) :
    rest = encAddr c a ++ r4 ∧ a.WF c := by
  unfold decAddr at h
  split at h
  · cases h
  · split at h
    · cases h
    · rename_i dia r1 ht1
      split at h
      · cases h
      · rename_i sia r2 ht2
        split at h
        · cases h
        · rename_i dst r3 ht3
          split at h
          · cases h
          · rename_i src r4' ht4
            obtain ⟨e1, l1⟩ := takeN_eq_some ht1
            obtain ⟨e2, l2⟩ := takeN_eq_some ht2
            obtain ⟨e3, l3⟩ := takeN_eq_some ht3
            obtain ⟨e4, l4⟩ := takeN_eq_some ht4
            cases h
            refine ⟨?_, beNat_lt_of_length l1, beNat_lt_of_length l2, l3, l4⟩
            simp only [encAddr, natBE_beNat_of_length l1, natBE_beNat_of_length l2]
            rw [fit_eq _ _ l3, fit_eq _ _ l4, e1, e2, e3, e4]
            simp

/-! ### the path part of the SCION decoder -/

theorem decPathPart_enc (c : Cmn) (p : PathV) (pb payload : Bytes) (dataLen : Nat)
    (hpt : c.pathType = p.type) (hlen : c.hdrLen * 4 = 12 + addrHdrLen c + pathLen p)
    (hpb : pb.length = pathLen p) (hd : decPath p.type pb = .ok (p, pathLen p))
    (hdl : dataLen = 12 + addrHdrLen c + pb.length + payload.length) :
    decPathPart c dataLen (pb ++ payload) = .ok (p, payload) := by
  have : p.type ≤ 3 := by cases p <;> simp [PathV.type]
  have e : c.hdrLen * 4 - 12 - addrHdrLen c = pathLen p := by omega
  rw [decPathPart, if_neg (by omega), if_neg (by omega), if_neg (by omega), e]
  simp only [takeN_append', hpb, hpt, hd, ne_eq, not_true_eq_false, if_false]

theorem decPathPart_ne_panic (c : Cmn) (dataLen : Nat) (r4 : Bytes)
    (h : r4.length + 12 + addrHdrLen c = dataLen) : decPathPart c dataLen r4 ≠ .error .panic := by
  unfold decPathPart
  split
  · simp
  · split
    · simp
    · split
      · simp
      · split
        · rename_i ht; exact absurd ht (takeN_ne_none (by omega))
        · rename_i pb payload ht
          have := decPath_ne_panic c.pathType pb
          split
          · rename_i e he; intro hc; cases hc; exact this he
          · split <;> simp

theorem decPathPart_ok {c : Cmn} {dataLen : Nat} {r4 : Bytes} {p : PathV} {payload : Bytes}
    (h : decPathPart c dataLen r4 = .ok (p, payload)) :
    ∃ pb, r4 = pb ++ payload ∧ 12 + addrHdrLen c + pb.length = c.hdrLen * 4 ∧
      decPath c.pathType pb = .ok (p, pb.length) := by
  unfold decPathPart at h
  split at h
  · cases h
  · split at h
    · cases h
    · split at h
      · cases h
      · split at h
        · cases h
        · rename_i pb pl ht
          obtain ⟨e1, l1⟩ := takeN_eq_some ht
          split at h
          · cases h
          · rename_i p' n hd
            split at h
            · cases h
            · rename_i hn
              cases h
              refine ⟨pb, e1, by omega, ?_⟩
              rw [hd, l1]
              congr 2
              omega

/-! ### what an accepted path re-encodes to -/

theorem natBE4_encode_decode (a b c d : UInt8) :
    natBE 4 (PathMeta.encode (PathMeta.decode (beNat [a, b, c, d]))) = [a, keepLow 2 b, c, d] := by
  have := a.toNat_lt
  rw [PathMeta.natBE_encode_of_segs a b c d _ rfl rfl rfl, PathMeta.decode_eq_bits, beNat_eq_pack]
  simp only [List.reverse_cons, List.reverse_nil, List.nil_append, List.cons_append, List.map_cons, List.map_nil,
    bits_pack_hi, bits_pack_lo, Nat.reduceAdd, Nat.reduceSub, Nat.reduceLeDiff, Nat.le_refl, keepLow,
    List.cons.injEq, and_true]
  exact ofNat_eq (by simp only [bits]; omega)

/-- a raw SCION path decoded from exactly `rest`: re-encoding clears the six reserved bits of the
meta line only -/
theorem decRaw_ok_exact {rest : Bytes} {m : PathMeta.Hdr} {body : Bytes} {n : Nat}
    (h : decRaw rest = .ok (m, body, n)) (hn : n = rest.length) :
    RawWF m body ∧ 4 + body.length = rest.length ∧ encRaw m body = clr 1 2 rest := by
  unfold decRaw at h
  split at h
  · obtain ⟨rfl, hw, ⟨slack, rfl⟩, rfl⟩ := decRawBody_ok h
    cases List.eq_nil_of_length_eq_zero (l := slack) (by simp at hn; omega)
    rw [List.append_nil]
    exact ⟨hw, by simp; omega, by rw [encRaw, natBE4_encode_decode]; rfl⟩
  · cases h

theorem decPath_ok {pt n : Nat} {pb : Bytes} {p : PathV} (h : decPath pt pb = .ok (p, n))
    (hn : n = pb.length) :
    PathWF p ∧ p.type = pt ∧ pathLen p = pb.length ∧
      encPath p = some (clearBits pb (pathMask p)) ∧ ∀ m ∈ pathMask p, m.1 < pb.length := by
  unfold decPath at h
  split at h
  · rename_i hpt
    split at h
    · cases h
    · cases h
      cases List.eq_nil_of_length_eq_zero hn.symm
      exact ⟨trivial, hpt.symm, rfl, rfl, by simp [pathMask]⟩
  · split at h
    · rename_i hpt
      split at h
      · cases h
      · rename_i m body n' hr
        cases h
        obtain ⟨hw, hl, he⟩ := decRaw_ok_exact hr hn
        exact ⟨hw, hpt.symm, by rw [pathLen_scion hw]; exact hl, congrArg some he,
          by simp [pathMask]; omega⟩
    · split at h
      · rename_i hpt
        split at h
        · cases h
        · rename_i p' hr
          cases h
          obtain ⟨i, h1, h2, ib, h1b, h2b, slack, rfl, rfl, l1, l2, l3, hi, hh1, hh2⟩ :=
            decOneHop_ok hr
          cases List.eq_nil_of_length_eq_zero (l := slack) (by simp [l1, l2, l3] at hn; omega)
          obtain ⟨a0,a1,a2,a3,a4,a5,a6,a7,rfl⟩ := list8_of_length l1
          obtain ⟨c0,c1,c2,c3,c4,c5,c6,c7,c8,c9,c10,c11,rfl⟩ := list12_of_length l2
          obtain ⟨d0,d1,d2,d3,d4,d5,d6,d7,d8,d9,d10,d11,rfl⟩ := list12_of_length l3
          obtain ⟨e1, w1⟩ := encInfo_decInfo _ _ _ _ _ _ _ _ _ hi
          obtain ⟨e2, w2⟩ := encHop_decHop _ _ _ _ _ _ _ _ _ _ _ _ _ hh1
          obtain ⟨e3, w3⟩ := encHop_decHop _ _ _ _ _ _ _ _ _ _ _ _ _ hh2
          refine ⟨⟨w1, w2, w3⟩, hpt.symm, rfl, ?_, by simp [pathMask]⟩
          show some (encInfo i ++ encHop h1 ++ encHop h2) = _
          rw [e1, e2, e3]
          simp [clearBits, clr, pathMask, keepLow_zero, keepLow_two]
      · split at h
        · rename_i hpt
          unfold decEpic at h
          split at h
          · rename_i t0 t1 t2 t3 c0 c1 c2 c3 p0 p1 p2 p3 l0 l1 l2 l3 rest
            split at h
            · cases h
            · rename_i m body n' hr
              cases h
              obtain ⟨hw, hl, he⟩ := decRaw_ok_exact hr (by simp at hn; omega)
              refine ⟨⟨beNat_lt_of_length (k := 4) rfl, beNat_lt_of_length (k := 4) rfl, rfl, rfl, hw⟩,
                hpt.symm, by rw [pathLen_epic hw]; simp; omega, ?_, by simp [pathMask]; omega⟩
              simp only [encPath]
              rw [if_neg (by simp), natBE_beNat_of_length (k := 4) rfl,
                natBE_beNat_of_length (k := 4) rfl, he]
              rfl
          · cases h
        · cases h

/-! ### lists of info / hop fields (`scion.Decoded`) -/

theorem decInfos_encInfos (is : List Info) (rest : Bytes) (hw : ∀ i ∈ is, i.WF) :
    decInfos is.length (encInfos is ++ rest) = some (is, rest) := by
  induction is with
  | nil => rfl
  | cons i is ih =>
    rw [List.forall_mem_cons] at hw
    show decInfos (is.length + 1) (encInfo i ++ encInfos is ++ rest) = _
    rw [List.append_assoc, decInfos, takeN_append' 8 _ _ (length_encInfo i)]
    simp only [decInfo_encInfo i hw.1, ih hw.2]

theorem decHops_encHops (hs : List Hop) (rest : Bytes) (hw : ∀ h ∈ hs, h.WF) :
    decHops hs.length (encHops hs ++ rest) = some (hs, rest) := by
  induction hs with
  | nil => rfl
  | cons h hs ih =>
    rw [List.forall_mem_cons] at hw
    show decHops (hs.length + 1) (encHop h ++ encHops hs ++ rest) = _
    rw [List.append_assoc, decHops, takeN_append' 12 _ _ (length_encHop h)]
    simp only [decHop_encHop h hw.1, ih hw.2]

end Scion.Wire
