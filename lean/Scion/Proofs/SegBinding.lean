import Scion.Model.SegVerify
/-!
Position binding for path segments (helper for C24): because entry `k` is signed together with the
concatenation `info ‖ hb₀ ‖ sig₀ ‖ … ‖ hb_{k-1} ‖ sig_{k-1}`, a list of entries each of which is
"one of the signed entries, with exactly the associated data it was signed with" is a contiguous
run of the signed list.  Pure list reasoning; the cryptographic input is abstracted into `Bound`.
-/
namespace Scion.SegVerify
open Scion.Util (Bytes)

/-- the bytes the entries contribute to later associated data -/
def flatE (es : List RawEntry) : Bytes := (es.flatMap fun e => [e.hb, e.sig]).flatten

@[simp] theorem flatE_nil : flatE [] = [] := rfl

@[simp] theorem flatE_cons (e : RawEntry) (es : List RawEntry) :
    flatE (e :: es) = e.hb ++ (e.sig ++ flatE es) := by
  simp [flatE]

@[simp] theorem flatE_append (a b : List RawEntry) : flatE (a ++ b) = flatE a ++ flatE b := by
  induction a with
  | nil => simp
  | cons e t ih => simp [ih]

theorem assocData_flatten (info : Bytes) (earlier : List RawEntry) :
    (assocData info earlier).flatten = info ++ flatE earlier := by
  simp [assocData, flatE]

theorem flatE_eq_nil {es : List RawEntry} (hne : ∀ e ∈ es, e.hb ≠ []) (h : flatE es = []) :
    es = [] := by
  cases es with
  | nil => rfl
  | cons e t =>
    simp only [flatE_cons, List.append_eq_nil_iff] at h
    exact absurd h.1 (hne e (by simp))

/-- lists that agree entry by entry, except that the signature of the *last* entry is free (it is
covered by no later signature) -/
def Agree : List RawEntry → List RawEntry → Prop
  | [], [] => True
  | [e'], [e] => e'.hb = e.hb
  | e' :: x' :: t', e :: x :: t => e' = e ∧ Agree (x' :: t') (x :: t)
  | _, _ => False

theorem Agree.map_hb {l' l : List RawEntry} (h : Agree l' l) :
    l'.map (·.hb) = l.map (·.hb) ∧ l'.dropLast = l.dropLast := by
  induction l', l using Agree.induct with
  | case1 => exact ⟨rfl, rfl⟩
  | case2 e' e => exact ⟨by simpa [Agree] using h, rfl⟩
  | case3 e' x' t' e x t ih =>
    obtain ⟨rfl, h2⟩ := h
    obtain ⟨i1, i2⟩ := ih h2
    exact ⟨congrArg (e'.hb :: ·) i1, congrArg (e' :: ·) i2⟩
  | case4 l' l h1 h2 h3 => simp [Agree] at h

theorem Agree.length_eq : ∀ {l' l : List RawEntry}, Agree l' l → l'.length = l.length :=
  fun h => by simpa using congrArg List.length h.map_hb.1

/-- what the signatures bind, abstractly: every entry `e'` of the candidate `(pre', es')` carries
an accepted signature and is one of the signed entries `e` of `(pre, es)`, placed after exactly
the bytes `e` was signed after -/
def Bound (V : Bytes → Prop) (pre : Bytes) (es : List RawEntry) (pre' : Bytes)
    (es' : List RawEntry) : Prop :=
  ∀ a' e' b', es' = a' ++ e' :: b' →
    V e'.sig ∧ ∃ a e b, es = a ++ e :: b ∧ e'.hb = e.hb ∧ pre' ++ flatE a' = pre ++ flatE a

theorem Bound.tail {V : Bytes → Prop} {pre pre' : Bytes} {es t' : List RawEntry} {e' : RawEntry}
    (h : Bound V pre es pre' (e' :: t')) : Bound V pre es (pre' ++ (e'.hb ++ e'.sig)) t' := by
  intro a'' y b'' hs
  obtain ⟨hv, a, e, b, h1, h2, h3⟩ := h (e' :: a'') y b'' (by simp [hs])
  refine ⟨hv, a, e, b, h1, h2, ?_⟩
  rw [← h3]
  simp [List.append_assoc]

theorem next_position {V : Bytes → Prop} (PF : ∀ σ x, V σ → V (σ ++ x) → x = [])
    {es a b a2 b2 : List RawEntry} {e e2 : RawEntry} {σ' : Bytes}
    (hne : ∀ x ∈ es, x.hb ≠ []) (hV : ∀ x ∈ es, V x.sig) (hσ : V σ')
    (h1 : es = a ++ e :: b) (h2 : es = a2 ++ e2 :: b2)
    (hf : flatE a2 = flatE a ++ (e.hb ++ σ')) : σ' = e.sig ∧ a2 = a ++ [e] := by
  -- `a2` contributes more bytes than `a`, so it is the longer of the two prefixes
  have hlt : (flatE a).length < (flatE a2).length := by
    have := List.length_pos_iff.2 (hne e (by rw [h1]; simp))
    rw [hf, List.length_append, List.length_append]
    omega
  rcases List.append_eq_append_iff.mp (h1.symm.trans h2) with ⟨c, hc, hc2⟩ | ⟨c, hc, _⟩
  · cases c with
    | nil =>
      rw [hc, List.append_nil] at hlt
      exact absurd hlt (Nat.lt_irrefl _)
    | cons y c' =>
      obtain ⟨rfl, _⟩ := List.cons.inj hc2
      simp only [hc, flatE_append, flatE_cons, List.append_cancel_left_eq] at hf
      subst hf
      -- the accepted signature `e.sig ++ flatE c'` extends `e.sig`
      have hc' := PF e.sig (flatE c') (hV e (by rw [h1]; simp)) hσ
      have := flatE_eq_nil (fun x hx => hne x (by rw [h2, hc]; simp [hx])) hc'
      subst this
      exact ⟨by simp, hc⟩
  · rw [hc, flatE_append, List.length_append] at hlt
    omega

/-- **Position binding.**  A non-empty candidate all of whose entries are bound to signed entries
of `(pre, es)` is a contiguous run `m` of `es` (its info being `pre` extended by everything before
the run), entry by entry identical except for the signature of its last entry. -/
theorem bound_is_run {V : Bytes → Prop} (PF : ∀ σ x, V σ → V (σ ++ x) → x = [])
    {pre : Bytes} {es : List RawEntry} (hne : ∀ x ∈ es, x.hb ≠ []) (hV : ∀ x ∈ es, V x.sig) :
    ∀ (es' : List RawEntry) (pre' : Bytes), es' ≠ [] → Bound V pre es pre' es' →
      ∃ a m b, es = a ++ m ++ b ∧ pre' = pre ++ flatE a ∧ Agree es' m := by
  intro es'
  induction es' with
  | nil => intro _ h; exact absurd rfl h
  | cons e' t' ih =>
    intro pre' _ hB
    obtain ⟨hv0, a, e, b, h1, hhb, hpre⟩ := hB [] e' t' rfl
    simp only [flatE_nil, List.append_nil] at hpre
    cases t' with
    | nil =>
      exact ⟨a, [e], b, by simp [h1], hpre, hhb⟩
    | cons x' t'' =>
      -- the run found for the tail starts right after `e`
      obtain ⟨a4, m4, b4, h4, hpre4, hag⟩ := ih (pre' ++ (e'.hb ++ e'.sig)) (by simp) hB.tail
      cases m4 with
      | nil => simp [Agree] at hag
      | cons z t4 =>
        rw [hpre, hhb, List.append_assoc] at hpre4
        obtain ⟨hsig, ha4⟩ := next_position PF hne hV hv0 h1 (e2 := z) (b2 := t4 ++ b4)
          (by rw [h4]; simp)
          (List.append_cancel_left hpre4).symm
        refine ⟨a, e :: z :: t4, b4, by rw [h4, ha4]; simp, hpre, ?_, hag⟩
        cases e'
        cases e
        simp only [RawEntry.mk.injEq]
        exact ⟨hhb, hsig⟩

end Scion.SegVerify
