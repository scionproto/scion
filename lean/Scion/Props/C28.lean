import Scion.Proofs.CombGraph
import Scion.Gen.Comb
/-!
# C28 — Combined paths are well-formed and their metadata is accurate

About `Scion.Model.Combinator` (`pathOf` = `pathSolution.Path`,
`filterLongPaths`, `filterDuplicates`, `allJoins`/`getPaths` = the solutions).  The model is tied
to `private/path/combinator` by `harness/cmd/comb`: real `Combine` on random topologies and
perturbed segment sets, compared path by path (segment lengths, info and hop fields, interface
metadata, MTU, expiry, weight order) with `combineSpec`.
-/
namespace Scion.C28
open Scion.Combinator

/-! ### at most one up, one core, one down segment, in that order -/

/-- every join of the specification uses one of the seven admissible kind sequences -/
theorem joins_kind_order {ups cores downs : List Seg} {src dst : Nat} {es : List Edge}
    (h : es ∈ allJoins ups cores downs src dst) : es.map (·.kind) ∈ kindShapes :=
  ((allJoins_iff ..).1 h).spec.1

/-! ### segment lengths, info fields and hop fields -/

/-- `pathOf` yields one output segment per edge (at most three), each the `edgeOut` of its edge -/
theorem segs_of_edges {es : List Edge} {p : Path} (h : pathOf es = .ok p) :
    p.segs.length ≤ 3 ∧ Rel2 (fun e s => ∃ a b, edgeOut a e = .ok (s, b)) es p.segs := by
  obtain ⟨segs, _, hl, hlen, rfl⟩ := pathOf_ok_iff.1 h
  exact ⟨hlen, (pathLoop_spec hl).1⟩

/-- the segment lengths written into the path header are the hop counts of the segments and add
up to the number of hop fields -/
theorem segLens_consistent (p : Path) :
    p.segLens.sum = p.hopFields.length ∧ p.segLens.length = p.infos.length := by
  simp [Path.segLens, Path.hopFields, Path.infos, List.length_flatMap]

/-- the hop fields of an output segment are copies of the input segment's hop fields from the
shortcut index to the end (the peer entry's hop field at a peering shortcut), in construction order
for a down segment and reversed for up and core segments -/
theorem hops_are_copies {mtu : Nat} {e : Edge} {s : SegOut} {m : Nat}
    (h : edgeOut mtu e = .ok (s, m)) :
    consHops e.seg.ents e.sc e.peer =
      some (if e.kind = .down then s.hops else s.hops.reverse) :=
  (edgeOut_spec h).2.1

/-- the info field: the segment's timestamp, `ConsDir` exactly for down segments, `Peer` exactly
when a peer entry is used, `SegID` the accumulator value of `calculateBeta` -/
theorem info_is_copy {mtu : Nat} {e : Edge} {s : SegOut} {m : Nat}
    (h : edgeOut mtu e = .ok (s, m)) :
    s.info.ts = e.seg.ts ∧ (s.info.consDir = true ↔ e.kind = .down) ∧
      (s.info.peer = true ↔ e.peer ≠ 0) ∧ s.info.segId = calculateBeta e := by
  rw [(edgeOut_spec h).1]
  cases e.kind <;> simp

/-- number of hop fields of a segment = number of AS entries from the shortcut index on -/
theorem segLen_eq {mtu : Nat} {e : Edge} {s : SegOut} {m : Nat}
    (h : edgeOut mtu e = .ok (s, m)) : s.hops.length = e.seg.ents.length - e.sc := by
  have hlen : ∀ hs, consHops e.seg.ents e.sc e.peer = some hs →
      hs.length = e.seg.ents.length - e.sc := by
    intro hs hc
    rw [← List.length_drop]
    unfold consHops at hc
    split at hc
    · next hd => cases hc; rw [hd]; rfl
    · next hd =>
      obtain ⟨x, _, rfl⟩ := Option.map_eq_some_iff.1 hc
      rw [hd, List.length_cons, List.length_cons, List.length_map]
  rw [← hlen _ (hops_are_copies h)]
  split <;> simp

/-! ### interface metadata -/

/-- the interfaces listed for a segment are exactly the non-zero interfaces of its hop fields in
traversal order (ingress, egress per hop in construction direction; the whole list reversed for
up and core segments), minus the unused ingress of a non-peer shortcut entry -/
theorem interfaces_of_segment {mtu : Nat} {e : Edge} {s : SegOut} {m : Nat}
    (h : edgeOut mtu e = .ok (s, m)) :
    consIfaces e.seg.ents e.sc e.peer =
      some (if e.kind = .down then s.intfs else s.intfs.reverse) :=
  (edgeOut_spec h).2.2.1

/-- the metadata interface list is the concatenation over the segments in path order -/
theorem interfaces_concat {es : List Edge} {p : Path} (h : pathOf es = .ok p) :
    p.intfs = p.segs.flatMap (·.intfs) := by
  obtain ⟨_, _, _, _, rfl⟩ := pathOf_ok_iff.1 h
  rfl

/-! ### MTU and expiry -/

/-- the MTU is a lower bound of every AS-internal MTU, announced ingress-link MTU and peering-link
MTU along the traversed part (`allMtuTerms`) … -/
theorem mtu_le {es : List Edge} {p : Path} (h : pathOf es = .ok p) :
    p.mtu ≤ 65535 ∧ ∀ t ∈ allMtuTerms es, p.mtu ≤ t := by
  obtain ⟨_, _, hl, _, rfl⟩ := pathOf_ok_iff.1 h
  rw [(pathLoop_spec hl).2]
  exact ⟨foldl_min_le_init _ _, fun t ht => foldl_min_le_mem _ _ _ ht⟩

/-- … and is one of them (or the initial 65535): it is their minimum -/
theorem mtu_attained {es : List Edge} {p : Path} (h : pathOf es = .ok p) :
    p.mtu = 65535 ∨ p.mtu ∈ allMtuTerms es := by
  obtain ⟨_, _, hl, _, rfl⟩ := pathOf_ok_iff.1 h
  rw [(pathLoop_spec hl).2]
  exact foldl_min_mem _ _

/-- expiry of one hop field of an output segment, in ms -/
def hopExpiry (s : SegOut) (hf : HopF) : Nat := s.info.ts * 1000 + expToMs hf.exp

/-- the reported expiry is not later than the expiry of any hop field on the path … -/
theorem expiry_le {es : List Edge} {p : Path} (h : pathOf es = .ok p) :
    ∀ s ∈ p.segs, ∀ hf ∈ s.hops, p.expiry ≤ hopExpiry s hf := by
  obtain ⟨segs, _, _, _, rfl⟩ := pathOf_ok_iff.1 h
  intro s hs hf hhf
  show computeExpTime segs ≤ _
  rw [computeExpTime_eq]
  refine Nat.le_trans (foldl_min_le_mem _ _ (segExpiry s) (List.mem_map.2 ⟨s, hs, rfl⟩)) ?_
  unfold segExpiry hopExpiry
  rw [hopsTTL_eq]
  exact Nat.add_le_add_left (foldl_min_le_mem _ _ _ (List.mem_map.2 ⟨hf, hhf, rfl⟩)) _

/-- well-formed field ranges: `ExpTime` is a uint8, the timestamp a uint32 -/
def FieldsInRange (p : Path) : Prop :=
  ∀ s ∈ p.segs, s.info.ts ≤ 4294967295 ∧ s.hops ≠ [] ∧ ∀ hf ∈ s.hops, hf.exp ≤ 255

/-- … and it is the expiry of one of them: the earliest hop-field expiry -/
theorem expiry_attained {es : List Edge} {p : Path} (h : pathOf es = .ok p) (hne : p.segs ≠ [])
    (hr : FieldsInRange p) : ∃ s ∈ p.segs, ∃ hf ∈ s.hops, p.expiry = hopExpiry s hf := by
  obtain ⟨segs, _, _, _, rfl⟩ := pathOf_ok_iff.1 h
  dsimp only at hne hr ⊢
  -- the TTL of a segment is the TTL of one of its hops: the first hop's is below the start value
  have hseg : ∀ s ∈ segs, ∃ hf ∈ s.hops, hopsTTL s.hops = expToMs hf.exp := by
    intro s hs
    obtain ⟨_, hnh, hexp⟩ := hr s hs
    obtain ⟨h0, hh0⟩ := List.exists_mem_of_ne_nil _ hnh
    have := foldl_min_mem_of_le (l := s.hops.map fun h => expToMs h.exp) (a := maxTTL)
      ⟨_, List.mem_map.2 ⟨h0, hh0, rfl⟩, by have := hexp h0 hh0; unfold expToMs maxTTL; omega⟩
    rw [← hopsTTL_eq] at this
    obtain ⟨hf, hhf, he⟩ := List.mem_map.1 this
    exact ⟨hf, hhf, he.symm⟩
  -- likewise the path expiry is the expiry of one of its segments
  obtain ⟨s0, hs0⟩ := List.exists_mem_of_ne_nil _ hne
  have hle : maxExpiration ≥ segExpiry s0 := by
    have := (hr s0 hs0).1
    have : hopsTTL s0.hops ≤ maxTTL := by rw [hopsTTL_eq]; exact foldl_min_le_init _ _
    unfold segExpiry maxExpiration expToMs maxTTL at *
    omega
  have := foldl_min_mem_of_le ⟨_, List.mem_map.2 ⟨s0, hs0, rfl⟩, hle⟩
  rw [← computeExpTime_eq] at this
  obtain ⟨s, hs, he⟩ := List.mem_map.1 this
  obtain ⟨hf, hhf, hh⟩ := hseg s hs
  exact ⟨s, hs, hf, hhf, by rw [← he]; unfold segExpiry hopExpiry; rw [hh]⟩

/-! ### `filterLongPaths`: no AS more than twice -/

/-- "passes AS `ia` at most twice" as the code understands it: at most two interface entries -/
def AtMostTwice (p : Path) : Prop := ∀ ia, (p.intfs.map (·.ia)).count ia ≤ 2

theorem isLong_false_iff (p : Path) : isLong p.intfs = false ↔ AtMostTwice p :=
  Scion.Combinator.isLong_false_iff p.intfs

/-- `filterLongPaths` keeps exactly the paths passing no AS more than twice … -/
theorem filterLong_mem (ps : List Path) (p : Path) :
    p ∈ filterLongPaths ps ↔ p ∈ ps ∧ AtMostTwice p := by
  unfold filterLongPaths
  rw [List.mem_filter, ← isLong_false_iff]
  cases isLong p.intfs <;> simp

/-- … in their original order -/
theorem filterLong_sublist (ps : List Path) : (filterLongPaths ps).Sublist ps :=
  List.filter_sublist

/-! ### `filterDuplicates`: one path per interface sequence, the latest expiry kept -/

/-- no two returned paths share an interface sequence -/
theorem dedup_unique (ps : List Path) :
    (filterDuplicates ps).Pairwise fun a b => a.intfs ≠ b.intfs := by
  have inv := dedupInv_final ps
  unfold filterDuplicates
  dsimp only
  rw [List.pairwise_map]
  have hp := (indexedFrom_pairwise ps 0).sublist (List.filter_sublist
    (p := fun ip => ((indexedFrom 0 ps).foldl dedupStep []).any fun kv => kv.2.1 == ip.1))
  refine hp.imp_of_mem ?_
  rintro ⟨ia, pa⟩ ⟨ib, pb⟩ ha hb hlt heq
  simp only [List.mem_filter, List.any_eq_true, beq_iff_eq, mem_indexedFrom_zero] at ha hb
  obtain ⟨ha1, kva, hkva, rfl⟩ := ha
  obtain ⟨hb1, kvb, hkvb, rfl⟩ := hb
  -- both table entries point at paths with the same interface list: they are one entry
  obtain ⟨qa, hqa, h3a, _⟩ := inv.sound kva hkva
  obtain ⟨qb, hqb, h3b, _⟩ := inv.sound kvb hkvb
  rw [ha1] at hqa; cases hqa
  rw [hb1] at hqb; cases hqb
  cases eq_of_mem_of_key_eq inv.distinct hkva hkvb (by rw [← h3a, ← h3b]; exact heq)
  exact Nat.lt_irrefl _ hlt

/-- every interface sequence of the input is still represented, by a path expiring no earlier -/
theorem dedup_covers (ps : List Path) (p : Path) (hp : p ∈ ps) :
    ∃ q ∈ filterDuplicates ps, q.intfs = p.intfs ∧ p.expiry ≤ q.expiry :=
  filterDuplicates_covers ps p hp

/-- the one kept has the latest expiry among the paths with its interface sequence -/
theorem dedup_latest (ps : List Path) (q : Path) (hq : q ∈ filterDuplicates ps)
    (p : Path) (hp : p ∈ ps) (hfp : p.intfs = q.intfs) : p.expiry ≤ q.expiry :=
  filterDuplicates_latest ps q hq p hp hfp

/-- the kept paths are input paths, in their original order -/
theorem dedup_sublist (ps : List Path) : (filterDuplicates ps).Sublist ps :=
  filterDuplicates_sublist ps

/-- unless identical paths are requested, no two paths returned by `Combine` share an interface
sequence -/
theorem combine_unique (ups cores downs : List Seg) (src dst : Nat) :
    (combineSpec ups cores downs src dst false).Pairwise fun a b => a.intfs ≠ b.intfs :=
  dedup_unique _

/-- soundness of modelling the SHA-256 fingerprint by the interface list itself: the code's
`filterDuplicates`, keyed by any fingerprint function `fp` that is injective on the interface
lists of the paths at hand (no hash collision among them), returns exactly the model's result -/
theorem fingerprint_sound {F : Type} [DecidableEq F] (fp : List Iface → F) (ps : List Path)
    (hinj : ∀ p ∈ ps, ∀ q ∈ ps, fp p.intfs = fp q.intfs → p.intfs = q.intfs) :
    filterDuplicatesF fp ps = filterDuplicates ps := by
  unfold filterDuplicatesF filterDuplicates
  dsimp only
  -- the fold lemma for `K a` := "`a` is the interface list of a path of `ps`"
  have := foldl_dedupStepF_map fp (fun a => ∃ p ∈ ps, p.intfs = a)
    (by rintro a b ⟨p, hp, rfl⟩ ⟨q, hq, rfl⟩ h; exact hinj p hp q hq h)
    (indexedFrom 0 ps) (fun ip hip => ⟨ip.2, mem_indexedFrom_snd hip, rfl⟩) [] (by simp)
  simp only [List.map_nil] at this
  rw [this]
  simp only [List.any_map]
  rfl

/-! ### order of the result -/

theorem dedupIf_sublist (all : Bool) (ps : List Path) :
    (if all then ps else filterDuplicates ps).Sublist ps := by
  split
  · exact .refl _
  · exact filterDuplicates_sublist _

/-- the result of `Combine` (either mode) is ordered by non-decreasing weight -/
theorem combine_sorted (ups cores downs : List Seg) (src dst : Nat) (all : Bool) :
    (combineSpec ups cores downs src dst all).Pairwise fun a b => a.weight ≤ b.weight :=
  (pipeline_sorted _).sublist (dedupIf_sublist all _)

/-- every returned path passes no AS more than twice and is the `pathOf` of a join -/
theorem combine_mem (ups cores downs : List Seg) (src dst : Nat) (all : Bool) (p : Path)
    (h : p ∈ combineSpec ups cores downs src dst all) :
    AtMostTwice p ∧ ∃ es ∈ allJoins ups cores downs src dst, pathOf es = .ok p := by
  obtain ⟨hes, hl⟩ := mem_pipeline.1 ((dedupIf_sublist all _).subset h)
  exact ⟨(isLong_false_iff _).1 hl, hes⟩

/-! ### the same for `Combine` over the model of the multigraph search of graph.go -/

/-- every path returned by the graph version passes no AS more than twice and is the `Path` of a
join of the specification (in particular: at most one up, one core, one down segment in order) -/
theorem combineDMG_mem (ups cores downs : List Seg) (src dst : Nat) (all : Bool) (ps : List Path)
    (p : Path) (hc : combineDMG ups cores downs src dst all = some ps) (h : p ∈ ps) :
    AtMostTwice p ∧ ∃ es ∈ allJoins ups cores downs src dst,
      pathOf es = .ok p ∧ es.map (·.kind) ∈ kindShapes := by
  obtain ⟨g, hg, rfl⟩ := combineDMG_eq_some.1 hc
  obtain ⟨⟨es, hes, hp⟩, hl⟩ := mem_pipeline.1 ((dedupIf_sublist all _).subset h)
  have hj := (getPaths_strict hg hes).isJoin
  exact ⟨(isLong_false_iff _).1 hl, _, (allJoins_iff ..).2 hj, hp, hj.spec.1⟩

/-- … ordered by non-decreasing weight, and without two paths of the same interface sequence
unless identical paths are requested -/
theorem combineDMG_sorted_unique (ups cores downs : List Seg) (src dst : Nat) (all : Bool)
    (ps : List Path) (hc : combineDMG ups cores downs src dst all = some ps) :
    ps.Pairwise (fun a b => a.weight ≤ b.weight) ∧
      (all = false → ps.Pairwise fun a b => a.intfs ≠ b.intfs) := by
  obtain ⟨g, _, rfl⟩ := combineDMG_eq_some.1 hc
  refine ⟨(pipeline_sorted _).sublist (dedupIf_sublist all _), ?_⟩
  rintro rfl
  exact dedup_unique _

/-! ### facts regenerated from the source (T3) -/

def kindName : Kind → String
  | .up => "up" | .core => "core" | .down => "down"

/-- the model's `validNextSeg` is the table read off the `switch` in graph.go -/
theorem gen_validNext (a b : Kind) :
    validNextSeg (some a) b = ((Scion.Gen.Comb.validNext.lookup (kindName a)).getD []).contains (kindName b)
    ∧ validNextSeg none b = true ∧ Scion.Gen.Comb.firstSegAny = "true" := by
  cases a <;> cases b <;> decide

/-- the bound of `filterLongPaths` in combinator.go is the model's: more than two entries -/
theorem gen_long_bound (intfs : List Iface) :
    Scion.Gen.Comb.longOp = ">" ∧
    isLong intfs = intfs.any fun i => decide ((intfs.map (·.ia)).count i.ia > Scion.Gen.Comb.longBound) := by
  exact ⟨by decide, rfl⟩

/-! ### non-vacuity: a two-level topology with a shortcut and a peering link

core `1` —(1:1)— `2` —(2:1)— `3` and `2` —(3:1)— `4`; peering link `3`#9 — `4`#8.
Up segment 1→2→3, down segment 1→2→4: joined at the core, by the shortcut at `2`, and over the
peering link. -/
def exUp : Seg := ⟨100, 7, [⟨1, ⟨0, 1, 63, 2 ^ 32⟩, 0, 1500, []⟩, ⟨2, ⟨1, 2, 63, 2 ^ 33⟩, 1400, 1500, []⟩,
  ⟨3, ⟨1, 0, 10, 5⟩, 1300, 1500, [⟨⟨9, 0, 63, 6⟩, 4, 8, 1200⟩]⟩]⟩
def exDown : Seg := ⟨200, 9, [⟨1, ⟨0, 1, 63, 1⟩, 0, 1500, []⟩, ⟨2, ⟨1, 3, 63, 2⟩, 1400, 1500, []⟩,
  ⟨4, ⟨1, 0, 63, 3⟩, 1350, 1500, [⟨⟨8, 0, 20, 4⟩, 3, 9, 1200⟩]⟩]⟩

example : (allJoins [exUp] [] [exDown] 3 4).map (fun es => es.map fun e => (e.kind, e.sc, e.peer)) =
    [[(.up, 0, 0), (.down, 0, 0)], [(.up, 1, 0), (.down, 1, 0)], [(.up, 2, 1), (.down, 2, 1)]] := by
  decide

/-- the shortcut path: segment lengths 2+2, interfaces without the unused ingress of AS 2, MTU
the minimum over the two traversed links and the AS MTUs, expiry of hop (ts 100, exp 10) -/
example : (pathOf [⟨exUp, .up, 1, 0⟩, ⟨exDown, .down, 1, 0⟩]).toOption =
    some ⟨[⟨⟨100, 7 ^^^ 1 ^^^ 2, false, false⟩, [⟨1, 0, 10, 5⟩, ⟨1, 2, 63, 2 ^ 33⟩], [⟨3, 1⟩, ⟨2, 2⟩]⟩,
          ⟨⟨200, 9, true, false⟩, [⟨1, 3, 63, 2⟩, ⟨1, 0, 63, 3⟩], [⟨2, 3⟩, ⟨4, 1⟩]⟩],
         [⟨3, 1⟩, ⟨2, 2⟩, ⟨2, 3⟩, ⟨4, 1⟩], 1300, 100 * 1000 + 11 * 337500, 2⟩ := by
  decide +kernel

/-- duplicates (the up segment supplied twice) are returned with `findAllIdentical` and removed
without; the join at the core passes AS 2 four times and is filtered in both modes -/
example : ((combineSpec [exUp, exUp] [] [exDown] 3 4 true).map (·.weight),
           (combineSpec [exUp, exUp] [] [exDown] 3 4 false).map (·.weight)) =
    ([1, 1, 2, 2], [1, 2]) := by
  decide

end Scion.C28
