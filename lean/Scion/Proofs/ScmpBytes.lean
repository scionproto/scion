import Scion.Proofs.Scmp
import Scion.Model.ScmpBytes
import Scion.Proofs.WireBasics
import Scion.Proofs.Spao
import Scion.Proofs.BigEndian
import Scion.Props.C20
/-! The byte-level part of C09, for any reply: its checksum verifies (`checksum_verifies`, by C20) and
its authenticator tag is the MAC of C21's input (`authTag_valid`), given field widths and a path in
order (`ReplyWF`). -/
namespace Scion.Scmp
open Scion.Util Scion.PathMeta Scion.C19

theorem infoBytes_len (t : Nat) (info : List Nat) :
    4 ≤ (infoBytes t info).length ∧ (infoBytes t info).length ≤ 24 := by
  unfold infoBytes
  split <;> simp [length_natBE]

/-- **The checksum of a message verifies** whenever the pseudo header has addresses of a legal
length and the quote is at most 1232 bytes long: the checksum field of `scmpMsg0` is zero and lies
at the even offset 2, so C20's `checksum_verifies` applies. -/
theorem checksum_verifies (r : Reply) (hwf : Scion.C20.WFHdr (phdr r)) (hq : r.quote.length ≤ maxSCMPPacketLen) :
    ∃ c, scmpChecksum r = .ok c ∧
      (scmpMsgWith r c).length = (scmpMsg0 r).length ∧
      Scion.Checksum.fold (Scion.Checksum.totalRaw (phdr r) (scmpMsgWith r c).length l4SCMP (scmpMsgWith r c)) = 0xffff ∧
      Scion.Checksum.computeChecksum (phdr r) (scmpMsgWith r c) l4SCMP = .ok 0 := by
  have hib := infoBytes_len r.scmpType r.info
  have hlen : (scmpMsg0 r).length = 4 + (infoBytes r.scmpType r.info).length + r.quote.length := by
    unfold scmpMsg0; simp [List.length_append]; omega
  have hl : (scmpMsg0 r).length ≤ 65535 := by unfold maxSCMPPacketLen at hq; omega
  have hz : Scion.Checksum.getWord (scmpMsg0 r) 2 = 0 := by
    unfold scmpMsg0
    simp [Scion.Checksum.getWord]
  have hc' := Scion.C20.computeChecksum_eq (phdr r) hwf (scmpMsg0 r) l4SCMP hl
  have hv := Scion.C20.checksum_verifies (phdr r) hwf (scmpMsg0 r) l4SCMP 2 _ hl (by decide) (by omega) hz hc'
  exact ⟨_, hc', hv.1, hv.2.2.1, hv.2.2.2⟩

structure ReplyWF (r : Reply) : Prop where
  tc : r.tc < 256
  flowID : r.flowID < 2^20
  dstType : r.dstType < 16
  srcType : r.srcType < 16
  dstIA : r.dstIA < 2^64
  srcIA : r.srcIA < 2^64
  rawDst : r.rawDst.length = addrTypeLen r.dstType
  rawSrc : r.rawSrc.length = addrTypeLen r.srcType
  pathType : r.pathType = 1
  path : PathOk ⟨⟨r.pm, r.numINF, r.numHops⟩, r.infos, r.hops⟩
  hdr_le : cmnHdrLen + addrHdrLen r.dstType r.srcType + pathLen r.numINF r.numHops ≤ maxHdrLen

/-- the header `prepareSCMP` hands to `spao.ComputeAuthCMAC` is one C21 speaks about -/
theorem replyAuthIn_wf (r : Reply) (h : ReplyWF r) (ts : Nat) (hts : ts < 2^48) (msg : Bytes)
    (hmsg : msg.length < 65536) : (replyAuthIn r ts msg).WF := by
  obtain ⟨w1, w2, w3, w4, w5, w6, w7, w8, hpt, ⟨hcons, hsg, hil, hhl, h12⟩, hmax⟩ := h
  have hlt := consistent_bounds _ hcons
  have hbd := baseDecode_of_consistent hcons
  have hcur := hcons.2.2.2.1
  dsimp only at hlt hbd hcur hil hhl h12 hsg
  have hbody : (replyPathBody r).length = r.numINF * 8 + r.numHops * 12 := by
    unfold replyPathBody
    rw [List.length_append, Wire.length_encInfos, List.length_map, List.length_flatten, List.map_congr_left h12,
      List.map_const', List.sum_replicate_nat, hil, hhl]
  unfold Scion.Spao.AuthIn.WF replyAuthIn replyHdr
  dsimp only
  refine ⟨by omega, w1, w2, by omega, w3, w4, ⟨w5, w6, w7, w8⟩, ⟨⟨by omega, by omega, hsg⟩, ?_⟩,
    by unfold scmpSPI; omega, by omega, hts, by unfold l4SCMP; omega, hmsg, ?_⟩
  · rw [hbd]; exact hbody
  · unfold cmnHdrLen addrHdrLen addrTypeLen pathLen iaBytes lineLen metaLen infoLen hopLen maxHdrLen at hmax
    simp only [Wire.addrHdrLen, Wire.addrLen, Wire.pathLen, Wire.bodyLen, hbd]
    omega

/-- **The authenticator tag is the MAC of the authenticated data**: the input is C21's
`fixedPart ‖ addrPart ‖ zeroed path ‖ message`, and the SPI of a DRKey AS-host sender-side key
selects the source host address alone as address part. -/
theorem authTag_valid (mac : Bytes → Bytes → Bytes) (key : Bytes) (r : Reply) (ts : Nat) (msg : Bytes)
    (hwf : (replyAuthIn r ts msg).WF) :
    ∃ z, Scion.Spao.zeroPath (replyHdr r).path = some z ∧
      Scion.Spao.macInput (replyAuthIn r ts msg) =
        .ok (Scion.Spao.fixedPart (replyAuthIn r ts msg) ++ r.rawSrc ++ z ++ msg) ∧
      authTag mac key r ts msg =
        some (mac key (Scion.Spao.fixedPart (replyAuthIn r ts msg) ++ r.rawSrc ++ z ++ msg)) := by
  obtain ⟨z, hz, _, _, hmi⟩ := Scion.Spao.macInput_ok (replyAuthIn r ts msg) hwf
  have haddr : Scion.Spao.addrPart (replyAuthIn r ts msg) = r.rawSrc := by
    unfold Scion.Spao.addrPart replyAuthIn
    simp [Scion.Spao.inclIA, Scion.Spao.inclDst, Scion.Spao.inclSrc, Scion.Spao.isDRKey, Scion.Spao.spiType,
      Scion.Spao.spiDir, scmpSPI, replyHdr]
  rw [haddr] at hmi
  refine ⟨z, hz, hmi, ?_⟩
  unfold authTag
  rw [hmi]
  rfl

end Scion.Scmp
