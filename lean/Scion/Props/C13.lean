import Scion.Model.Epic
import Scion.Gen.Epic
import Scion.Proofs.R2EpicInput
/-! C13 — EPIC packets need fresh timestamps and valid hop validation fields.
    Theorems about `Scion.Epic.process` (model of `processEPIC`) for every key/MAC function, PRF, clock
    value and packet.  The disposition of the embedded SCION processing is the parameter `inner`. -/
namespace Scion.C13
open Scion.Epic Scion.Util
open Scion.Ohp (Mac Info Hop macInput updateSegID)

/-- the freshness window in integers (ns): sender time not more than the clock skew ahead of `now`, and
    `now` not more than lifetime + skew after it -/
def Fresh (ts0 pktTs now : Nat) : Prop :=
  tsSender ts0 pktTs ≤ now + maxClockSkew ∧ now ≤ tsSender ts0 pktTs + maxPacketLifetime + maxClockSkew

theorem fresh_iff (ts0 pktTs now : Nat) : fresh ts0 pktTs now = true ↔ Fresh ts0 pktTs now := by
  unfold fresh Fresh
  generalize tsSender ts0 pktTs = s
  generalize maxClockSkew = k
  generalize maxPacketLifetime = l
  simp only [Bool.and_eq_true, Bool.not_eq_true', decide_eq_false_iff_not, Nat.not_lt, gt_iff_lt]

/-- sender time: 21 µs units after the info-field timestamp (ns) -/
theorem tsSender_eq (ts0 pktTs : Nat) : tsSender ts0 pktTs = ts0 * 1000000000 + (pktTs + 1) * 21000 := rfl

/-- window arithmetic spelled out: 1 s skew ahead, 2 s lifetime + 1 s skew behind -/
theorem fresh_window (ts0 pktTs now : Nat) :
    Fresh ts0 pktTs now ↔
      tsSender ts0 pktTs ≤ now + 1000000000 ∧ now ≤ tsSender ts0 pktTs + 3000000000 := by
  unfold Fresh
  generalize tsSender ts0 pktTs = a
  unfold maxClockSkew maxPacketLifetime
  omega

/-- the hop validation field that is checked at the hop validated last -/
def hvfOf (p : Pkt) (v : Validated) : Bytes := if isLast v then p.lhvf else p.phvf

/-- **Acceptance.** An EPIC packet whose embedded SCION processing forwards is accepted (treated as
    that processing decided) exactly when the hop validated last in this AS is neither the penultimate
    nor the last hop of the path, or the timestamp is fresh and the PHVF (penultimate) resp. LHVF (last)
    equals the first four bytes of the PRF keyed with that hop's full MAC over the EPIC MAC input. -/
theorem epic_accept_iff (localIA : Nat) (mac : Mac) (prf : Prf) (now : Nat) (p : Pkt) :
    process localIA mac prf now .fwd p = .asInner ↔
      ∃ v, validated localIA mac p = some v ∧
        ((isPenultimate v = false ∧ isLast v = false) ∨
         (Fresh v.ts0 p.pktTs now ∧ hvfOf p v = calcMac prf v.auth p v.ts0)) := by
  unfold process
  cases hv : validated localIA mac p with
  | none => simp
  | some v =>
    simp only [Option.some.injEq, exists_eq_left']
    unfold epicChecks hvfOf
    cases hp : isPenultimate v <;> cases hl : isLast v <;>
      simp [← fresh_iff] <;> cases hf : fresh v.ts0 p.pktTs now <;> simp

/-- **Rejection is a discard.** Whenever the embedded processing forwards and the packet is not accepted,
    the packet is dropped (no other disposition exists). -/
theorem epic_reject_drops (localIA : Nat) (mac : Mac) (prf : Prf) (now : Nat) (p : Pkt) :
    process localIA mac prf now .fwd p = .asInner ∨ process localIA mac prf now .fwd p = .drop := by
  cases h : process localIA mac prf now .fwd p <;> simp

/-- **Every other hop = plain SCION processing.** If the embedded processing does not forward, or the hop
    validated last is neither penultimate nor last, EPIC processing adds nothing. -/
theorem epic_other_hops_eq_scion (localIA : Nat) (mac : Mac) (prf : Prf) (now : Nat) (inner : Inner) (p : Pkt)
    (h : inner = .other ∨ ∃ v, validated localIA mac p = some v ∧ isPenultimate v = false ∧ isLast v = false) :
    process localIA mac prf now inner p = .asInner := by
  cases inner with
  | other => rfl
  | fwd =>
    rcases h with h | ⟨v, hv, hp, hl⟩
    · cases h
    · exact (epic_accept_iff localIA mac prf now p).mpr ⟨v, hv, Or.inl ⟨hp, hl⟩⟩

/-- at the penultimate and last hop a stale timestamp or a wrong HVF is never accepted -/
theorem epic_checked_at_last_two (localIA : Nat) (mac : Mac) (prf : Prf) (now : Nat) (p : Pkt) (v : Validated)
    (hv : validated localIA mac p = some v) (hpl : isPenultimate v = true ∨ isLast v = true)
    (hacc : process localIA mac prf now .fwd p = .asInner) :
    Fresh v.ts0 p.pktTs now ∧ hvfOf p v = calcMac prf v.auth p v.ts0 := by
  obtain ⟨v', hv', h⟩ := (epic_accept_iff localIA mac prf now p).mp hacc
  rw [hv] at hv'; cases hv'
  rcases h with ⟨h1, h2⟩ | h
  · rcases hpl with h | h <;> simp_all
  · exact h

/-- an effective cross-over: the packet is not for the local AS, the arrival hop ends its segment, and
    the hop is not a peering hop -/
def EffXover (localIA : Nat) (p : Pkt) (b : PathMeta.Base) (inf : Info) : Prop :=
  p.dstIA ≠ localIA ∧ PathMeta.isXover b = true ∧ determinePeer b.pm inf = some false

/-- **Which hop decides** (the repaired defect: previously the arrival index was used). The hop whose
    position selects PHVF/LHVF and whose full MAC keys the PRF is the hop validated LAST in this AS:
    the arrival hop, or after an effective cross-over the hop after it (first hop of the next segment,
    with that segment's info field). Its MAC is computed over the SegID that `verifyCurrentMAC` saw. -/
theorem validated_spec (localIA : Nat) (mac : Mac) (p : Pkt) (v : Validated)
    (hv : validated localIA mac p = some v) :
    ∃ b inf hop inf0, parseBase p.scionPath = some b ∧
      infoAt p.scionPath b b.pm.currINF = some inf ∧ hopAt p.scionPath b b.pm.currHF = some hop ∧
      infoAt p.scionPath b 0 = some inf0 ∧ v.numHops = b.numHops ∧ v.ts0 = inf0.ts ∧
      ((EffXover localIA p b inf ∧ v.idx = b.pm.currHF + 1 ∧
          ∃ inf' hop', infoAt p.scionPath b (PathMeta.infIdx b.pm (b.pm.currHF + 1)) = some inf' ∧
            hopAt p.scionPath b (b.pm.currHF + 1) = some hop' ∧
            v.auth = mac (macInput inf'.segID inf'.ts hop'.exp hop'.consIngress hop'.consEgress)) ∨
       (¬ EffXover localIA p b inf ∧ v.idx = b.pm.currHF ∧
          ∃ peering, determinePeer b.pm inf = some peering ∧
            v.auth = mac (macInput
              (if inf.consDir = false ∧ p.ingress ≠ 0 ∧ peering = false then (updateSegID inf hop.mac).segID else inf.segID)
              inf.ts hop.exp hop.consIngress hop.consEgress))) := by
  unfold validated at hv
  split at hv
  · cases hv
  next b hb =>
  split at hv
  next inf hop inf0 hi hh h0 =>
    split at hv
    · cases hv
    next peering hp =>
    refine ⟨b, inf, hop, inf0, hb, hi, hh, h0, ?_⟩
    split at hv
    next hx =>
      split at hv
      next inf' hop' hi' hh' =>
        cases hv
        exact ⟨rfl, rfl, Or.inl ⟨⟨hx.1, hx.2.1, hx.2.2 ▸ hp⟩, rfl, inf', hop', hi', hh', rfl⟩⟩
      · cases hv
    next hx =>
      cases hv
      refine ⟨rfl, rfl, Or.inr ⟨fun ⟨h1, h2, h3⟩ => hx ⟨h1, h2, Option.some.inj (hp.symm.trans h3)⟩, rfl, peering, hp, ?_⟩⟩
      split <;> rfl
  · cases hv

/-- **Tamper evidence of the MAC input.** For a PRF that is injective in its input (the modelling
    assumption for the untruncated CBC-MAC; e.g. `fun _ m => m` satisfies it), two packets validated with
    the same hop MAC produce the same EPIC MAC only if they agree on the info-field timestamp, the packet
    id (timestamp and counter), the source ISD-AS, the source host address and the payload length:
    changing any of them changes the MAC. (The 32-bit truncation to the HVF is outside the model.) -/
theorem epic_mac_binds_fields (prf : Prf) (hinj : ∀ k a b, prf k a = prf k b → a = b) (auth : Bytes)
    (p q : Pkt) (ts ts' : Nat) (hp : Scion.R2EpicInput.WF p ts) (hq : Scion.R2EpicInput.WF q ts')
    (h : prf auth (macInputEpic p ts) = prf auth (macInputEpic q ts')) :
    ts = ts' ∧ p.pktTs = q.pktTs ∧ p.pktCtr = q.pktCtr ∧ p.srcIA = q.srcIA ∧
      p.srcLenBits = q.srcLenBits ∧ p.srcAddr = q.srcAddr ∧ p.payloadLen = q.payloadLen :=
  Scion.R2EpicInput.macInputEpic_injective p q ts ts' hp hq (hinj _ _ _ h)

/-- the hypothesis of `epic_mac_binds_fields` is satisfiable -/
example : ∀ (k a b : Bytes), (fun (_ m : Bytes) => m) k a = (fun (_ m : Bytes) => m) k b → a = b :=
  fun _ _ _ h => h

/-- T3: the model's time constants are the ones in pkg/experimental/epic (regenerated from the source). -/
theorem gen_consts :
    maxClockSkew = Scion.Gen.Epic.MaxClockSkew ∧ maxPacketLifetime = Scion.Gen.Epic.MaxPacketLifetime ∧
    timestampResolution = Scion.Gen.Epic.TimestampResolution ∧ Scion.Gen.Epic.HVFLen = 4 ∧
    Scion.Gen.Epic.AuthLen = 16 ∧ Scion.Gen.Epic.MetadataLen = 16 := by
  refine ⟨rfl, rfl, rfl, rfl, rfl, rfl⟩

/-- the statement sequence of `processEPIC` the model was written against: the hop index is read before
    `process()`, incremented after it when an effective cross-over took place, and only then compared
    with `NumHops-2` / `NumHops-1` -/
def expectedProcessEPIC : List String :=
  ["epicPath, ok := p.scionLayer.Path.(*epic.Path)", "if !ok", "p.path = epicPath.ScionPath",
   "if p.path == nil", "currHF := int(p.path.PathMeta.CurrHF)", "disp := p.process()",
   "if disp != pForward", "if p.effectiveXover", "isPenultimate := currHF == p.path.NumHops-2",
   "isLast := currHF == p.path.NumHops-1", "if isPenultimate || isLast", "return pForward"]

/-- T3: `processEPIC` still has that shape. -/
theorem gen_processEPIC_shape : Scion.Gen.Epic.processEPICStmts = expectedProcessEPIC := rfl

/-- T3: `VerifyTimestamp` computes the offset as `(time.Duration(epicTS) + 1) * TimestampResolution`, i.e. the
    `+ 1` happens AFTER widening the 32-bit packet timestamp to 64 bits, as in the model (`(pktTs + 1)` in
    `Nat`, no wrap at `0xFFFFFFFF`), and compares against skew resp. lifetime + skew -/
theorem gen_verifyTimestamp_shape :
    Scion.Gen.Epic.verifyTimestampStmts =
      ["diff := (time.Duration(epicTS) + 1) * TimestampResolution", "tsSender := timestamp.Add(diff)",
       "if tsSender.After(now.Add(MaxClockSkew))",
       "if now.After(tsSender.Add(MaxPacketLifetime).Add(MaxClockSkew))", "return nil"] := rfl

/-- the largest packet timestamp lies more than 25 hours after the segment timestamp: with a segment
    created at `now` it is never fresh (no 32-bit wrap-around of `pktTs + 1`) -/
theorem max_pktTs_not_fresh (ts0 : Nat) : fresh ts0 4294967295 (ts0 * 1000000000) = false := by
  rw [Bool.eq_false_iff, ne_eq, fresh_iff, fresh_window, tsSender_eq]
  omega

/-! Non-vacuity: a one-segment path of two hops at its first hop (the penultimate one), packet from the
    internal network, identity "MAC" and a PRF that returns its key: the PHVF must be the first four bytes
    of the hop's MAC input, i.e. `00 00` and the SegID `00 05`. -/
def exPath : Bytes :=
  [0, 0, 0x20, 0] ++ [1, 0, 0, 5, 0, 0, 0, 100] ++
  [0, 63, 0, 0, 0, 2, 9, 9, 9, 9, 9, 9] ++ [0, 63, 0, 7, 0, 0, 8, 8, 8, 8, 8, 8]
def exPkt (phvf : Bytes) : Pkt :=
  { ingress := 0, srcIA := 1, dstIA := 2, srcLenBits := 0, srcAddr := [10, 0, 0, 1], payloadLen := 8,
    pktTs := 0, pktCtr := 1, phvf := phvf, lhvf := [0, 0, 0, 0], scionPath := exPath }

example : process 1 id (fun k _ => k) 100000000000 .fwd (exPkt [0, 0, 0, 5]) = .asInner := by decide
example : process 1 id (fun k _ => k) 100000000000 .fwd (exPkt [0, 0, 0, 6]) = .drop := by decide
-- same packet four seconds later: expired
example : process 1 id (fun k _ => k) 104000000000 .fwd (exPkt [0, 0, 0, 5]) = .drop := by decide

end Scion.C13
