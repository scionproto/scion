import Scion.Util.Hex
/-! `natBE k` and `beNat` are inverse to each other on `k`-byte strings and numbers below `256^k`.
Everything is by induction on the width, so no proof ever sees a literal like `2^64`. -/
namespace Scion.Util

theorem ofNat_inj {x y : Nat} (hx : x < 256) (hy : y < 256)
    (h : UInt8.ofNat x = UInt8.ofNat y) : x = y := by
  rw [← UInt8.toNat_ofNat_of_lt' hx, ← UInt8.toNat_ofNat_of_lt' hy, h]

theorem ofNat_eq {x : UInt8} {n : Nat} (h : n = x.toNat) : UInt8.ofNat n = x :=
  h ▸ UInt8.ofNat_toNat

@[simp] theorem length_natBE (k n : Nat) : (natBE k n).length = k := by
  induction k with
  | zero => rfl
  | succ k ih => simp [natBE, ih]

theorem natBE_add (j k n : Nat) : natBE (j + k) n = natBE j (n / 256 ^ k) ++ natBE k n := by
  induction j with
  | zero => simp [natBE]
  | succ j ih =>
    rw [Nat.add_right_comm, natBE, natBE, ih, Nat.div_div_eq_div_mul, ← Nat.pow_add, Nat.add_comm k]
    rfl

theorem beNat_foldl (acc : Nat) (l : Bytes) :
    l.foldl (fun a b => a * 256 + b.toNat) acc = acc * 256 ^ l.length + beNat l := by
  unfold beNat
  induction l generalizing acc with
  | nil => simp
  | cons b t ih =>
    simp only [List.foldl_cons, List.length_cons, Nat.zero_mul, Nat.zero_add]
    rw [ih, ih b.toNat, Nat.pow_succ, Nat.add_mul, Nat.mul_assoc, Nat.mul_comm (256 ^ _), Nat.add_assoc]

theorem beNat_cons (b : UInt8) (t : Bytes) : beNat (b :: t) = b.toNat * 256 ^ t.length + beNat t := by
  have := beNat_foldl b.toNat t
  simpa [beNat] using this

theorem beNat_append (a b : Bytes) : beNat (a ++ b) = beNat a * 256 ^ b.length + beNat b := by
  have := beNat_foldl (beNat a) b
  rwa [beNat, List.foldl_append] at *

theorem beNat_lt (l : Bytes) : beNat l < 256 ^ l.length := by
  induction l with
  | nil => simp [beNat]
  | cons b t ih =>
    have := b.toNat_lt
    rw [beNat_cons, List.length_cons, Nat.pow_succ, Nat.mul_comm _ 256]
    calc b.toNat * 256 ^ t.length + beNat t < b.toNat * 256 ^ t.length + 256 ^ t.length := by omega
      _ = (b.toNat + 1) * 256 ^ t.length := by rw [Nat.add_mul, Nat.one_mul]
      _ ≤ 256 * 256 ^ t.length := Nat.mul_le_mul_right _ (by omega)

/-- for a literal list: `beNat_lt_of_length (k := 4) rfl : beNat [a, b, c, d] < 256 ^ 4` -/
theorem beNat_lt_of_length {k : Nat} {l : Bytes} (h : l.length = k) : beNat l < 256 ^ k :=
  h ▸ beNat_lt l

theorem beNat_natBE (k n : Nat) : beNat (natBE k n) = n % 256 ^ k := by
  induction k with
  | zero => simp [natBE, beNat, Nat.mod_one]
  | succ k ih =>
    rw [natBE, beNat_cons, ih, length_natBE, UInt8.toNat_ofNat_of_lt' (Nat.mod_lt _ (by decide)),
      Nat.pow_succ, Nat.mod_mul, Nat.mul_comm, Nat.add_comm]

theorem beNat_natBE_of_lt {k n : Nat} (h : n < 256 ^ k) : beNat (natBE k n) = n := by
  rw [beNat_natBE, Nat.mod_eq_of_lt h]

theorem natBE_congr {k a b : Nat} (h : a % 256 ^ k = b % 256 ^ k) : natBE k a = natBE k b := by
  induction k with
  | zero => rfl
  | succ k ih =>
    rw [Nat.pow_succ] at h
    have hd := congrArg (· / 256 ^ k) h
    have hm := congrArg (· % 256 ^ k) h
    simp only [Nat.mod_mul_right_div_self, Nat.mod_mul_right_mod] at hd hm
    rw [natBE, natBE, hd, ih hm]

theorem natBE_beNat (l : Bytes) : natBE l.length (beNat l) = l := by
  induction l with
  | nil => rfl
  | cons b t ih =>
    have ht := beNat_lt t
    rw [List.length_cons, natBE, beNat_cons,
      natBE_congr (Nat.mul_add_mod_self_right _ _ _ : _ = beNat t % _), ih, Nat.add_comm,
      Nat.add_mul_div_right _ _ (Nat.pow_pos (by decide)), Nat.div_eq_of_lt ht, Nat.zero_add,
      Nat.mod_eq_of_lt b.toNat_lt, UInt8.ofNat_toNat]

theorem natBE_beNat_of_length {k : Nat} {l : Bytes} (h : l.length = k) : natBE k (beNat l) = l :=
  h ▸ natBE_beNat l

theorem natBE_mod {k a b : Nat} (h : natBE k a = natBE k b) : a % 256 ^ k = b % 256 ^ k := by
  rw [← beNat_natBE, ← beNat_natBE, h]

theorem natBE_inj {k a b : Nat} (ha : a < 256 ^ k) (hb : b < 256 ^ k)
    (h : natBE k a = natBE k b) : a = b := by
  have := natBE_mod h
  rwa [Nat.mod_eq_of_lt ha, Nat.mod_eq_of_lt hb] at this

end Scion.Util
