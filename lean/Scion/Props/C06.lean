import Scion.Proofs.RouterProcess
import Scion.Proofs.RouterExamples
import Scion.Gen.Router1
/-!
# C06 — Forwarding respects the link-type rules of SCION paths

Property theorems only. Model: `Scion.Model.Router` (see C01 for the tie; for this property the
engine additionally drives the complete table link type × link type × segment change × ingress
scope × egress scope × direction through the real `validateEgressID` with validly MACed packets).
"Forwarded" is the fast-path disposition `forward egress`; what the slow path does with
router-alert packets is property C10's subject.
-/
namespace Scion.C06
open Scion.Util Scion.Router
open Scion.PathMeta hiding Info

/-- interface pairs admissible within a segment -/
def WithinPair (i e : LinkType) : Prop :=
  (i = .core ∧ e = .core) ∨ (i = .child ∧ e = .parent) ∨ (i = .parent ∧ e = .child) ∨
  (i = .child ∧ e = .peer) ∨ (i = .peer ∧ e = .child)

/-- interface pairs admissible at a segment change -/
def ChangePair (i e : LinkType) : Prop :=
  (i = .core ∧ e = .child) ∨ (i = .child ∧ e = .core) ∨ (i = .child ∧ e = .child)

instance (i e : LinkType) : Decidable (WithinPair i e) := by unfold WithinPair; infer_instance
instance (i e : LinkType) : Decidable (ChangePair i e) := by unfold ChangePair; infer_instance

/-- the decision table of `validateEgressID` is exactly the rule of the property: on a segment
change the three change pairs, otherwise the five within-segment pairs (or a packet from inside
the AS, whose pair was checked by the ingress router) -/
theorem pairCheck_none_iff (x : Bool) (ifid : Nat) (i e : LinkType) :
    pairCheck x ifid i e = none ↔ (if x then ChangePair i e else (ifid = 0 ∨ WithinPair i e)) := by
  have table : pairCheck x 1 i e = none ↔ if x then ChangePair i e else WithinPair i e := by
    cases x <;> cases i <;> cases e <;> decide
  rw [pairCheck_ifid]
  cases x
  · by_cases h0 : ifid = 0
    · simp [h0]
    · simpa [h0] using table
  · simpa using table

theorem pairCheck_some (x : Bool) (ifid : Nat) (i e : LinkType) (c : Nat)
    (h : pairCheck x ifid i e = some c) : c = if x then cSegChange else cInvalidPath :=
  pairCheck_code x ifid i e c h

/-- whether this router performs an effective segment change for the received packet -/
def segChange (h : Hd) (pm : Hdr) (peering : Bool) : Bool := isXover (base h pm) && !peering

theorem forward_inv (cfg mac resolve now ing h pm raw eg)
    (hf : (process cfg mac resolve now ing h pm raw).1 = .forward eg) :
    ∃ inf peering l, getInfo h raw pm.currINF = some inf ∧ determinePeer pm inf = some peering ∧
      cfg.ifaces eg = some l ∧ l.up = true ∧ (ing.ifID = 0 → l.scope = .external) ∧
      pairCheck (segChange h pm peering) ing.ifID (cfg.ltype ing.ifID) (cfg.ltype eg) = none := by
  have hacc : (process cfg mac resolve now ing h pm raw).1.accepting = true := by rw [hf]; rfl
  obtain ⟨s0, s1, p, ⟨_, e⟩ | ⟨_, s5, l, o⟩⟩ := process_accepting_cases hacc
  · have := inbound_not_forward (resolve cfg h) s1
    rw [← e, hf] at this; simp [Disp.isForward] at this
  · have a := stParse_ok p.parse
    have b := stSegID_ends.ok p.segid
    have x := stXover_ends.ok o.xo
    have e := stEgressID_ends.ok o.egid
    have u := stEgressAlertUp_ends.ok o.up
    have heg : egressOf s5 = eg := by
      have := o.disp; rw [hf] at this; cases this; rfl
    rw [heg] at e
    refine ⟨s0.inf, s0.peering, l, a.inf, a.peer, e.1, u.2, e.2.1, ?_⟩
    have hd : doesXover h s1 = segChange h pm s0.peering := by
      unfold doesXover segChange; rw [b.hpm, a.hpm, b.peering]
    have hx : s5.effXover = doesXover h s1 := by
      cases hdx : doesXover h s1
      · rw [x.no hdx, b.eff, a.eff]
      · obtain ⟨_, _, _, _, _, _, _, _, he⟩ := x.yes hdx
        exact he
    rw [← hd, ← hx]; exact e.2.2

/-- **(1)** a packet that came from another AS is forwarded only across an admissible pair:
within a segment one of the five pairs, at a segment change one of the three -/
theorem forward_pair_allowed (cfg mac resolve now ing h pm raw eg)
    (hf : (process cfg mac resolve now ing h pm raw).1 = .forward eg) (hext : ing.ifID ≠ 0) :
    ∃ inf peering, getInfo h raw pm.currINF = some inf ∧ determinePeer pm inf = some peering ∧
      (if segChange h pm peering then ChangePair (cfg.ltype ing.ifID) (cfg.ltype eg)
       else WithinPair (cfg.ltype ing.ifID) (cfg.ltype eg)) := by
  obtain ⟨inf, peering, l, hi, hp, _, _, _, hc⟩ := forward_inv cfg mac resolve now ing h pm raw eg hf
  exact ⟨inf, peering, hi, hp, by simpa [hext] using (pairCheck_none_iff _ _ _ _).mp hc⟩

/-- **(2)** a packet from inside the AS leaves through an external interface of this router -/
theorem internal_leaves_external (cfg mac resolve now ing h pm raw eg)
    (hf : (process cfg mac resolve now ing h pm raw).1 = .forward eg) (hint : ing.ifID = 0) :
    ∃ l, cfg.ifaces eg = some l ∧ l.scope = .external := by
  obtain ⟨_, _, l, _, _, hl, _, hs, _⟩ := forward_inv cfg mac resolve now ing h pm raw eg hf
  exact ⟨l, hl, hs hint⟩

/-- … and, even from inside the AS, never across a segment change with the wrong pair: the
segment-change table applies to every ingress -/
theorem segment_change_pair_always (cfg mac resolve now ing h pm raw eg)
    (hf : (process cfg mac resolve now ing h pm raw).1 = .forward eg) :
    ∃ inf peering, getInfo h raw pm.currINF = some inf ∧ determinePeer pm inf = some peering ∧
      (segChange h pm peering = true → ChangePair (cfg.ltype ing.ifID) (cfg.ltype eg)) := by
  obtain ⟨inf, peering, l, hi, hp, _, _, _, hc⟩ := forward_inv cfg mac resolve now ing h pm raw eg hf
  refine ⟨inf, peering, hi, hp, fun hs => ?_⟩
  have := (pairCheck_none_iff _ _ _ _).mp hc
  simpa [hs] using this

/-- **multi-router ASes.** `d.linkTypes[0]` is never configured (no interface has id 0), so a
packet that arrives from inside the AS — over the internal link or over a *sibling* link — is
never taken across a segment change by this router, whatever the link types: the cross-over (and
its link-type check) belongs to the router that received the packet from the other AS. In
particular no parent→parent (or other) valley can be forwarded by handing a packet over a
sibling link before the segment change. -/
theorem inside_never_crosses (cfg mac resolve now ing h pm raw eg)
    (hf : (process cfg mac resolve now ing h pm raw).1 = .forward eg) (hint : ing.ifID = 0)
    (h0 : cfg.ltype 0 = .unset) :
    ∃ inf peering, getInfo h raw pm.currINF = some inf ∧ determinePeer pm inf = some peering ∧
      segChange h pm peering = false := by
  obtain ⟨inf, peering, hi, hp, hc⟩ := segment_change_pair_always cfg mac resolve now ing h pm raw eg hf
  refine ⟨inf, peering, hi, hp, ?_⟩
  cases hs : segChange h pm peering
  · rfl
  · have := hc hs
    rw [hint, h0] at this
    simp [ChangePair] at this

/-- the pair of AS-level links a forwarded packet traverses at a segment change is admissible,
over whichever local link it arrived: the link by which it entered the AS is the travel-direction
ingress interface of its current hop (for an external ingress that *is* the receiving interface;
from inside the AS no segment change is performed at all) -/
theorem segment_change_entry_pair (cfg mac resolve now ing h pm raw eg)
    (hf : (process cfg mac resolve now ing h pm raw).1 = .forward eg) (h0 : cfg.ltype 0 = .unset) :
    ∃ hop inf peering, getHop h raw pm.currHF = some hop ∧ getInfo h raw pm.currINF = some inf ∧
      determinePeer pm inf = some peering ∧
      (segChange h pm peering = true →
        ChangePair (cfg.ltype (travelIn inf hop)) (cfg.ltype eg)) := by
  have hacc : (process cfg mac resolve now ing h pm raw).1.accepting = true := by rw [hf]; rfl
  obtain ⟨s0, s1, p⟩ := process_accepting_inv hacc
  have a := stParse_ok p.parse
  have b := stSegID_ends.ok p.segid
  have c := stValidate1_ends.ok p.val
  obtain ⟨inf, peering, hi, hp, hc⟩ := segment_change_pair_always cfg mac resolve now ing h pm raw eg hf
  obtain rfl : s0.inf = inf := Option.some.inj (a.inf.symm.trans hi)
  obtain rfl : s0.peering = peering := Option.some.inj (a.peer.symm.trans hp)
  refine ⟨s0.hop, s0.inf, s0.peering, a.hop, hi, hp, fun hs => ?_⟩
  have hpair := hc hs
  by_cases hint : ing.ifID = 0
  · rw [hint, h0] at hpair
    simp [ChangePair] at hpair
  · have hin := c.2.2.1 hint
    have ht : travelIn s1.inf s1.hop = travelIn s0.inf s0.hop := by
      rw [b.inf, b.hop]
      split
      · rfl
      · rfl
    rw [ht] at hin
    rw [← hin]; exact hpair

/-- forwarding always goes to a configured link that is up -/
theorem forward_link_up (cfg mac resolve now ing h pm raw eg)
    (hf : (process cfg mac resolve now ing h pm raw).1 = .forward eg) :
    ∃ l, cfg.ifaces eg = some l ∧ l.up = true := by
  obtain ⟨_, _, l, _, _, hl, hu, _, _⟩ := forward_inv cfg mac resolve now ing h pm raw eg hf
  exact ⟨l, hl, hu⟩

/-- **(3)** every other combination is answered with an SCMP ParameterProblem: the complete
case analysis of `validateEgressID` -/
theorem egress_check_spec (cfg : Cfg) (h : Hd) (ing : Ingress) (s : St) :
    (∃ l, stEgressID cfg h ing s = .ok l ∧ cfg.ifaces (egressOf s) = some l ∧
        (ing.ifID = 0 → l.scope = .external) ∧
        (if s.effXover then ChangePair (cfg.ltype ing.ifID) (cfg.ltype (egressOf s))
         else (ing.ifID = 0 ∨ WithinPair (cfg.ltype ing.ifID) (cfg.ltype (egressOf s))))) ∨
    (∃ code ptr, stEgressID cfg h ing s = .error (.slow PP code ptr, s.buf) ∧
        ((code = codeUnkEg s.inf ∧ ptr = hopPtr h s.pm) ∨
         (code = cInvalidPath ∧ ptr = hopPtr h s.pm ∧ s.effXover = false) ∨
         (code = cSegChange ∧ ptr = infoPtr h s.pm ∧ s.effXover = true))) := by
  unfold stEgressID
  cases hl : cfg.ifaces (egressOf s) with
  | none => right; exact ⟨_, _, rfl, Or.inl ⟨rfl, rfl⟩⟩
  | some l =>
    simp only
    by_cases hc : (ing.ifID == 0 && l.scope != .external) = true
    · right; simp only [hc, if_true]; exact ⟨_, _, rfl, Or.inl ⟨rfl, rfl⟩⟩
    · simp only [hc]
      cases hp : pairCheck s.effXover ing.ifID (cfg.ltype ing.ifID) (cfg.ltype (egressOf s)) with
      | none =>
        left
        refine ⟨l, rfl, rfl, ?_, (pairCheck_none_iff _ _ _ _).mp hp⟩
        intro h0; simp [h0] at hc; exact hc
      | some code =>
        right
        have hcode := pairCheck_some _ _ _ _ _ hp
        refine ⟨code, pairPtr h s, rfl, ?_⟩
        cases hx : s.effXover <;> simp [hx] at hcode <;> simp [hcode, pairPtr, hx]

/-- … and at the level of `process`: when every check up to the cross-over passes and the
interface pair (or the egress interface) is not admissible, the packet is answered with an SCMP
ParameterProblem — UnknownHopField{Ingress,Egress}, InvalidPath or InvalidSegmentChange — and
nothing else happens to it -/
theorem bad_pair_answer (cfg mac resolve now ing h pm raw) (s0 s1 s5 : St)
    (p : Passed cfg mac now ing h pm raw s0 s1) (hd : h.dstIA ≠ cfg.localIA)
    (hx : stXover cfg mac h now s1 = .ok s5) (hbad : ∀ l, stEgressID cfg h ing s5 ≠ .ok l) :
    ∃ code ptr, process cfg mac resolve now ing h pm raw = (.slow PP code ptr, s5.buf) ∧
      (code = codeUnkEg s5.inf ∨ code = cInvalidPath ∨ code = cSegChange) := by
  rw [process_of_passed p]
  unfold tail
  have hb : (h.dstIA == cfg.localIA) = false := by simpa using hd
  simp only [hb, Bool.false_eq_true, if_false]
  unfold outbound
  simp only [hx]
  rcases egress_check_spec cfg h ing s5 with ⟨l, hl, _⟩ | ⟨code, ptr, he, hc⟩
  · exact absurd hl (hbad l)
  · simp only [he]
    refine ⟨code, ptr, rfl, ?_⟩
    exact hc.imp And.left (Or.imp And.left And.left)

/-- the statements above hold of raw packets: `processPkt` forwards only through `process` -/
theorem processPkt_forward (cfg mac resolve now ing) (raw : Bytes) (eg : Nat)
    (hf : (processPkt cfg mac resolve now ing raw).1 = .forward eg) :
    ∃ h pm, parse raw = .ok h pm ∧ (process cfg mac resolve now ing h pm raw).1 = .forward eg := by
  obtain ⟨h, pm, hp, e⟩ := processPkt_accepting_inv (by rw [hf]; rfl)
  exact ⟨h, pm, hp, e ▸ hf⟩

/-! ### no state between packets

In the code a `scionPacketProcessor` is reused for every packet of its goroutine; `reset()` clears
the per-packet fields (`effectiveXover`, `peering`, hop and info field, path) first. In the model
this is by construction: `process` is a function of configuration, MAC, time, ingress link and
packet, and the per-packet state is created by `stParse`. -/

/-- a processor handling a sequence of packets: the model has nothing to carry over -/
def runSeq (cfg : Cfg) (mac : Mac) (resolve : Cfg → Hd → ResolveOut)
    (pkts : List (Nat × Ingress × Bytes)) : List (Disp × Bytes) :=
  pkts.map fun p => processPkt cfg mac resolve p.1 p.2.1 p.2.2

/-- **process_stateless.** The answer to a packet does not depend on the packets the same
processor handled before it: after any two histories the packet gets the same answer, namely
`processPkt` of that packet alone. (Tie: the engine's op stream reuses one real processor per
configuration and contains deterministic two-packet sequences — a cross-over or peering packet
followed by every within-segment link-type pair — compared line by line with this model.) -/
theorem process_stateless (cfg : Cfg) (mac : Mac) (resolve : Cfg → Hd → ResolveOut)
    (pre pre' : List (Nat × Ingress × Bytes)) (now : Nat) (ing : Ingress) (raw : Bytes) :
    (runSeq cfg mac resolve (pre ++ [(now, ing, raw)])).getLast? =
      some (processPkt cfg mac resolve now ing raw) ∧
    (runSeq cfg mac resolve (pre ++ [(now, ing, raw)])).getLast? =
      (runSeq cfg mac resolve (pre' ++ [(now, ing, raw)])).getLast? := by
  simp [runSeq]

/-- the per-packet flags start afresh with every packet: the cross-over flag is false and the
peering flag is what `determinePeer` says about THIS packet -/
theorem flags_fresh (h : Hd) (pm : Hdr) (raw : Bytes) (s : St) (e : stParse h pm raw = .ok s) :
    s.effXover = false ∧ determinePeer pm s.inf = some s.peering :=
  ⟨(stParse_ok e).eff, (stParse_ok e).peer⟩

/-- T3: `processPkt` starts with `reset()`, and `reset()` clears both flags -/
theorem reset_clears_flags :
    Scion.Gen.Router1.processPktFirst =
      "if err := p.reset(); err != nil { return errorDiscard(\"error\", err) }" ∧
    "p.effectiveXover = false" ∈ Scion.Gen.Router1.resetAssigns ∧
    "p.peering = false" ∈ Scion.Gen.Router1.resetAssigns ∧
    "p.hopField = path.HopField{}" ∈ Scion.Gen.Router1.resetAssigns ∧
    "p.infoField = path.InfoField{}" ∈ Scion.Gen.Router1.resetAssigns := by
  refine ⟨rfl, ?_, ?_, ?_, ?_⟩ <;> decide

/-! ### non-vacuity -/

/-- child → child across a segment change is forwarded -/
example : (processPkt Ex.cfg Ex.idMac resolveLocal Ex.now ⟨1, 10⟩ Ex.xover).1 = .forward 2 :=
  congrArg Prod.fst Ex.xover_out
/-- the same packet when interface 2 is a parent link: rejected with InvalidSegmentChange,
pointer at the info field of the new segment -/
example : (processPkt { Ex.cfg with ltype := fun id => if id = 1 then .child else .parent }
    Ex.idMac resolveLocal Ex.now ⟨1, 10⟩ Ex.xover).1 = .slow PP cSegChange 48 := by decide

/-! ### T3: the switch the model's `pairCheck` was written against -/

theorem table_cases :
    Scion.Gen.Router1.egressWithinCases =
      ["p.ingressFromLink == 0",
       "ingressLT == topology.Core && egressLT == topology.Core",
       "ingressLT == topology.Child && egressLT == topology.Parent",
       "ingressLT == topology.Parent && egressLT == topology.Child",
       "ingressLT == topology.Child && egressLT == topology.Peer",
       "ingressLT == topology.Peer && egressLT == topology.Child", "default"] ∧
    Scion.Gen.Router1.egressChangeCases =
      ["ingressLT == topology.Core && egressLT == topology.Child",
       "ingressLT == topology.Child && egressLT == topology.Core",
       "ingressLT == topology.Child && egressLT == topology.Child", "default"] ∧
    Scion.Gen.Router1.egressIfConds =
      ["egressLink == nil || (p.ingressFromLink == 0 && egressLink.Scope() != External)",
       "!p.infoField.ConsDir", "!p.effectiveXover"] :=
  ⟨rfl, rfl, rfl⟩

theorem scmp_requests :
    Scion.Gen.Router1.req_validateEgressID =
      ["slowPathType(slayers.SCMPTypeParameterProblem)|errCode|p.currentHopPointer()",
       "slowPathType(slayers.SCMPTypeParameterProblem)|slayers.SCMPCodeInvalidPath|p.currentHopPointer()",
       "slowPathType(slayers.SCMPTypeParameterProblem)|slayers.SCMPCodeInvalidSegmentChange|p.currentInfoPointer()"] ∧
    Router.cInvalidPath = Scion.Gen.Router1.SCMPCodeInvalidPath ∧
    Router.cSegChange = Scion.Gen.Router1.SCMPCodeInvalidSegmentChange ∧
    Router.cUnkIngress = Scion.Gen.Router1.SCMPCodeUnknownHopFieldIngress ∧
    Router.cUnkEgress = Scion.Gen.Router1.SCMPCodeUnknownHopFieldEgress ∧
    Router.PP = Scion.Gen.Router1.SCMPTypeParameterProblem :=
  ⟨rfl, rfl, rfl, rfl, rfl, rfl⟩

/-- the numbering of link types used by the driver is `topology.LinkType`'s -/
theorem link_type_values :
    Scion.Gen.Router1.LinkUnset = 0 ∧ Scion.Gen.Router1.LinkCore = 1 ∧ Scion.Gen.Router1.LinkParent = 2 ∧
    Scion.Gen.Router1.LinkChild = 3 ∧ Scion.Gen.Router1.LinkPeer = 4 := ⟨rfl, rfl, rfl, rfl, rfl⟩

theorem stage_order : Scion.Gen.Router1.processCalls = Router.processCallOrder := rfl

end Scion.C06
