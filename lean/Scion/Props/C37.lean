import Scion.Model.Renewal
import Scion.Props.C34
import Scion.Gen.Pki2
/-!
# C37 — Certificate renewal is granted only to the certified AS itself

Property theorems only.  The model (`Scion.Model.Renewal`) mirrors
`RequestVerifier.VerifyCMSSignedRenewalRequest` (with `ExtractChain`, `VerifySignature`,
`verifyClientChain`, `verifyWithGraceTRC`, `verifySignerInfo`, `processCSR`) and
`CAPolicy.CreateChain`; it is tied to the real functions by `harness/cmd/renewal` on real CMS
messages, CSRs and certificates built per case.  CMS/X.509/ECDSA are oracles (facts obtained by
calling the primitives); the meaning of "the chain verifies against a TRC" is C34.
-/
namespace Scion.C37
open Scion.Chain Scion.Renewal

/-- `ExtractChain` succeeds exactly on two certificates that are, in either order, a valid AS
certificate and a valid CA certificate forming a valid chain (`swapped` says the CA came first) -/
theorem extractChain_ok_iff (certsOk : Bool) (certs : List (Option Cert)) (a c : Cert) (sw : Bool) :
    extractChain certsOk certs = .ok (a, c, sw) ↔
      certsOk = true ∧ certs = (if sw then [some c, some a] else [some a, some c]) ∧
      validateChain [some a, some c] = .ok (a, c) := by
  constructor
  · intro h
    unfold extractChain at h
    rw [ite_error_eq_ok] at h
    obtain ⟨hok, h⟩ := h
    split at h
    case h_2 => cases h
    split at h; · cases h
    -- in either order the pair handed to `validateChain` comes back as `(a, c)`
    split at h <;> split at h <;> cases h
    all_goals
      rename_i hv
      obtain ⟨hc, _⟩ := (C34.validateChain_ok_iff _ _ _).1 hv
      cases hc
      exact ⟨by simpa using hok, by simp, hv⟩
  · rintro ⟨hok, hc, hv⟩
    obtain ⟨_, hva, hvc, _, _⟩ := (C34.validateChain_ok_iff _ _ _).1 hv
    cases sw
    · simp only [Bool.false_eq_true, ↓reduceIte] at hc
      subst hc
      simp [extractChain, hok, hva, hv]
    · simp only [↓reduceIte] at hc
      subst hc
      simp [extractChain, hok, hvc, hv]

theorem verifyWithGrace_ok_iff (f : TrcFacts) :
    verifyWithGrace f = .ok () ↔
      ∃ g, f.pred = .found g ∧ (g.notBefore ≤ f.now ∧ f.now ≤ g.notAfter) ∧ f.okPred = true := by
  unfold verifyWithGrace
  cases f.pred <;> simp [ite_error_eq_ok, contains_iff]

/-- **TRC condition.**  The client chain is accepted iff the ISD's latest TRC is currently valid
and the chain verifies against it — or, failing that, the current time is not after the latest
TRC's grace-period end, the predecessor TRC exists, is itself currently valid, and the chain
verifies against the predecessor. -/
theorem verifyClientChain_ok_iff (a : Cert) (f : TrcFacts) :
    verifyClientChain a f = .ok () ↔
      (∃ ia, a.subjectIA = .ok ia) ∧
      ∃ L, f.latest = .found L ∧ (L.notBefore ≤ f.now ∧ f.now ≤ L.notAfter) ∧
        (f.okLatest = true ∨
          (f.now ≤ L.graceEnd f.zeroTime ∧
            ∃ g, f.pred = .found g ∧ (g.notBefore ≤ f.now ∧ f.now ≤ g.notAfter) ∧
              f.okPred = true)) := by
  unfold verifyClientChain
  rw [← isOk_iff]
  cases f.latest <;>
    simp [ite_error_eq_ok, ite_else_error_eq_ok, verifyWithGrace_ok_iff, contains_iff, Int.not_lt,
      Decidable.or_iff_not_imp_left]

/-- **CMS condition.**  `VerifySignature` accepts iff the SignedData has version 1, exactly one
signer info whose signer identifier selects the AS certificate of the chain, the chain passes
the TRC condition, the content is of type data, the signed message-digest attribute equals the
digest of the payload and the signature over the signed attributes checks against the AS
certificate's key. -/
theorem verifySignature_ok_iff (a : Cert) (s : SigFacts) (f : TrcFacts) :
    verifySignature a s f = .ok () ↔
      s.sdVersion = 1 ∧ s.nSignerInfos = 1 ∧ s.signerIdx = some 0 ∧
      verifyClientChain a f = .ok () ∧ s.isTypeData = true ∧ s.econtentOk = true ∧
      s.digestMatch = true ∧ s.sigOk = true := by
  unfold verifySignature
  cases s.signerIdx <;> cases verifyClientChain a f <;> simp [ite_error_eq_ok, ite_else_error_eq_ok]

theorem processCSR_ok_iff (csr : CsrFacts) (a : Cert) :
    processCSR csr a = .ok () ↔
      (∃ ia, csr.subjectIA = .ok ia ∧ a.subjectIA = .ok ia) ∧ csr.sigOk = true := by
  unfold processCSR
  cases csr.subjectIA <;> cases a.subjectIA <;> simp [ite_else_error_eq_ok]
  exact fun _ => eq_comm

/-- **`renewal_accept_iff`.**  A renewal request is accepted (and `(a, c)` is its client chain)
iff the CMS envelope parses, it carries exactly the chain `a`, `c` (AS + issuing-CA profile,
either order), `VerifySignature` accepts, the payload parses as a CSR whose subject ISD-AS equals
the subject ISD-AS of the AS certificate `a`, and the CSR's self-signature is valid. -/
theorem renewal_accept_iff (r : Request) (a c : Cert) :
    verifyRequest r = .ok (a, c) ↔
      r.parseOk = true ∧ (∃ sw, extractChain r.certsOk r.certs = .ok (a, c, sw)) ∧
      verifySignature a r.sig r.trc = .ok () ∧ r.csr.parseOk = true ∧
      (∃ ia, r.csr.subjectIA = .ok ia ∧ a.subjectIA = .ok ia) ∧ r.csr.sigOk = true := by
  constructor
  · intro h
    unfold verifyRequest at h
    rw [ite_error_eq_ok] at h
    obtain ⟨hp, h⟩ := h
    split at h; · cases h
    rename_i a' c' sw hx
    split at h; · cases h
    rename_i hs
    simp only [ite_error_eq_ok] at h
    obtain ⟨_, hcp, h⟩ := h
    split at h; · cases h
    rename_i hcsr
    cases h
    exact ⟨by simpa using hp, ⟨sw, hx⟩, hs, by simpa using hcp, (processCSR_ok_iff _ _).1 hcsr⟩
  · rintro ⟨hp, ⟨sw, hx⟩, hs, hcp, hcsr⟩
    have hec := ((verifySignature_ok_iff _ _ _).1 hs).2.2.2.2.2.1
    simp [verifyRequest, hp, hx, hs, hec, hcp, (processCSR_ok_iff _ _).2 hcsr]

/-- **C37, first sentence.**  An accepted request is a CMS message with a single signer whose
certificate is the AS certificate of the included (valid) chain; that chain verifies against the
ISD's currently valid latest TRC, or against its currently valid predecessor no later than the
grace-period end; the signature covers the request; the request's subject ISD-AS equals the
chain's; and the request's own signature is valid. -/
theorem renewal_accept_statement (r : Request) (a c : Cert) (h : verifyRequest r = .ok (a, c)) :
    r.sig.nSignerInfos = 1 ∧ r.sig.signerIdx = some 0 ∧
    validateChain [some a, some c] = .ok (a, c) ∧
    (∃ L, r.trc.latest = .found L ∧ (L.notBefore ≤ r.trc.now ∧ r.trc.now ≤ L.notAfter) ∧
      (r.trc.okLatest = true ∨
        (r.trc.now ≤ L.graceEnd r.trc.zeroTime ∧
          ∃ g, r.trc.pred = .found g ∧ (g.notBefore ≤ r.trc.now ∧ r.trc.now ≤ g.notAfter) ∧
            r.trc.okPred = true))) ∧
    (r.sig.digestMatch = true ∧ r.sig.sigOk = true) ∧
    (∃ ia, r.csr.subjectIA = .ok ia ∧ a.subjectIA = .ok ia) ∧ r.csr.sigOk = true := by
  obtain ⟨_, ⟨sw, hx⟩, hs, _, hia, hcs⟩ := (renewal_accept_iff r a c).1 h
  obtain ⟨_, hn, hi, hc, _, _, hd, hsg⟩ := (verifySignature_ok_iff _ _ _).1 hs
  obtain ⟨_, _, hv⟩ := (extractChain_ok_iff _ _ _ _ _).1 hx
  exact ⟨hn, hi, hv, ((verifyClientChain_ok_iff _ _).1 hc).2, ⟨hd, hsg⟩, hia, hcs⟩

/-- a request whose CSR names another ISD-AS than the signing chain's AS certificate is never
accepted: renewal is granted only to the certified AS itself -/
theorem other_as_rejected (r : Request) (a c : Cert) (x y : Nat)
    (hx : r.csr.subjectIA = .ok x) (hy : a.subjectIA = .ok y) (hne : x ≠ y) :
    verifyRequest r ≠ .ok (a, c) := by
  intro h
  obtain ⟨_, _, _, _, ⟨ia, h1, h2⟩, _⟩ := (renewal_accept_iff r a c).1 h
  rw [hx] at h1; rw [hy] at h2
  injection h1 with h1; injection h2 with h2
  omega

/-- under a base TRC (no grace period) the chain must verify against the latest TRC itself -/
theorem base_trc_no_grace (a : Cert) (f : TrcFacts) (L : TrcInfo) (hL : f.latest = .found L)
    (hb : L.base = L.serial) (hz : f.zeroTime < f.now) (h : verifyClientChain a f = .ok ()) :
    f.okLatest = true := by
  obtain ⟨_, L', hL', _, hor⟩ := (verifyClientChain_ok_iff a f).1 h
  rw [hL] at hL'; injection hL' with hL'; subst hL'
  rcases hor with h1 | ⟨h2, _⟩
  · exact h1
  · rw [graceEnd_of_eq hb] at h2
    omega

/-! ## Second sentence: chains issued by the CA -/

theorem truncSec_le (t : Int) : truncSec t ≤ t := by unfold truncSec; omega

/-- **`issued_chain_props`.**  A chain issued by `CreateChain` consists of the policy's CA
certificate and a new AS certificate that carries the requested key and subject ISD-AS, forms a
valid chain with the CA certificate (AS/CA profiles, CA validity covers it), starts at the
signing time and ends no later than signing time + policy validity, and never outlives the CA
certificate. -/
theorem issued_chain_props (i : IssueIn) (a c : Cert) (h : createChain i = .ok (a, c)) :
    c = i.ca ∧ a.keyId = i.csrKeyId ∧ a.subjectIA = i.csrSubjectIA ∧
    validateChain [some a, some c] = .ok (a, c) ∧
    a.notAfter ≤ c.notAfter ∧ c.notBefore ≤ a.notBefore ∧
    a.notBefore = truncSec i.now ∧ a.notAfter = truncSec (i.now + i.validity) ∧
    a.notAfter ≤ i.now + i.validity ∧ i.now + i.validity ≤ c.notAfter ∧ c.notBefore ≤ i.now := by
  unfold createChain at h
  split at h
  · cases h
  · rename_i hcov
    split at h
    · cases h
    · split at h
      · cases h
      · split at h
        · rename_i p hv
          injection h with h; subst h
          obtain ⟨hc, _, _, hb, hna⟩ := (C34.validateChain_ok_iff _ _ _).1 hv
          cases hc
          have hcov' : i.ca.notBefore ≤ i.now ∧ i.now + i.validity ≤ i.ca.notAfter := by
            simpa [covers] using hcov
          exact ⟨rfl, rfl, rfl, hv, hna, hb, rfl, rfl, truncSec_le _, hcov'.2, hcov'.1⟩
        · cases h

/-- the issued certificate is in the AS profile (so it is usable for the next renewal) -/
theorem issued_is_as_profile (i : IssueIn) (a c : Cert) (h : createChain i = .ok (a, c)) :
    C34.ASProfile a ∧ C34.CAProfile c := by
  obtain ⟨_, _, _, hv, _⟩ := issued_chain_props i a c h
  obtain ⟨_, ha, hc, _, _⟩ := (C34.validateChain_ok_iff _ _ _).1 hv
  exact ⟨((C34.validateCert_as_iff a).1 ha).2, (C34.validateCert_ca_iff c).1 hc⟩

/-! ## Facts regenerated from the source (T3) -/

theorem gen_call_order :
    Gen.Pki2.verifyRequestCalls =
      ["ParseContentInfo", "SignedDataContent", "ExtractChain", "VerifySignature", "EContentValue",
       "ParseCertificateRequest", "processCSR"] ∧
    Gen.Pki2.extractChainCalls = ["X509Certificates", "ValidateCert", "ValidateChain"] ∧
    Gen.Pki2.verifySignatureCalls =
      ["FindCertificate", "verifyClientChain", "IsTypeData", "EContentValue", "verifySignerInfo"] ∧
    Gen.Pki2.verifyClientChainCalls =
      ["ExtractIA", "SignedTRC", "IsZero", "Contains", "VerifyChain", "GracePeriodEnd",
       "verifyWithGraceTRC"] ∧
    Gen.Pki2.verifyWithGraceCalls = ["SignedTRC", "IsZero", "Contains", "VerifyChain"] ∧
    Gen.Pki2.processCSRCalls = ["ExtractIA", "ExtractIA", "Equal", "CheckSignature"] ∧
    Gen.Pki2.createChainCalls =
      ["Covers", "SubjectKeyID", "CreateCertificate", "ParseCertificate", "ValidateChain"] :=
  ⟨rfl, rfl, rfl, rfl, rfl, rfl, rfl⟩

/-! ## Non-vacuity -/

def exTrc : TrcFacts :=
  { latest := .found ⟨1, 2, -10, 1000, 60⟩, pred := .found ⟨1, 1, -5000, 500, 0⟩, now := 1,
    zeroTime := -1000000, okLatest := false, okPred := true }

def exSig : SigFacts :=
  { sdVersion := 1, nSignerInfos := 1, signerIdx := some 0, isTypeData := true,
    econtentOk := true, digestMatch := true, sigOk := true }

def exReq : Request :=
  { parseOk := true, certsOk := true, certs := [some C34.exCA, some C34.exAS], sig := exSig,
    trc := exTrc, csr := ⟨true, .ok 0x1ff0000000111, true, 9⟩ }

/-- accepted through the predecessor TRC inside the grace period, CA certificate listed first -/
example : verifyRequest exReq = .ok (C34.exAS, C34.exCA) := by rfl
/-- the same request for another subject is refused -/
example : verifyRequest { exReq with csr := ⟨true, .ok 0x1ff0000000112, true, 9⟩ } =
    .error .subjectMismatch := by rfl
/-- … and after the grace period as well -/
example : verifyRequest { exReq with trc := { exTrc with now := 100 } } =
    .error (.sig (.client .verifyAfterGrace)) := by rfl

def exIssue : IssueIn :=
  { ca := C34.exCA, validity := 3600500000000, now := 1500000000, csrSubjectIA := .ok 0x1ff0000000111,
    csrKeyId := 9, skidOk := true, createOk := true, sigAlg := 10, caSkidEmpty := false,
    caSkidIsNew := false }

def exCAns : Cert := { C34.exCA with notBefore := -18000000000000, notAfter := 18000000000000 }

example : (createChain { exIssue with ca := exCAns }).toOption.map
    (fun p => (p.1.notBefore, p.1.notAfter)) = some (1000000000, 3602000000000) := by rfl

end Scion.C37
