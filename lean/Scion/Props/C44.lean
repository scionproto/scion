import Scion.Model.Dispatcher
import Scion.Proofs.Wire
import Scion.Gen.Wire
import Scion.Gen.Disp
/-!
# C44 — The shim dispatcher never reflects traffic to unintended hosts

Model: `Scion.Model.Dispatcher.process` — the decision of
`Server.processMsgNextHop` as a function of the received bytes, the outer IP destination
(`underlay`) and the configuration — tied to `dispatcher/dispatcher.go` by
`harness/cmd/dispatcher` through the `verif` hook.  `Out.reply` is by construction sent to
`prevHop` (the Go code assigns `dstAddrPort = prevHop` in that branch and nowhere else), `Out.fwd`
carries the received bytes unchanged.
-/
namespace Scion.C44
open Scion.Dispatcher Scion.Wire Scion.WireExt Scion.Util

/-- the header the decision is based on is the decoded SCION header of the datagram (decoded as
the dispatcher's recycled layer does: unknown path types are carried as an opaque path) -/
theorem parsed_hdr_is_decoded (data : Bytes) (p : Parsed) (h : parseLayers data = some p) :
    ∃ payload, decodeSCIONRecycle data = .ok (p.hdr, payload, p.rawPath) := by
  unfold parseLayers at h
  split at h
  · cases h
  · rename_i hdr pl rp hd
    have key : ∀ n prev e2e nh d q, parseL4 hdr rp n prev e2e nh d = some q →
        q.hdr = hdr ∧ q.rawPath = rp := by
      intro n prev e2e nh d q hq
      unfold parseL4 at hq
      repeat' split at hq
      all_goals first | (cases hq; exact ⟨rfl, rfl⟩) | cases hq
    have key2 : ∀ n prev nh d q, parseE2E hdr rp n prev nh d = some q →
        q.hdr = hdr ∧ q.rawPath = rp := by
      intro n prev nh d q hq
      unfold parseE2E at hq
      repeat' split at hq
      all_goals first | (cases hq; exact ⟨rfl, rfl⟩) | cases hq | exact key _ _ _ _ _ _ hq
    refine ⟨pl, ?_⟩
    have : p.hdr = hdr ∧ p.rawPath = rp := by
      repeat' split at h
      all_goals first | (cases h; exact ⟨rfl, rfl⟩) | cases h | exact key2 _ _ _ _ _ h
    rw [this.1, this.2]
    exact hd

/-- for the four known path types the recycled layer decodes exactly as `Wire.decodeSCION` -/
theorem recycle_known_path (data : Bytes) (h : Hdr) (payload : Bytes)
    (hd : decodeSCIONRecycle data = .ok (h, payload, false)) :
    decodeSCION data = .ok (h, payload) := by
  unfold decodeSCIONRecycle at hd
  split at hd
  · cases hd
  · split at hd
    · split at hd
      · cases hd
      · rename_i h' p' he
        cases hd
        exact he
    · repeat' split at hd
      all_goals cases hd

/-- what a forwarding decision rests on: the dispatcher function is on, the address found by
`getDstSCMP` (for an SCMP message that is no echo/traceroute request) or `getDstSCIONUDP` is the
outer IP destination -/
theorem process_fwd {cfg : Cfg} {data underlay ip : Bytes} {port : Nat}
    (h : process cfg data underlay = .fwd ip port) :
    cfg.isDispatcher = true ∧ unmap ip = unmap underlay ∧
    ∃ p, parseLayers data = some p ∧ 2 ≤ p.nLayers ∧
      ((∃ sh pl, p.last = .scmp sh pl ∧ sh.typ ≠ 128 ∧ sh.typ ≠ 130 ∧
          getDstSCMP p.hdr sh pl = some (ip, port)) ∨
       (∃ u, p.last = .udp u ∧ getDstSCIONUDP cfg p.hdr u = some (ip, port))) := by
  unfold process at h
  split at h
  · cases h
  · rename_i p hp
    split at h
    · cases h
    · rename_i hn
      split at h
      · rename_i sh pl hl
        split at h
        · split at h
          · cases h
          · unfold mkReply at h
            split at h
            · cases h
            · split at h <;> cases h
        · rename_i hreq
          split at h
          · cases h
          · rename_i hdisp
            split at h
            · cases h
            · rename_i ip' port' hg
              split at h
              · rename_i hu
                cases h
                exact ⟨by simpa using hdisp, hu, p, hp, by omega,
                  Or.inl ⟨sh, pl, hl, by omega, by omega, hg⟩⟩
              · cases h
      · rename_i u hl
        split at h
        · cases h
        · rename_i hdisp
          split at h
          · cases h
          · rename_i ip' port' hg
            split at h
            · rename_i hu
              cases h
              exact ⟨by simpa using hdisp, hu, p, hp, by omega, Or.inr ⟨u, hl, hg⟩⟩
            · cases h
      · cases h

theorem addrPortFromBytes_some {raw : Bytes} {pt : Nat} {r : Bytes × Nat}
    (h : addrPortFromBytes raw pt = some r) :
    r = (raw, pt) ∧ (raw.length = 4 ∨ raw.length = 16) := by
  unfold addrPortFromBytes at h
  split at h
  · cases h; exact ⟨rfl, by assumption⟩
  · cases h

/-- **Forwarding.**  A datagram is forwarded (unchanged) only with the dispatcher function
enabled, only to an IP address equal to the outer IP destination of the datagram, and that address
is the packet's own SCION destination host — or, for a SCION/UDP packet to a service address, the
address registered for exactly that (ISD-AS, service). -/
theorem forward_only_to_own_dst (cfg : Cfg) (data underlay ip : Bytes) (port : Nat)
    (h : process cfg data underlay = .fwd ip port) :
    cfg.isDispatcher = true ∧ unmap ip = unmap underlay ∧
    ∃ p, parseLayers data = some p ∧
      ((ip = p.hdr.rawDst ∧ (ip.length = 4 ∨ ip.length = 16)) ∨
       (p.hdr.cmn.dstType = 4 ∧ ∃ e ∈ cfg.svcs, e.ia = p.hdr.dstIA ∧ e.ip = ip ∧ e.port = port ∧
          ∃ a b rest, p.hdr.rawDst = a :: b :: rest ∧ e.svc = beNat [a, b])) := by
  obtain ⟨hdisp, hu, p, hp, _, ⟨sh, pl, _, _, _, hg⟩ | ⟨u, _, hg⟩⟩ := process_fwd h
  · refine ⟨hdisp, hu, p, hp, Or.inl ?_⟩
    -- getDstSCMP always answers with RawDstAddr of 4 or 16 bytes
    unfold getDstSCMP at hg
    repeat' split at hg
    all_goals first
      | cases hg
      | (obtain ⟨e1, e2⟩ := addrPortFromBytes_some hg; cases e1; exact ⟨rfl, e2⟩)
  · refine ⟨hdisp, hu, p, hp, ?_⟩
    unfold getDstSCIONUDP at hg
    split at hg
    · rename_i hsvc
      split at hg
      · rename_i a b rest hraw
        unfold lookupSvc at hg
        split at hg
        · rename_i e he
          cases hg
          have hm := List.find?_some he
          have hin := List.mem_of_find?_eq_some he
          simp only [Bool.and_eq_true, beq_iff_eq] at hm
          exact Or.inr ⟨hsvc, e, hin, hm.1, rfl, rfl, a, b, rest, hraw, hm.2⟩
        · cases hg
      · cases hg
    · split at hg
      · obtain ⟨e1, e2⟩ := addrPortFromBytes_some hg
        cases e1
        exact Or.inl ⟨rfl, e2⟩
      · cases hg

/-- **The forwarding port** is the SCION/UDP destination port for a UDP packet to an IP host, and
what `getDstSCMP` derives (identifier of an echo/traceroute reply, quoted UDP source port or quoted
echo/traceroute identifier) for an SCMP message that is not an echo/traceroute request. -/
theorem forward_port (cfg : Cfg) (data underlay ip : Bytes) (port : Nat)
    (h : process cfg data underlay = .fwd ip port) :
    ∃ p, parseLayers data = some p ∧ 2 ≤ p.nLayers ∧
      ((∃ u, p.last = .udp u ∧ (p.hdr.cmn.dstType = 4 ∨ port = u.dstPort)) ∨
       (∃ sh pl, p.last = .scmp sh pl ∧ sh.typ ≠ 128 ∧ sh.typ ≠ 130 ∧
          getDstSCMP p.hdr sh pl = some (ip, port))) := by
  obtain ⟨_, _, p, hp, hn, hs | ⟨u, hl, hg⟩⟩ := process_fwd h
  · exact ⟨p, hp, hn, Or.inr hs⟩
  · refine ⟨p, hp, hn, Or.inl ⟨u, hl, ?_⟩⟩
    unfold getDstSCIONUDP at hg
    split at hg
    · left; assumption
    · split at hg
      · cases (addrPortFromBytes_some hg).1
        right; rfl
      · cases hg

/-- **Echo / traceroute requests** are the only datagrams answered; the answer (sent to
`prevHop`) has ISD-ASes swapped, host addresses swapped (`repack` = `PackAddr ∘ ParseAddr`), the
path reversed, the reply type with code 0, and `NextHdr` = SCMP.  This holds with the dispatcher
function on or off. -/
theorem info_request_reply_to_prev_hop (cfg : Cfg) (data underlay : Bytes) (rh : Hdr) (t : Nat)
    (e : Bool) (h : process cfg data underlay = .reply rh t e) :
    ∃ p sh pl, parseLayers data = some p ∧ p.last = .scmp sh pl ∧ (sh.typ = 128 ∨ sh.typ = 130) ∧
      p.rawPath = false ∧ t = sh.typ + 1 ∧ rh.dstIA = p.hdr.srcIA ∧ rh.srcIA = p.hdr.dstIA ∧
      repack p.hdr.cmn.srcType p.hdr.rawSrc = some (rh.cmn.dstType, rh.rawDst) ∧
      repack p.hdr.cmn.dstType p.hdr.rawDst = some (rh.cmn.srcType, rh.rawSrc) ∧
      reversePath p.hdr.cmn.pathType p.hdr.path = some (rh.cmn.pathType, rh.path) ∧
      rh.cmn.nextHdr = 202 := by
  unfold process at h
  split at h
  · cases h
  · rename_i p hp
    split at h
    · cases h
    · split at h
      · rename_i sh pl hl
        split at h
        · rename_i hreq
          split at h
          · cases h
          rename_i hraw
          refine ⟨p, sh, pl, hp, hl, hreq, by simpa using hraw, ?_⟩
          unfold mkReply at h
          split at h
          · cases h
          rename_i h0 hh
          split at h
          · cases h
          cases h
          unfold replyHdr at hh
          split at hh
          · rename_i nst nsrc ndt ndst hs hd
            split at hh
            · cases hh
            · rename_i pt rp hrev
              cases hh
              exact ⟨rfl, rfl, rfl, hs, hd, hrev, rfl⟩
          · cases hh
        · repeat' split at h
          all_goals cases h
      · repeat' split at h
        all_goals cases h
      · cases h

/-- **Everything else is dropped**: a datagram that does not parse, has fewer than two layers, or
whose last decoded layer is neither SCION/UDP nor SCMP. -/
theorem everything_else_dropped (cfg : Cfg) (data underlay : Bytes)
    (h : match parseLayers data with
         | none => True
         | some p => p.nLayers < 2 ∨ p.last = .scion ∨ p.last = .hbh ∨ p.last = .e2e) :
    process cfg data underlay = .drop := by
  unfold process
  split
  · rfl
  · rename_i p hp
    rw [hp] at h
    simp only at h
    split
    · rfl
    · rename_i hn
      rcases h with h | h | h | h
      · omega
      all_goals (rw [h])

/-- **Dispatcher function disabled**: nothing is ever forwarded; only echo/traceroute requests
are handled. -/
theorem disabled_only_info_requests (cfg : Cfg) (data underlay : Bytes)
    (hd : cfg.isDispatcher = false) :
    process cfg data underlay = .drop ∨ ∃ rh t e, process cfg data underlay = .reply rh t e := by
  cases hp : process cfg data underlay with
  | drop => exact Or.inl rfl
  | reply rh t e => exact Or.inr ⟨rh, t, e, rfl⟩
  | fwd ip port =>
    have := (forward_only_to_own_dst cfg data underlay ip port hp).1
    rw [hd] at this
    cases this

/-- swapping keeps the host: an IPv4 or IPv6 address comes back as the same address up to the
IPv4-in-IPv6 mapping (`PackAddr` unmaps), of a length `addrPortFromBytes` accepts -/
theorem repack_ip (t : Nat) (raw : Bytes) (nt : Nat) (nraw : Bytes) (ht : t = 0 ∨ t = 3)
    (hl : raw.length = addrLen t) (h : repack t raw = some (nt, nraw)) :
    unmap nraw = unmap raw ∧ (nt = 0 ∨ nt = 3) := by
  unfold repack at h
  rcases ht with rfl | rfl
  · simp only [if_true] at h
    cases h
    rw [fit_eq 4 raw hl]
    exact ⟨rfl, Or.inl rfl⟩
  · simp only [show ¬ (3 = 0) by decide, if_false, if_true] at h
    rw [fit_eq 16 raw hl] at h
    split at h
    · rename_i hu
      cases h
      refine ⟨?_, Or.inl rfl⟩
      exact unmap_len4 _ hu
    · cases h
      exact ⟨rfl, Or.inr rfl⟩
where
  unmap_len4 (x : Bytes) (h : x.length = 4) : unmap x = x := by
    match x, h with
    | [a, b, c, d], _ => simp [unmap]

/-- constants the decision depends on, re-extracted from the source on every run -/
theorem gen_consts :
    Scion.Gen.Wire.L4UDP = 17 ∧ Scion.Gen.Wire.L4SCMP = 202 ∧ Scion.Gen.Wire.HopByHopClass = 200 ∧
    Scion.Gen.Wire.End2EndClass = 201 ∧ Scion.Gen.Wire.T4Ip = 0 ∧ Scion.Gen.Wire.T4Svc = 4 ∧
    Scion.Gen.Wire.T16Ip = 3 ∧ Scion.Gen.Wire.EpicPathType = 3 ∧ Scion.Gen.Wire.ScionPathType = 1 ∧
    Scion.Gen.Disp.SCMPTypeEchoRequest = 128 ∧ Scion.Gen.Disp.SCMPTypeEchoReply = 129 ∧
    Scion.Gen.Disp.SCMPTypeTracerouteRequest = 130 ∧ Scion.Gen.Disp.SCMPTypeTracerouteReply = 131 ∧
    Scion.Gen.Disp.prevHopAssignments = 1 := by decide

/-! Non-vacuity: concrete datagrams exercise the three outcomes (checked by evaluation). -/
def exCfg : Cfg := ⟨true, []⟩
/-- SCION/UDP to 10.1.2.3:8080 over an empty path -/
def exUdp : Bytes :=
  [0, 0, 0, 1, 17, 9, 0, 9, 0, 0, 0, 0,
   0, 1, 0xff, 0, 0, 0, 1, 0x10, 0, 2, 0xff, 0, 0, 0, 2, 0x20, 10, 1, 2, 3, 10, 9, 9, 9,
   0x30, 0x39, 0x1f, 0x90, 0, 9, 0, 0, 0x55]
/-- the same header carrying an SCMP echo request -/
def exEcho : Bytes :=
  [0, 0, 0, 1, 202, 9, 0, 8, 0, 0, 0, 0,
   0, 1, 0xff, 0, 0, 0, 1, 0x10, 0, 2, 0xff, 0, 0, 0, 2, 0x20, 10, 1, 2, 3, 10, 9, 9, 9,
   128, 0, 0, 0, 0x12, 0x34, 0, 1]

example : process exCfg exUdp [10, 1, 2, 3] = .fwd [10, 1, 2, 3] 8080 := by decide
example : process exCfg exUdp [10, 1, 2, 4] = .drop := by decide
def replyInfo : Out → Option (Nat × Bool × Bytes × Bytes × Nat × Nat)
  | .reply rh t e => some (t, e, rh.rawDst, rh.rawSrc, rh.dstIA, rh.srcIA)
  | _ => none
example : replyInfo (process exCfg exEcho [10, 1, 2, 3]) =
    some (129, false, [10, 9, 9, 9], [10, 1, 2, 3], 0x0002ff0000000220, 0x0001ff0000000110) := by
  decide
example : replyInfo (process ⟨false, []⟩ exEcho []) =
    some (129, false, [10, 9, 9, 9], [10, 1, 2, 3], 0x0002ff0000000220, 0x0001ff0000000110) := by
  decide
example : process ⟨false, []⟩ exUdp [10, 1, 2, 3] = .drop := by decide

/-! ### two behaviours of the reply branch that the statement does not cover

Reading of the statement: it constrains *where traffic goes* (forward only to the packet's own
destination on this host; answer echo/traceroute only towards the previous hop, addresses swapped,
path reversed; drop the rest).  Both behaviours below keep all of that — the reply goes to
`prevHop` only, with swapped addresses and the reversed path content — but produce a reply the next
hop cannot use.  A reply that does not decode is discarded by the previous hop: nothing reaches an
unintended host, so neither is a violation of C44; they are recorded here (and in the registry
`level_note`) as facts about the code. -/

/-- (a) whatever extension headers the request had, the reply's SCION header announces SCMP as
next header — also when the E2E extension is serialized in front of the SCMP header (`e = true`) -/
theorem reply_nexthdr_is_scmp (cfg : Cfg) (data underlay : Bytes) (rh : Hdr) (t : Nat) (e : Bool)
    (h : process cfg data underlay = .reply rh t e) : rh.cmn.nextHdr = 202 := by
  obtain ⟨_, _, _, _, _, _, _, _, _, _, _, _, _, hn⟩ :=
    info_request_reply_to_prev_hop cfg data underlay rh t e h
  exact hn

/-- (b) reversing a one-hop path yields a SCION path but `reverseSCION` leaves the `PathType`
field as it was (only the EPIC case rewrites it) -/
theorem onehop_reply_keeps_pathtype (pt : Nat) (i : Info) (h1 h2 : Hop) (pt' : Nat) (p' : PathV)
    (h : reversePath pt (.onehop i h1 h2) = some (pt', p')) :
    pt' = pt ∧ ∃ body, p' = .scion ⟨0, 0, 2, 0, 0⟩ body ∧ body.length = 32 := by
  simp only [reversePath] at h
  split at h
  · cases h
  · cases h
    exact ⟨rfl, _, rfl, by simp [length_encInfo, length_encHop]⟩

/-- … so such a reply (PathType one-hop, 36 path bytes) is rejected by `SCION.DecodeFromBytes`:
a concrete echo request over a one-hop path, its reply, and the decoder's answer -/
def exOhpReq : Hdr :=
  { cmn := ⟨0, 0, 1, 202, 17, 8, 2, 0, 0⟩, dstIA := 0x0001ff0000000110, srcIA := 0x0002ff0000000220,
    rawDst := [10, 1, 2, 3], rawSrc := [10, 9, 9, 9],
    path := .onehop ⟨false, true, 7, 1700000000⟩ ⟨false, false, 63, 0, 5, [1, 2, 3, 4, 5, 6]⟩
      ⟨false, false, 63, 9, 0, [6, 5, 4, 3, 2, 1]⟩ }

def replyDecodes (o : Out) : Option Bool :=
  match o with
  | .reply rh _ _ =>
    match encodeSCION rh with
    | .ok rb => (match decodeSCION (rb ++ [129, 0, 0, 0, 0x12, 0x34, 0, 1]) with
      | .ok _ => some true | .error _ => some false)
    | .error _ => none
  | _ => none

example : (match encodeSCION exOhpReq with
    | .ok b => replyDecodes (process exCfg (b ++ [128, 0, 0, 0, 0x12, 0x34, 0, 1]) [10, 1, 2, 3])
    | .error _ => none) = some false := by decide

/-- for comparison: the reply to the same request over an empty path decodes -/
example : replyDecodes (process exCfg exEcho [10, 1, 2, 3]) = some true := by decide

end Scion.C44
