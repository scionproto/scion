import Scion.Model.Spao
import Scion.Proofs.WireBasics
import Scion.Proofs.PathMeta
import Scion.Proofs.ListShape
import Scion.Proofs.WireExt
/-! Lemmas about `Scion.Spao`, the SPAO authenticated data: what the MAC input consists of and determines. -/
namespace Scion.Spao
open Scion.Util Scion.Wire Scion.WireExt

theorem length_fixedPart (a : AuthIn) : (fixedPart a).length = 20 := by
  simp [fixedPart]

theorem nibbles_inj {d s d' s' : Nat} (hs : s < 16) (hs' : s' < 16)
    (h : d * 16 + s = d' * 16 + s') : d = d' ∧ s = s' := by omega

theorem eq_of_div4 {x y : Nat} (hx : x % 4 = 0) (hy : y % 4 = 0) (h : x / 4 = y / 4) : x = y := by
  omega

theorem fixedPart_inj (a b : AuthIn) (ha : a.WF) (hb : b.WF)
    (hma : (12 + addrHdrLen a.hdr.cmn + pathLen a.hdr.path) % 4 = 0)
    (hmb : (12 + addrHdrLen b.hdr.cmn + pathLen b.hdr.path) % 4 = 0)
    (h : fixedPart a = fixedPart b) :
    12 + addrHdrLen a.hdr.cmn + pathLen a.hdr.path = 12 + addrHdrLen b.hdr.cmn + pathLen b.hdr.path ∧
    a.pldType = b.pldType ∧ a.pld.length = b.pld.length ∧ a.alg = b.alg ∧ a.ts = b.ts ∧
    a.hdr.cmn.version = b.hdr.cmn.version ∧ a.hdr.cmn.tc % 64 = b.hdr.cmn.tc % 64 ∧
    a.hdr.cmn.flowID = b.hdr.cmn.flowID ∧ a.hdr.cmn.pathType = b.hdr.cmn.pathType ∧
    a.hdr.cmn.dstType = b.hdr.cmn.dstType ∧ a.hdr.cmn.srcType = b.hdr.cmn.srcType := by
  obtain ⟨a_ver, _, a_flow, a_pt, a_dt, a_st, _, _, _, a_alg, a_ts, a_pldT, a_pldL, a_len⟩ := ha
  obtain ⟨b_ver, _, b_flow, b_pt, b_dt, b_st, _, _, _, b_alg, b_ts, b_pldT, b_pldL, b_len⟩ := hb
  -- the six pieces, from the right
  unfold fixedPart at h
  obtain ⟨h, e5⟩ := List.append_inj' h rfl
  obtain ⟨h, e4⟩ := List.append_inj' h (by rw [length_natBE, length_natBE])
  obtain ⟨h, e3⟩ := List.append_inj' h (by rw [length_natBE, length_natBE])
  obtain ⟨h, e2⟩ := List.append_inj' h rfl
  obtain ⟨e0, e1⟩ := List.append_inj' h (by rw [length_natBE, length_natBE])
  simp only [List.cons.injEq, and_true] at e0 e2 e5
  have f0 := ofNat_inj (Nat.div_lt_of_lt_mul (Nat.lt_of_le_of_lt a_len (by decide)))
    (Nat.div_lt_of_lt_mul (Nat.lt_of_le_of_lt b_len (by decide))) e0.1
  rw [Nat.mod_eq_of_lt a_dt, Nat.mod_eq_of_lt a_st, Nat.mod_eq_of_lt b_dt, Nat.mod_eq_of_lt b_st] at e5
  have f7 := nibbles_inj a_st b_st (ofNat_inj (by omega) (by omega) e5.2)
  -- the first header line
  rw [Nat.mod_eq_of_lt a_ver, Nat.mod_eq_of_lt a_flow, Nat.mod_eq_of_lt b_ver, Nat.mod_eq_of_lt b_flow] at e4
  have ht : ∀ x, x % 64 < 256 := fun x => Nat.lt_trans (Nat.mod_lt x (by decide)) (by decide)
  have la := line_split a_ver (ht a.hdr.cmn.tc) a_flow
  obtain ⟨l1, l2, l3, l4⟩ := line_split b_ver (ht b.hdr.cmn.tc) b_flow
  rw [natBE_inj (k := 4) la.2.2.2 l4 e4] at la
  exact ⟨eq_of_div4 hma hmb f0, ofNat_inj a_pldT b_pldT e0.2, natBE_inj (k := 2) a_pldL b_pldL e1, ofNat_inj a_alg b_alg e2,
    natBE_inj (k := 6) a_ts b_ts e3, la.1.symm.trans l1, la.2.1.symm.trans l2, la.2.2.1.symm.trans l3,
    ofNat_inj a_pt b_pt e5.1, f7.1, f7.2⟩

theorem zeroSegIDs_some (n : Nat) (l : Bytes) (h : n * 8 ≤ l.length) :
    ∃ z, zeroSegIDs n l = some z ∧ z.length = l.length := by
  induction n generalizing l with
  | zero => exact ⟨l, rfl, rfl⟩
  | succ n ih =>
    obtain ⟨x, rest, rfl, hx⟩ := exists_append_of_le (n := 8) (l := l) (by omega)
    obtain ⟨f, r, s0, s1, t0, t1, t2, t3, rfl⟩ := list8_of_length hx
    simp only [List.length_append, List.length_cons, List.length_nil] at h
    obtain ⟨z, hz, hl⟩ := ih rest (by omega)
    exact ⟨f :: r :: 0 :: 0 :: t0 :: t1 :: t2 :: t3 :: z, by simp [zeroSegIDs, hz], by simp [hl]⟩

theorem zeroHopFlags_some (n : Nat) (l : Bytes) (h : n * 12 ≤ l.length) :
    ∃ z, zeroHopFlags n l = some z ∧ z.length = l.length := by
  induction n generalizing l with
  | zero => exact ⟨l, rfl, rfl⟩
  | succ n ih =>
    obtain ⟨x, rest, rfl, hx⟩ := exists_append_of_le (n := 12) (l := l) (by omega)
    obtain ⟨f, e, i0, i1, e0, e1, m0, m1, m2, m3, m4, m5, rfl⟩ := list12_of_length hx
    simp only [List.length_append, List.length_cons, List.length_nil] at h
    obtain ⟨z, hz, hl⟩ := ih rest (by omega)
    exact ⟨0 :: e :: i0 :: i1 :: e0 :: e1 :: m0 :: m1 :: m2 :: m3 :: m4 :: m5 :: z,
      by simp [zeroHopFlags, hz], by simp [hl]⟩

theorem zeroRaw_some (m : PathMeta.Hdr) (body : Bytes) (hw : RawWF m body) :
    ∃ z, zeroRaw m body = some z ∧ z.length = 4 + body.length := by
  obtain ⟨_, b, hb, hl⟩ := rawWF_elim hw
  unfold zeroRaw
  rw [hb]
  simp only [natBE]
  have hle : b.numINF * 8 ≤ body.length := by rw [hl]; unfold bodyLen; omega
  rw [takeN_of_le hle]
  simp only
  obtain ⟨zi, hzi, hli⟩ := zeroSegIDs_some b.numINF (body.take (b.numINF * 8)) (by simp; omega)
  obtain ⟨zh, hzh, hlh⟩ := zeroHopFlags_some b.numHops (body.drop (b.numINF * 8))
    (by simp; rw [hl]; unfold bodyLen; omega)
  rw [hzi, hzh]
  refine ⟨_, rfl, ?_⟩
  simp [hli, hlh]; omega

theorem zeroPath_some (p : PathV) (hw : PathWF p) :
    ∃ z, zeroPath p = some z ∧ z.length = pathLen p ∧ pathLen p % 4 = 0 := by
  cases p with
  | empty => exact ⟨[], rfl, rfl, rfl⟩
  | scion m body =>
    obtain ⟨z, hz, hl⟩ := zeroRaw_some m body hw
    obtain ⟨_, b, hb, hlb⟩ := rawWF_elim hw
    refine ⟨z, hz, ?_, ?_⟩
    · simp [pathLen, hb, hl, hlb]
    · simp [pathLen, hb, bodyLen]; omega
  | onehop i h1 h2 =>
    simp only [zeroPath, encInfo, encHop, natBE, List.cons_append, List.nil_append]
    refine ⟨_, rfl, ?_, by simp [pathLen]⟩
    simp [pathLen, length_fit]
  | epic ts ctr phvf lhvf m body =>
    obtain ⟨_, _, h3, h4, hr⟩ := hw
    obtain ⟨z, hz, hl⟩ := zeroRaw_some m body hr
    obtain ⟨_, b, hb, hlb⟩ := rawWF_elim hr
    refine ⟨natBE 4 ts ++ natBE 4 ctr ++ phvf ++ lhvf ++ z, ?_, ?_, ?_⟩
    · simp [zeroPath, h3, h4, hz]
    · simp [pathLen, hb, hl, hlb, h3, h4]; omega
    · simp [pathLen, hb, bodyLen]; omega

theorem addrHdrLen_mod4 (c : Cmn) : addrHdrLen c % 4 = 0 := by
  unfold addrHdrLen addrLen; omega

theorem macInput_ok (a : AuthIn) (ha : a.WF) :
    ∃ z, zeroPath a.hdr.path = some z ∧ z.length = pathLen a.hdr.path ∧
      pathLen a.hdr.path % 4 = 0 ∧
      macInput a = .ok (fixedPart a ++ addrPart a ++ z ++ a.pld) := by
  obtain ⟨_, _, _, _, _, _, _, hp, _, _, _, _, _, hlen⟩ := ha
  obtain ⟨z, hz, hl, hm⟩ := zeroPath_some a.hdr.path hp
  refine ⟨z, hz, hl, hm, ?_⟩
  have := addrHdrLen_mod4 a.hdr.cmn
  unfold macInput authData
  simp only
  rw [if_neg (by omega), if_neg (by omega), hz]

theorem fixedPart_congr (a b : AuthIn)
    (hl : pathLen a.hdr.path = pathLen b.hdr.path)
    (h1 : a.hdr.cmn.version = b.hdr.cmn.version) (h2 : a.hdr.cmn.tc % 64 = b.hdr.cmn.tc % 64)
    (h3 : a.hdr.cmn.flowID = b.hdr.cmn.flowID) (h4 : a.hdr.cmn.pathType = b.hdr.cmn.pathType)
    (h5 : a.hdr.cmn.dstType = b.hdr.cmn.dstType) (h6 : a.hdr.cmn.srcType = b.hdr.cmn.srcType)
    (h7 : a.pldType = b.pldType) (h8 : a.pld = b.pld) (h9 : a.alg = b.alg) (h10 : a.ts = b.ts) :
    fixedPart a = fixedPart b := by
  unfold fixedPart addrHdrLen
  simp only [hl, h1, h2, h3, h4, h5, h6, h7, h8, h9, h10]

theorem addrPart_congr (a b : AuthIn) (hc : SameClass a b)
    (h7 : inclIA a.spi = true → a.hdr.dstIA = b.hdr.dstIA ∧ a.hdr.srcIA = b.hdr.srcIA)
    (h8 : inclDst a.spi = true → a.hdr.rawDst = b.hdr.rawDst)
    (h9 : inclSrc a.spi = true → a.hdr.rawSrc = b.hdr.rawSrc) : addrPart a = addrPart b := by
  obtain ⟨c1, c2, c3⟩ := hc
  unfold addrPart
  rw [← c1, ← c2, ← c3]
  cases e1 : inclIA a.spi <;> cases e2 : inclDst a.spi <;> cases e3 : inclSrc a.spi <;>
    simp_all

theorem opt_append_inj {c : Bool} {x y r r' : Bytes} (hl : x.length = y.length)
    (h : (if c = true then x else []) ++ r = (if c = true then y else []) ++ r') :
    (c = true → x = y) ∧ r = r' := by
  cases c
  · exact ⟨nofun, h⟩
  · obtain ⟨e1, e2⟩ := List.append_inj h hl
    exact ⟨fun _ => e1, e2⟩

theorem addrPart_inj (a b : AuthIn) (ha : a.WF) (hb : b.WF) (hc : SameClass a b)
    (hdt : a.hdr.cmn.dstType = b.hdr.cmn.dstType) (hst : a.hdr.cmn.srcType = b.hdr.cmn.srcType)
    {r r' : Bytes} (h : addrPart a ++ r = addrPart b ++ r') :
    (inclIA a.spi = true → a.hdr.dstIA = b.hdr.dstIA ∧ a.hdr.srcIA = b.hdr.srcIA) ∧
    (inclDst a.spi = true → a.hdr.rawDst = b.hdr.rawDst) ∧
    (inclSrc a.spi = true → a.hdr.rawSrc = b.hdr.rawSrc) ∧ r = r' := by
  obtain ⟨c1, c2, c3⟩ := hc
  obtain ⟨_, _, _, _, _, _, ⟨ia1, ia2, ad, as⟩, _⟩ := ha
  obtain ⟨_, _, _, _, _, _, ⟨ib1, ib2, bd, bs⟩, _⟩ := hb
  simp only at ia1 ia2 ad as ib1 ib2 bd bs
  unfold addrPart at h
  rw [← c1, ← c2, ← c3] at h
  simp only [List.append_assoc] at h
  obtain ⟨k1, h⟩ := opt_append_inj (by simp) h
  obtain ⟨k2, h⟩ := opt_append_inj (by rw [ad, bd, hdt]) h
  obtain ⟨k3, h⟩ := opt_append_inj (by rw [as, bs, hst]) h
  refine ⟨fun hi => ?_, k2, k3, h⟩
  obtain ⟨e1, e2⟩ := List.append_inj (k1 hi) (by simp)
  exact ⟨natBE_inj (k := 8) ia1 ib1 e1, natBE_inj (k := 8) ia2 ib2 e2⟩

/-! ### what `zeroOutMutablePath` drops, field by field -/

theorem zeroSegIDs_encInfos (is : List Info) (rest : Bytes) :
    zeroSegIDs is.length (encInfos is ++ rest) = some (encInfos (is.map clearSegID) ++ rest) := by
  induction is with
  | nil => simp [encInfos, zeroSegIDs]
  | cons i is ih =>
    show zeroSegIDs (is.length + 1) (encInfo i ++ encInfos is ++ rest) =
      some (encInfo (clearSegID i) ++ encInfos (is.map clearSegID) ++ rest)
    simp only [encInfo, natBE, List.cons_append, List.nil_append, zeroSegIDs, clearSegID]
    rw [ih]
    simp

theorem zeroHopFlags_encHops (hs : List Hop) (rest : Bytes) :
    zeroHopFlags hs.length (encHops hs ++ rest) = some (encHops (hs.map clearAlerts) ++ rest) := by
  induction hs with
  | nil => simp [encHops, zeroHopFlags]
  | cons h hs ih =>
    show zeroHopFlags (hs.length + 1) (encHop h ++ encHops hs ++ rest) =
      some (encHop (clearAlerts h) ++ encHops (hs.map clearAlerts) ++ rest)
    have hf : ∃ a b c d e f, fit 6 h.mac = [a, b, c, d, e, f] := by
      have hl := length_fit 6 h.mac
      match fit 6 h.mac, hl with
      | [a, b, c, d, e, f], _ => exact ⟨a, b, c, d, e, f, rfl⟩
    obtain ⟨a, b, c, d, e, f, hm⟩ := hf
    simp only [encHop, natBE, List.cons_append, List.nil_append, clearAlerts, hm, zeroHopFlags]
    rw [ih]
    simp [b2n]

theorem baseDecode_pointers (m : PathMeta.Hdr) (x y : Nat) :
    PathMeta.baseDecode { m with currINF := x, currHF := y } =
      (PathMeta.baseDecode m).map fun b => { b with pm := { m with currINF := x, currHF := y } } := by
  cases hb : PathMeta.baseDecode m with
  | some b => exact PathMeta.baseDecode_congr hb rfl rfl rfl
  | none =>
    cases hb' : PathMeta.baseDecode { m with currINF := x, currHF := y } with
    | none => rfl
    | some b' => cases hb.symm.trans (PathMeta.baseDecode_congr (m' := m) hb' rfl rfl rfl)

/-! ### extension headers and the upper layer -/

/-- an extension header of protocol class `cls` wrapped around an upper layer -/
theorem upperLayer_wrap (cls nh el : Nat) (body l4 : Bytes) (hc : cls = 200 ∨ cls = 201)
    (h1 : nh < 256) (h2 : el < 256) (hl : body.length + 2 = (el + 1) * 4) (hn : nh ≠ 200 ∧ nh ≠ 201) :
    upperLayer cls (UInt8.ofNat nh :: UInt8.ofNat el :: (body ++ l4)) = some (nh, l4) := by
  rcases hc with rfl | rfl <;>
    simp only [upperLayer, decExtBase_enc nh el body l4 h1 h2 hl, hn.1, hn.2, if_true, if_false,
      or_self, Nat.reduceEqDiff]

theorem upperLayer_plain (nh : Nat) (l4 : Bytes) (hn : nh ≠ 200 ∧ nh ≠ 201) :
    upperLayer nh l4 = some (nh, l4) := by
  unfold upperLayer
  rw [if_neg (by omega), if_neg (by omega)]

/-- the header with another `NextHdr`/`PayloadLen` (what inserting an extension header changes) -/
def withNext (h : Hdr) (nh pl : Nat) : Hdr :=
  { h with cmn := ⟨h.cmn.version, h.cmn.tc, h.cmn.flowID, nh, h.cmn.hdrLen, pl, h.cmn.pathType,
                   h.cmn.dstType, h.cmn.srcType⟩ }

theorem macInput_withNext (h : Hdr) (nh pl spi alg ts t : Nat) (l4 : Bytes) :
    macInput ⟨withNext h nh pl, spi, alg, ts, t, l4⟩ = macInput ⟨h, spi, alg, ts, t, l4⟩ := by
  unfold macInput authData fixedPart addrPart addrHdrLen withNext
  rfl

end Scion.Spao
