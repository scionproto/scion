import Scion.Model.RevCache
/-! Helper lemmas for C31: association-list facts, the well-formedness invariant of reachable
cache states and the refinement relation with the abstract store. -/
namespace Scion.RevCache

theorem lookup_eq_find? (s : State) (k : Key) :
    lookup s k = (s.find? (fun p => p.1 = k)).map (·.2) := by
  induction s with
  | nil => rfl
  | cons p rest ih => by_cases h : p.1 = k <;> simp [lookup, h, ih]

theorem lookup_filter_ne (s : State) (k k' : Key) (h : k' ≠ k) :
    lookup (s.filter (fun p => !decide (p.1 = k))) k' = lookup s k' := by
  rw [lookup_eq_find?, lookup_eq_find?, List.find?_filter]
  congr; funext p
  by_cases hp : p.1 = k' <;> simp [hp, h]

theorem lookup_filter_self (s : State) (k : Key) :
    lookup (s.filter (fun p => !decide (p.1 = k))) k = none := by
  simp [lookup_eq_find?, List.find?_filter]

theorem lookup_set (s : State) (k k' : Key) (it : Item) :
    lookup (set s k it) k' = if k = k' then some it else lookup s k' := by
  unfold set
  by_cases h : k = k'
  · simp [lookup, h]
  · simp [lookup, h, lookup_filter_ne s k k' (Ne.symm h)]

def NoDup (s : State) : Prop := s.Pairwise (fun a b => a.1 ≠ b.1)

theorem lookup_mem (s : State) (k : Key) (it : Item) (h : lookup s k = some it) :
    (k, it) ∈ s := by
  rw [lookup_eq_find?, Option.map_eq_some_iff] at h
  obtain ⟨p, hp, rfl⟩ := h
  have := List.find?_some hp
  simp at this
  exact this ▸ List.mem_of_find?_eq_some hp

theorem lookup_of_mem (s : State) (p : Key × Item) (hs : NoDup s) (hp : p ∈ s) :
    lookup s p.1 = some p.2 := by
  induction s with
  | nil => cases hp
  | cons q rest ih =>
    obtain ⟨a, it⟩ := q
    have hs' := List.pairwise_cons.mp hs
    rcases List.mem_cons.mp hp with rfl | hp'
    · simp [lookup]
    · have hne : a ≠ p.1 := hs'.1 p hp'
      simp only [lookup, hne, if_false]
      exact ih hs'.2 hp'

theorem noDup_filter (s : State) (q : Key × Item → Bool) (hs : NoDup s) : NoDup (s.filter q) :=
  List.Pairwise.filter q hs

theorem lookup_eq_some_iff {s : State} (hs : NoDup s) (k : Key) (it : Item) :
    lookup s k = some it ↔ (k, it) ∈ s :=
  ⟨lookup_mem s k it, lookup_of_mem s (k, it) hs⟩

theorem noDup_set (s : State) (k : Key) (it : Item) (hs : NoDup s) : NoDup (set s k it) := by
  unfold set NoDup
  refine List.pairwise_cons.mpr ⟨?_, noDup_filter s _ hs⟩
  intro p hp
  have := (List.mem_filter.mp hp).2
  simp at this
  exact fun e => this e.symm

/-- invariant of every reachable cache state -/
def WF (s : State) : Prop :=
  NoDup s ∧ ∀ p ∈ s, p.1 = p.2.rev.key ∧ p.2.expiration = expMs p.2.rev

theorem wf_empty : WF empty := ⟨List.Pairwise.nil, fun _ hp => nomatch hp⟩

theorem wf_set (s : State) (r : Rev) (hs : WF s) : WF (set s r.key ⟨r, expMs r⟩) := by
  refine ⟨noDup_set s _ _ hs.1, ?_⟩
  intro p hp
  rcases List.mem_cons.mp hp with rfl | hp
  · exact ⟨rfl, rfl⟩
  · exact hs.2 p (List.mem_filter.mp hp).1

theorem insert_cases (s : State) (now : Nat) (r : Rev) :
    ((now < expMs r ∧
        (getLive s now r.key = none ∨ ∃ v, getLive s now r.key = some v ∧ v.ts < r.ts)) ∧
      insert s now r = (set s r.key ⟨r, expMs r⟩, true)) ∨
    (¬ (now < expMs r ∧
        (getLive s now r.key = none ∨ ∃ v, getLive s now r.key = some v ∧ v.ts < r.ts)) ∧
      insert s now r = (s, false)) := by
  unfold insert
  by_cases hx : expMs r ≤ now
  · exact .inr ⟨fun h => Nat.not_le_of_lt h.1 hx, if_pos hx⟩
  · have e : now + (expMs r - now) = expMs r := Nat.add_sub_of_le (Nat.le_of_not_le hx)
    rw [if_neg hx]
    simp only [e, tsMs]
    cases getLive s now r.key with
    | none => exact .inl ⟨⟨Nat.lt_of_not_le hx, .inl rfl⟩, rfl⟩
    | some v =>
      by_cases hts : v.ts < r.ts
      · exact .inl ⟨⟨Nat.lt_of_not_le hx, .inr ⟨v, rfl, hts⟩⟩, if_pos (by omega)⟩
      · exact .inr ⟨fun h => h.2.elim nofun fun ⟨_, hw, hlt⟩ => hts (Option.some.inj hw ▸ hlt),
          if_neg (by omega)⟩

theorem insert_snd_iff (s : State) (now : Nat) (r : Rev) :
    (insert s now r).2 = true ↔
      now < expMs r ∧
        (getLive s now r.key = none ∨ ∃ v, getLive s now r.key = some v ∧ v.ts < r.ts) := by
  rcases insert_cases s now r with ⟨hA, he⟩ | ⟨hA, he⟩ <;> rw [he]
  · exact ⟨fun _ => hA, fun _ => rfl⟩
  · exact ⟨nofun, fun h => absurd h hA⟩

theorem wf_insert (s : State) (now : Nat) (r : Rev) (hs : WF s) : WF (insert s now r).1 := by
  rcases insert_cases s now r with ⟨_, h⟩ | ⟨_, h⟩ <;> rw [h]
  · exact wf_set s r hs
  · exact hs

theorem wf_deleteExpired (s : State) (now : Nat) (hs : WF s) : WF (deleteExpired s now).1 :=
  ⟨noDup_filter s _ hs.1, fun p hp => hs.2 p (List.mem_filter.mp hp).1⟩

theorem wf_step (s : State) (op : Op) (hs : WF s) : WF (step s op).1 := by
  cases op with
  | insert now r => exact wf_insert s now r hs
  | delExp now => exact wf_deleteExpired s now hs
  | _ => exact hs

theorem wf_run (ops : List Op) (s : State) (hs : WF s) : WF (run s ops).1 := by
  induction ops generalizing s with
  | nil => exact hs
  | cons op rest ih => exact ih _ (wf_step s op hs)

theorem wf_lookup (s : State) (k : Key) (it : Item) (hs : WF s) (h : lookup s k = some it) :
    it.rev.key = k ∧ it.expiration = expMs it.rev := by
  have := hs.2 (k, it) (lookup_mem s k it h)
  exact ⟨this.1.symm, this.2⟩

theorem getLive_eq_some_iff (s : State) (now : Nat) (k : Key) (r : Rev) :
    getLive s now k = some r ↔
      ∃ it, lookup s k = some it ∧ it.expired now = false ∧ it.rev = r := by
  unfold getLive
  cases lookup s k <;> simp

theorem getLive_set (s : State) (k k' : Key) (it : Item) (t : Nat) :
    getLive (set s k it) t k' =
      if k = k' then (if it.expired t then none else some it.rev) else getLive s t k' := by
  unfold getLive
  rw [lookup_set]
  by_cases h : k = k' <;> simp [h]

theorem live_until (r : Rev) (t : Nat) :
    (if Item.expired ⟨r, expMs r⟩ t then none else some r) = liveAt t r := by
  simp [Item.expired, liveAt, ← Nat.not_le]

theorem getLive_deleteExpired (s : State) (now t : Nat) (k : Key) (hs : WF s) (h : now ≤ t) :
    getLive (deleteExpired s now).1 t k = getLive s t k := by
  ext r
  simp only [getLive_eq_some_iff, deleteExpired, lookup_eq_some_iff hs.1,
    lookup_eq_some_iff (noDup_filter s _ hs.1), List.mem_filter]
  -- what is unexpired at `t` was unexpired at `now`, so the clean-up had kept it
  refine exists_congr fun it => ⟨fun ⟨⟨hm, _⟩, h⟩ => ⟨hm, h⟩, fun ⟨hm, he, hr⟩ => ⟨⟨hm, ?_⟩, he, hr⟩⟩
  simp only [Item.expired, Bool.not_eq_true', decide_eq_false_iff_not] at he ⊢
  omega

def Refines (lo : Nat) (s : State) (σ : Spec) : Prop :=
  WF s ∧ ∀ k t, lo ≤ t → getLive s t k = σ.get t k

theorem refines_empty : Refines 0 empty (fun _ => none) := ⟨wf_empty, fun _ _ _ => rfl⟩

theorem refines_weaken {lo lo' : Nat} {s : State} {σ : Spec} (h : Refines lo s σ)
    (hlo : lo ≤ lo') : Refines lo' s σ :=
  ⟨h.1, fun k t ht => h.2 k t (Nat.le_trans hlo ht)⟩

theorem refines_put (lo now : Nat) (s : State) (σ : Spec) (r : Rev) (h : Refines lo s σ)
    (hlo : lo ≤ now) : Refines now (set s r.key ⟨r, expMs r⟩) (σ.put r) := by
  refine ⟨wf_set s r h.1, ?_⟩
  intro k t ht
  rw [getLive_set]
  unfold Spec.get Spec.put
  by_cases hk : r.key = k
  · subst hk
    simp [live_until]
  · simp only [hk, Ne.symm hk, if_false]
    exact h.2 k t (Nat.le_trans hlo ht)

theorem accepts_eq (σ : Spec) (now : Nat) (r : Rev) :
    σ.accepts now r = true ↔
      now < expMs r ∧ (σ.get now r.key = none ∨ ∃ v, σ.get now r.key = some v ∧ v.ts < r.ts) := by
  unfold Spec.accepts
  cases h : σ.get now r.key with
  | none => simp
  | some v => simp

theorem refines_step (lo : Nat) (s : State) (σ : Spec) (op : Op) (h : Refines lo s σ)
    (hlo : lo ≤ op.time) :
    Refines op.time (step s op).1 (σ.step op).1 ∧
      ∀ o, (σ.step op).2 = some o → (step s op).2 = o := by
  cases op with
  | get now k =>
    exact ⟨refines_weaken h hlo, fun o ho => by cases ho; exact congrArg Out.got (h.2 k now hlo)⟩
  | delExp now =>
    refine ⟨⟨wf_deleteExpired s now h.1, fun k t ht => ?_⟩, nofun⟩
    exact (getLive_deleteExpired s now t k h.1 ht).trans (h.2 k t (Nat.le_trans hlo ht))
  | getAll now =>
    exact ⟨refines_weaken h hlo, nofun⟩
  | insert now r =>
    have hg : getLive s now r.key = σ.get now r.key := h.2 r.key now hlo
    simp only [Op.time] at hlo ⊢
    have hacc : σ.accepts now r = (insert s now r).2 := by
      rw [Bool.eq_iff_iff, accepts_eq, insert_snd_iff, hg]
    simp only [step, Spec.step, hacc]
    rcases insert_cases s now r with ⟨_, he⟩ | ⟨_, he⟩ <;> rw [he]
    · exact ⟨refines_put lo now s σ r h hlo, by intro o ho; cases ho; rfl⟩
    · exact ⟨refines_weaken h hlo, by intro o ho; cases ho; rfl⟩

def Agree : List Out → List (Option Out) → Prop
  | [], [] => True
  | _ :: os, none :: ps => Agree os ps
  | o :: os, some p :: ps => o = p ∧ Agree os ps
  | _, _ => False

theorem refines_run (ops : List Op) (lo : Nat) (s : State) (σ : Spec) (h : Refines lo s σ)
    (hm : Mono lo ops) :
    Agree (run s ops).2 (σ.run ops).2 ∧
      ∃ hi, lo ≤ hi ∧ Refines hi (run s ops).1 (σ.run ops).1 ∧
        (∀ t, Mono hi t → Mono lo (ops ++ t)) := by
  induction ops generalizing lo s σ with
  | nil =>
    exact ⟨trivial, lo, Nat.le_refl _, h, fun t ht => ht⟩
  | cons op rest ih =>
    obtain ⟨hlo, hrest⟩ := hm
    obtain ⟨hr, hout⟩ := refines_step lo s σ op h hlo
    obtain ⟨hag, hi, hhi, hR, hM⟩ := ih op.time _ _ hr hrest
    refine ⟨?_, hi, Nat.le_trans hlo hhi, hR, ?_⟩
    · simp only [run, Spec.run]
      cases hp : (σ.step op).2 with
      | none => exact hag
      | some p => exact ⟨hout p hp, hag⟩
    · intro t ht
      exact ⟨hlo, hM t ht⟩

end Scion.RevCache
