import Scion.Model.SegID
/-! Helper lemmas for C22 (SegID accumulator synchronisation).  Core Lean only. -/
namespace Scion.SegID

theorem xor_cancel (a b : Nat) : a ^^^ b ^^^ b = a := by
  rw [Nat.xor_assoc, Nat.xor_self, Nat.xor_zero]

def xorAll : List Nat → Nat
  | [] => 0
  | x :: xs => x ^^^ xorAll xs

theorem xorAll_append (a b : List Nat) : xorAll (a ++ b) = xorAll a ^^^ xorAll b := by
  induction a with
  | nil => simp [xorAll]
  | cons x xs ih => simp [xorAll, ih, Nat.xor_assoc]

theorem xorAll_reverse (a : List Nat) : xorAll a.reverse = xorAll a := by
  induction a with
  | nil => rfl
  | cons x xs ih => simp [xorAll, xorAll_append, ih, Nat.xor_comm]

theorem extractBeta_eq (s0 : Nat) (l : List Nat) : extractBeta s0 l = s0 ^^^ xorAll l := by
  induction l generalizing s0 with
  | nil => exact (Nat.xor_zero s0).symm
  | cons x xs ih => exact (ih (s0 ^^^ x)).trans (Nat.xor_assoc ..)

theorem extractBeta_append (s0 : Nat) (a b : List Nat) :
    extractBeta s0 (a ++ b) = extractBeta (extractBeta s0 a) b := by
  simp [extractBeta, List.foldl_append]

theorem betas_length (s0 : Nat) (σ : List Nat) : (betas s0 σ).length = σ.length := by
  induction σ generalizing s0 with
  | nil => rfl
  | cons x xs ih => simp [betas, ih]

theorem betas_getElem? (s0 : Nat) (σ : List Nat) (i : Nat) (h : i < σ.length) :
    (betas s0 σ)[i]? = some (beta s0 σ i) := by
  induction σ generalizing s0 i with
  | nil => cases h
  | cons x xs ih =>
    cases i with
    | zero => rfl
    | succ j => exact ih (updateSegID s0 x) j (Nat.lt_of_succ_lt_succ h)

theorem betas_append (s0 : Nat) (pre l : List Nat) :
    betas s0 (pre ++ l) = betas s0 pre ++ betas (extractBeta s0 pre) l := by
  induction pre generalizing s0 with
  | nil => rfl
  | cons x xs ih => exact congrArg (s0 :: ·) (ih _)

theorem betas_drop (s0 : Nat) (pre l : List Nat) (k : Nat) :
    (betas s0 (pre ++ l)).drop (pre.length + k) = (betas (extractBeta s0 pre) l).drop k := by
  rw [betas_append, ← betas_length s0 pre, List.drop_length_add_append]

theorem exists_split {σ : List Nat} {s : Nat} (hs : s < σ.length) :
    ∃ pre x rest, σ = pre ++ x :: rest ∧ s = pre.length :=
  ⟨σ.take s, σ[s], σ.drop (s + 1), by simp, by simp; omega⟩

/-- the accumulators of the entries from `x` on; the peer entry of `x` was made with the next one -/
theorem expected_split (s0 : Nat) (pre : List Nat) (x : Nat) (rest : List Nat) (peer : Bool) :
    expected s0 (pre ++ x :: rest) pre.length peer =
      (if peer then updateSegID (extractBeta s0 pre) x else extractBeta s0 pre) ::
        betas (updateSegID (extractBeta s0 pre) x) rest := by
  cases peer
  · simpa [expected, betas] using betas_drop s0 pre (x :: rest) 0
  · simp [expected, beta, List.take_length_add_append, extractBeta, betas_drop, betas]

theorem runHops_append (c : Bool) (seg : Nat) (a b : List HopCtx) :
    runHops c seg (a ++ b) = runHops c seg a ++ runHops c (finalSeg c seg a) b := by
  induction a generalizing seg with
  | nil => rfl
  | cons h hs ih => exact congrArg (_ :: ·) (ih _)

theorem finalSeg_append (c : Bool) (seg : Nat) (a b : List HopCtx) :
    finalSeg c seg (a ++ b) = finalSeg c (finalSeg c seg a) b := by
  induction a generalizing seg with
  | nil => rfl
  | cons h hs ih => exact ih _

/-- one hop of `tailCtx` is one step of `betas`: in construction direction the ingress rule does
    nothing and the egress rule of every hop but the last is `updateSegID` -/
theorem run_tailCtx (seg : Nat) (l : List Nat) : runHops true seg (tailCtx l) = betas seg l := by
  induction l generalizing seg with
  | nil => rfl
  | cons x r ih =>
    cases r with
    | nil => rfl
    | cons y r' => exact congrArg (seg :: ·) (ih (updateSegID seg x))

theorem final_tailCtx (seg : Nat) (l : List Nat) :
    finalSeg true seg (tailCtx l) = extractBeta seg l.dropLast := by
  induction l generalizing seg with
  | nil => rfl
  | cons x r ih =>
    cases r with
    | nil => rfl
    | cons y r' => exact ih (updateSegID seg x)

theorem upBody_false_append (a b : List Nat) :
    upBody false (a ++ b) = upBody false a ++ upBody false b := by
  induction a with
  | nil => rfl
  | cons x xs ih => simp [upBody, ih]

/-- against construction direction every hop entered over an external link folds its MAC prefix
    into the SegID at ingress -/
theorem final_upBody_false (seg : Nat) (r : List Nat) :
    finalSeg false seg (upBody false r) = seg ^^^ xorAll r := by
  induction r generalizing seg with
  | nil => exact (Nat.xor_zero seg).symm
  | cons x xs ih => exact (ih (seg ^^^ x)).trans (Nat.xor_assoc ..)

/-- every hop entered over an external link: starting from β_n the routers use
    β_{n-1}, …, β_0 (base = β of the first entry of `l`) -/
theorem run_upBody_all (base : Nat) (l : List Nat) :
    runHops false (base ^^^ xorAll l) (upBody false l.reverse) = (betas base l).reverse := by
  induction l generalizing base with
  | nil => rfl
  | cons x xs ih =>
    -- the hops of `xs` first (induction hypothesis from `base ^^^ x`), which leaves `base ^^^ x` for `x`
    rw [List.reverse_cons, upBody_false_append, runHops_append, final_upBody_false, xorAll_reverse,
      show base ^^^ xorAll (x :: xs) = (base ^^^ x) ^^^ xorAll xs from (Nat.xor_assoc ..).symm,
      ih (base ^^^ x), xor_cancel]
    simp [betas, upBody, runHops, ingressUpdate, updateSegID, xor_cancel]

/-! ### `calculateBeta` on a segment split as `pre ++ x :: rest` (entry/exit AS = `x`) -/

theorem calc_down (s0 : Nat) (pre : List Nat) (x : Nat) (rest : List Nat) (peer : Bool) :
    calculateBeta true pre.length peer s0 (pre ++ x :: rest) =
      some (if peer then updateSegID (extractBeta s0 pre) x else extractBeta s0 pre) := by
  cases peer <;> simp [calculateBeta, betaIndex, List.take_length_add_append, extractBeta]

theorem calc_up_single (s0 : Nat) (pre : List Nat) (x : Nat) (peer : Bool) :
    calculateBeta false pre.length peer s0 (pre ++ [x]) =
      some (if peer then updateSegID (extractBeta s0 pre) x else extractBeta s0 pre) := by
  cases peer <;> simp [calculateBeta, betaIndex, List.take_length_add_append, extractBeta]

/-- against construction direction the combinator starts from β_{n-1}, the accumulator of all
    entries but the last, unless the last AS is the one with the peering link -/
theorem calc_up_last (s0 : Nat) (l : List Nat) (y s : Nat) (peer : Bool)
    (h : ¬ (l.length = s ∧ peer = true)) :
    calculateBeta false s peer s0 (l ++ [y]) = some (extractBeta s0 l) := by
  simp [calculateBeta, betaIndex, h]

theorem calc_up_multi (s0 : Nat) (pre : List Nat) (x y : Nat) (mid : List Nat) (peer : Bool) :
    calculateBeta false pre.length peer s0 (pre ++ x :: (mid ++ [y])) =
      some (updateSegID (extractBeta s0 pre) x ^^^ xorAll mid) := by
  have hσ : pre ++ x :: (mid ++ [y]) = (pre ++ x :: mid) ++ [y] := by simp
  rw [hσ, calc_up_last, extractBeta_append, ← extractBeta_eq]
  · rfl
  · simp

end Scion.SegID
