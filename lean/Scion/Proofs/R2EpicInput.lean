import Scion.Model.Epic
import Scion.Proofs.BigEndian
/-! Helper lemmas for C13: the EPIC MAC input (`prepareMacInput`) is an injective function of the
    protected fields. Core Lean only. -/
namespace Scion.R2EpicInput
open Scion.Util Scion.Epic

/-- the unpadded input -/
def body (p : Pkt) (ts0 : Nat) : Bytes :=
  [UInt8.ofNat (p.srcLenBits % 4)] ++ natBE 4 ts0 ++ natBE 4 p.pktTs ++ natBE 4 p.pktCtr ++
    natBE 8 p.srcIA ++ p.srcAddr ++ natBE 2 p.payloadLen

theorem macInputEpic_eq (p : Pkt) (ts0 : Nat) :
    macInputEpic p ts0 = body p ts0 ++ List.replicate ((16 - (body p ts0).length % 16) % 16) 0 := rfl

theorem body_length (p : Pkt) (ts0 : Nat) : (body p ts0).length = 23 + p.srcAddr.length := by
  simp [body]; omega

/-- fields as they come out of a decoded header -/
structure WF (p : Pkt) (ts0 : Nat) : Prop where
  ts0 : ts0 < 2 ^ 32
  pktTs : p.pktTs < 2 ^ 32
  pktCtr : p.pktCtr < 2 ^ 32
  srcIA : p.srcIA < 2 ^ 64
  payloadLen : p.payloadLen < 2 ^ 16
  lenBits : p.srcLenBits < 4
  srcAddr : p.srcAddr.length = 4 * (p.srcLenBits + 1)

/-- **The EPIC MAC input determines every protected field**: equal inputs (as handed to the PRF) imply
    equal info-field timestamp, packet id (timestamp and counter), source ISD-AS, source host address
    (length and bytes) and payload length. -/
theorem macInputEpic_injective (p q : Pkt) (ts ts' : Nat) (hp : WF p ts) (hq : WF q ts')
    (h : macInputEpic p ts = macInputEpic q ts') :
    ts = ts' ∧ p.pktTs = q.pktTs ∧ p.pktCtr = q.pktCtr ∧ p.srcIA = q.srcIA ∧
      p.srcLenBits = q.srcLenBits ∧ p.srcAddr = q.srcAddr ∧ p.payloadLen = q.payloadLen := by
  rw [macInputEpic_eq, macInputEpic_eq] at h
  -- the first byte carries the length bits
  have hbits : p.srcLenBits = q.srcLenBits := by
    have := ofNat_inj (by omega) (by omega) (List.head_eq_of_cons_eq h)
    rwa [Nat.mod_eq_of_lt hp.lenBits, Nat.mod_eq_of_lt hq.lenBits] at this
  have hlen : p.srcAddr.length = q.srcAddr.length := by rw [hp.srcAddr, hq.srcAddr, hbits]
  have hbl : (body p ts).length = (body q ts').length := by rw [body_length, body_length, hlen]
  have hb := (List.append_inj h hbl).1
  -- peel the fields off from the left; every field has a fixed length
  unfold body at hb
  simp only [List.append_assoc] at hb
  have h1 := List.append_inj hb (by simp)
  have h2 := List.append_inj h1.2 (by simp)
  have h3 := List.append_inj h2.2 (by simp)
  have h4 := List.append_inj h3.2 (by simp)
  have h5 := List.append_inj h4.2 (by simp)
  have h6 := List.append_inj h5.2 hlen
  exact ⟨natBE_inj (k := 4) hp.ts0 hq.ts0 h2.1, natBE_inj (k := 4) hp.pktTs hq.pktTs h3.1,
    natBE_inj (k := 4) hp.pktCtr hq.pktCtr h4.1, natBE_inj (k := 8) hp.srcIA hq.srcIA h5.1, hbits, h6.1,
    natBE_inj (k := 2) hp.payloadLen hq.payloadLen h6.2⟩

end Scion.R2EpicInput
