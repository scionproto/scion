import Scion.Model.Bfd
import Scion.Proofs.Progress
/-! C16, asynchronous exchange: two sessions over two lossless FIFO channels with packets in
flight. Invariant of the configurations that arise from a clean start, monotonicity of the
states, convergence under every fair schedule (progress rule: `Scion.Proofs.Progress`).
Core Lean only. -/
namespace Scion.Bfd

/-- rank of a state: AdminDown 0 < Down 1 < Init 2 < Up 3 -/
abbrev rk (s : St) : Nat := s.toNat

theorem eq_up_of_rk (s : St) (h : 3 ≤ rk s) : s = .up := by
  cases s <;> simp_all [rk, St.toNat]

theorem rk_ge_two_of_ne_down (s : St) (h1 : 1 ≤ rk s) (h : s ≠ .down) : 2 ≤ rk s := by
  cases s <;> simp_all [rk, St.toNat]

theorem down_of_rk_one (s : St) (h1 : 1 ≤ rk s) (h : rk s ≤ 1) : s = .down := by
  cases s <;> simp_all [rk, St.toNat]

theorem init_of_rk (s : St) (h : 2 ≤ rk s) (hu : s ≠ .up) : s = .init := by
  cases s <;> simp_all [rk, St.toNat]


theorem recv_mono (l x : St) (hl : 1 ≤ rk l) (hx : 1 ≤ rk x) (h : l = .up → 2 ≤ rk x) :
    rk l ≤ rk (recvStep l x) := by
  cases l <;> cases x <;> simp_all [rk, St.toNat, recvStep, transition, eventOf, norm]

theorem recv_new_up (l x : St) (hl : l ≠ .up) (h : recvStep l x = .up) : 2 ≤ rk x := by
  cases l <;> cases x <;> simp_all [rk, St.toNat, recvStep, transition, eventOf, norm]

theorem recv_raises_down (x : St) (h1 : 1 ≤ rk x) (h2 : rk x ≤ 2) : 2 ≤ rk (recvStep .down x) := by
  cases x <;> simp_all [rk, St.toNat, recvStep, transition, eventOf, norm]

theorem recv_init_up (x : St) (h : 2 ≤ rk x) : recvStep .init x = .up := by
  cases x <;> simp_all [rk, St.toNat, recvStep, transition, eventOf, norm]

theorem recv_init_down : recvStep .init .down = .init := rfl

/-! ### symmetry -/

def ACfg.swap (c : ACfg) : ACfg := ⟨c.b, c.a, c.qba, c.qab⟩

def Act.swap : Act → Act
  | .sendA => .sendB | .sendB => .sendA | .recvA => .recvB | .recvB => .recvA

theorem swap_swap (c : ACfg) : c.swap.swap = c := rfl

theorem astep_swap (c : ACfg) (x : Act) : astep c.swap x.swap = (astep c x).swap := by
  obtain ⟨a, b, qab, qba⟩ := c
  cases x
  · rfl
  · rfl
  · cases qba <;> rfl
  · cases qab <;> rfl

theorem acfgAt_swap (sched : Nat → Act) (c0 : ACfg) (n : Nat) :
    acfgAt (fun i => (sched i).swap) c0.swap n = (acfgAt sched c0 n).swap := by
  induction n with
  | zero => rfl
  | succ n ih => simp only [acfgAt]; rw [ih, astep_swap]


theorem astep_recvA_cons {c : ACfg} {y : St} {r : List St} (hq : c.qba = y :: r) :
    astep c .recvA = { c with a := recvStep c.a y, qba := r } := by
  simp only [astep, hq]

theorem astep_cases (c : ACfg) (x : Act) :
    (x = .recvA ∧ ∃ y r, c.qba = y :: r) ∨
    ((astep c x).a = c.a ∧ ((astep c x).qba = c.qba ∨ (astep c x).qba = c.qba ++ [c.b])) := by
  obtain ⟨a, b, qab, qba⟩ := c
  cases x with
  | sendA => exact Or.inr ⟨rfl, Or.inl rfl⟩
  | sendB => exact Or.inr ⟨rfl, Or.inr rfl⟩
  | recvB => cases qab <;> exact Or.inr ⟨rfl, Or.inl rfl⟩
  | recvA =>
    cases qba with
    | nil => exact Or.inr ⟨rfl, Or.inl rfl⟩
    | cons y r => exact Or.inl ⟨rfl, y, r, rfl⟩

theorem acfgAt_add (s : Nat → Act) (c : ACfg) (n m : Nat) :
    acfgAt s c (n + m) = acfgAt (fun i => s (n + i)) (acfgAt s c n) m := by
  induction m with
  | zero => rfl
  | succ m ih =>
    have e : acfgAt s c (n + (m + 1)) = astep (acfgAt s c (n + m)) (s (n + m)) := rfl
    rw [e, ih]; rfl

/-! ### invariant -/

/-- what holds of every configuration that arises from a clean start by sends and lossless
in-order deliveries: no AdminDown anywhere, each channel is sorted and bounded by its sender's
state (states only move Down → Init → Up), and a session that is Up has nothing below Init
coming towards it -/
structure AInv (c : ACfg) : Prop where
  a1 : 1 ≤ rk c.a
  b1 : 1 ≤ rk c.b
  qab1 : ∀ x ∈ c.qab, 1 ≤ rk x ∧ rk x ≤ rk c.a
  qba1 : ∀ x ∈ c.qba, 1 ≤ rk x ∧ rk x ≤ rk c.b
  upB : c.b = .up → 2 ≤ rk c.a ∧ ∀ x ∈ c.qab, 2 ≤ rk x
  upA : c.a = .up → 2 ≤ rk c.b ∧ ∀ x ∈ c.qba, 2 ≤ rk x
  sortA : c.qab.Pairwise (fun x y => rk x ≤ rk y)
  sortB : c.qba.Pairwise (fun x y => rk x ≤ rk y)

theorem ainv_init : AInv aInit := by
  constructor <;> simp [aInit, rk, St.toNat]

theorem ainv_swap (c : ACfg) (h : AInv c) : AInv c.swap :=
  ⟨h.b1, h.a1, h.qba1, h.qab1, h.upA, h.upB, h.sortB, h.sortA⟩

theorem ainv_sendA (c : ACfg) (h : AInv c) : AInv (astep c .sendA) := by
  obtain ⟨a1, b1, qab1, qba1, upB, upA, sortA, sortB⟩ := h
  -- the new packet carries A's state, which bounds all that is in the channel
  exact ⟨a1, b1, List.forall_mem_append.2 ⟨qab1, List.forall_mem_singleton.2 ⟨a1, Nat.le_refl _⟩⟩, qba1,
    fun hb => ⟨(upB hb).1, List.forall_mem_append.2 ⟨(upB hb).2, List.forall_mem_singleton.2 (upB hb).1⟩⟩,
    upA, List.pairwise_append.2 ⟨sortA, List.pairwise_singleton _ _, fun x hx y hy => by
      rw [List.mem_singleton.1 hy]; exact (qab1 x hx).2⟩, sortB⟩
theorem ainv_recvA (c : ACfg) (h : AInv c) : AInv (astep c .recvA) := by
  obtain ⟨a, b, qab, qba⟩ := c
  cases qba with
  | nil => exact h
  | cons x r =>
    obtain ⟨a1, b1, qab1, qba1, upB, upA, sortA, sortB⟩ := h
    have hx := qba1 x List.mem_cons_self
    have hmono : rk a ≤ rk (recvStep a x) :=
      recv_mono a x a1 hx.1 (fun hu => (upA hu).2 x List.mem_cons_self)
    obtain ⟨hxr, hsr⟩ := List.pairwise_cons.mp sortB
    refine ⟨Nat.le_trans a1 hmono, b1, fun y hy => ⟨(qab1 y hy).1, Nat.le_trans (qab1 y hy).2 hmono⟩,
      fun y hy => qba1 y (List.mem_cons_of_mem _ hy),
      fun hb => ⟨Nat.le_trans (upB hb).1 hmono, (upB hb).2⟩, fun hu => ?_, sortA, hsr⟩
    change recvStep a x = .up at hu
    by_cases hau : a = .up
    · exact ⟨(upA hau).1, fun y hy => (upA hau).2 y (List.mem_cons_of_mem _ hy)⟩
    · -- A has just come Up: the packet was at least Init, and so is all that B sent after it
      have hx2 := recv_new_up a x hau hu
      exact ⟨Nat.le_trans hx2 hx.2, fun y hy => Nat.le_trans hx2 (hxr y hy)⟩
theorem ainv_step (c : ACfg) (x : Act) (h : AInv c) : AInv (astep c x) := by
  -- B's actions are A's in the mirrored configuration
  have mirror : ∀ y : Act, AInv (astep c.swap y.swap) → AInv (astep c y) := fun y hy => by
    rw [astep_swap] at hy
    exact ainv_swap _ hy
  cases x with
  | sendA => exact ainv_sendA c h
  | recvA => exact ainv_recvA c h
  | sendB => exact mirror .sendB (ainv_sendA c.swap (ainv_swap c h))
  | recvB => exact mirror .recvB (ainv_recvA c.swap (ainv_swap c h))

theorem ainv_at (sched : Nat → Act) (c0 : ACfg) (h : AInv c0) (n : Nat) :
    AInv (acfgAt sched c0 n) := by
  induction n with
  | zero => exact h
  | succ n ih => exact ainv_step _ _ ih

/-! ### the states never go back -/

theorem a_mono_step (c : ACfg) (x : Act) (h : AInv c) : rk c.a ≤ rk (astep c x).a := by
  rcases astep_cases c x with ⟨rfl, y, r, hq⟩ | ⟨ha, -⟩
  · have hyin : y ∈ c.qba := hq ▸ List.mem_cons_self
    rw [astep_recvA_cons hq]
    exact recv_mono c.a y h.a1 (h.qba1 y hyin).1 (fun hu => (h.upA hu).2 y hyin)
  · rw [ha]; exact Nat.le_refl _

theorem b_mono_step (c : ACfg) (x : Act) (h : AInv c) : rk c.b ≤ rk (astep c x).b := by
  have := a_mono_step c.swap x.swap (ainv_swap c h)
  rw [astep_swap] at this
  exact this

theorem acfgAt_mono (sched : Nat → Act) (c0 : ACfg) (h : AInv c0) {n m : Nat} (hnm : n ≤ m) :
    rk (acfgAt sched c0 n).a ≤ rk (acfgAt sched c0 m).a ∧
      rk (acfgAt sched c0 n).b ≤ rk (acfgAt sched c0 m).b :=
  rel_of_le (R := fun c c' : ACfg => rk c.a ≤ rk c'.a ∧ rk c.b ≤ rk c'.b) (g := acfgAt sched c0)
    (fun _ => ⟨Nat.le_refl _, Nat.le_refl _⟩)
    (fun _ _ _ h1 h2 => ⟨Nat.le_trans h1.1 h2.1, Nat.le_trans h1.2 h2.2⟩)
    (fun n => ⟨a_mono_step _ _ (ainv_at sched c0 h n), b_mono_step _ _ (ainv_at sched c0 h n)⟩) hnm

/-! ### fairness and progress -/

/-- every action is taken again and again (sessions keep sending, channels keep delivering) -/
def AFair (sched : Nat → Act) : Prop := ∀ n x, ∃ m, n ≤ m ∧ sched m = x

theorem afair_swap (sched : Nat → Act) (hf : AFair sched) : AFair (fun i => (sched i).swap) := by
  intro n x
  obtain ⟨m, hm, hs⟩ := hf n x.swap
  exact ⟨m, hm, by show (sched m).swap = x; rw [hs]; cases x <;> rfl⟩

/-- Two-phase progress "B sends, then A receives": if every action keeps `P` or establishes `Q`,
and a delivery to A under `P` establishes `Q`, then `P` leads to `Q`. -/
theorem leads_by_recvA (sched : Nat → Act) (hf : AFair sched) (c0 : ACfg) (h0 : AInv c0)
    (P Q : ACfg → Prop) (hstep : ∀ c x, AInv c → P c → P (astep c x) ∨ Q (astep c x))
    (hrecv : ∀ c y r, AInv c → P c → c.qba = y :: r → Q (astep c .recvA)) :
    ∀ n, P (acfgAt sched c0 n) → ∃ m, n ≤ m ∧ Q (acfgAt sched c0 m) := by
  intro n hp
  -- phase 1: B sends, so that something is in flight towards A
  obtain ⟨m1, hm1, hq1 | hw⟩ := ensures (Q := fun c => Q c ∨ (P c ∧ c.qba ≠ [])) (act := .sendB)
    (fun _ => rfl) (ainv_at sched c0 h0) (fun n => hf n .sendB)
    (fun c x hi hp => (hstep c x hi hp).imp_right Or.inl)
    (fun c _ _ hp' => Or.inr ⟨hp', by simp [astep]⟩) n hp
  · exact ⟨m1, hm1, hq1⟩
  -- phase 2: A receives; until then the channel stays non-empty
  obtain ⟨m2, hm2, hq2⟩ := ensures (P := fun c => P c ∧ c.qba ≠ []) (Q := Q) (act := .recvA)
    (fun _ => rfl) (ainv_at sched c0 h0) (fun n => hf n .recvA)
    (fun c x hi hp => by
      rcases astep_cases c x with ⟨rfl, y, r, hq⟩ | ⟨-, hq⟩
      · exact Or.inr (hrecv c y r hi hp.1 hq)
      · refine (hstep c x hi hp.1).imp_left fun hp' => ⟨hp', ?_⟩
        rcases hq with hq | hq <;> rw [hq]
        · exact hp.2
        · simp)
    (fun c hi hp _ => by
      cases hq : c.qba with
      | nil => exact absurd hq hp.2
      | cons y r => exact hrecv c y r hi hp.1 hq)
    m1 hw
  exact ⟨m2, by omega, hq2⟩

def lowCount (l : List St) : Nat := l.countP (fun x => decide (rk x ≤ 1))

theorem lowCount_append_high (l : List St) (s : St) (h : 2 ≤ rk s) :
    lowCount (l ++ [s]) = lowCount l := by
  simp [lowCount, List.countP_append, List.countP_cons]; omega

theorem lowCount_cons (y : St) (r : List St) :
    lowCount (y :: r) = lowCount r + (if rk y ≤ 1 then 1 else 0) := by
  simp [lowCount, List.countP_cons]

/-- the situation in which A waits in Init: B is at least Init, `k` stale Down packets ahead -/
def InitWait (k : Nat) (c : ACfg) : Prop := c.a = .init ∧ 2 ≤ rk c.b ∧ lowCount c.qba = k

theorem initWait_recv (k : Nat) (c : ACfg) (y : St) (r : List St) (hi : AInv c)
    (hp : InitWait k c) (hq : c.qba = y :: r) :
    (astep c .recvA).a = .up ∨ ∃ j, j < k ∧ InitWait j (astep c .recvA) := by
  obtain ⟨ha, hb, hk⟩ := hp
  rw [astep_recvA_cons hq]
  dsimp only
  by_cases hy : rk y ≤ 1
  · have hyd := down_of_rk_one y (hi.qba1 y (hq ▸ List.mem_cons_self)).1 hy
    have hc : lowCount c.qba = lowCount r + 1 := by rw [hq, lowCount_cons, if_pos hy]
    exact Or.inr ⟨lowCount r, by omega, by rw [ha, hyd]; rfl, hb, rfl⟩
  · exact Or.inl (by rw [ha]; exact recv_init_up y (by omega))

theorem initWait_step (k : Nat) (c : ACfg) (x : Act) (hi : AInv c) (hp : InitWait k c) :
    InitWait k (astep c x) ∨ (astep c x).a = .up ∨ ∃ j, j < k ∧ InitWait j (astep c x) := by
  rcases astep_cases c x with ⟨rfl, y, r, hq⟩ | ⟨ha', hq⟩
  · exact Or.inr (initWait_recv k c y r hi hp hq)
  · obtain ⟨ha, hb, hk⟩ := hp
    refine Or.inl ⟨by rw [ha']; exact ha, Nat.le_trans hb (b_mono_step c x hi), ?_⟩
    rcases hq with hq | hq
    · rw [hq]; exact hk
    · rw [hq, lowCount_append_high _ _ hb]; exact hk

theorem init_leads_up (sched : Nat → Act) (hf : AFair sched) (c0 : ACfg) (h0 : AInv c0) :
    ∀ k n, InitWait k (acfgAt sched c0 n) → ∃ m, n ≤ m ∧ (acfgAt sched c0 m).a = .up := by
  intro k
  induction k using Nat.strongRecOn with
  | _ k ih =>
    intro n hp
    obtain ⟨m1, hm1, hup | ⟨j, hj, hw⟩⟩ := leads_by_recvA sched hf c0 h0 (InitWait k)
      (fun c => c.a = .up ∨ ∃ j, j < k ∧ InitWait j c) (initWait_step k) (initWait_recv k) n hp
    · exact ⟨m1, hm1, hup⟩
    · obtain ⟨m2, hm2, hq2⟩ := ih j hj m1 hw
      exact ⟨m2, by omega, hq2⟩

theorem a_comes_up (sched : Nat → Act) (hf : AFair sched) (c0 : ACfg) (h0 : AInv c0) (n : Nat)
    (ha : 2 ≤ rk (acfgAt sched c0 n).a) (hb : 2 ≤ rk (acfgAt sched c0 n).b) :
    ∃ m, n ≤ m ∧ (acfgAt sched c0 m).a = .up := by
  by_cases hu : (acfgAt sched c0 n).a = .up
  · exact ⟨n, Nat.le_refl _, hu⟩
  · exact init_leads_up sched hf c0 h0 _ n ⟨init_of_rk _ ha hu, hb, rfl⟩

theorem a_leaves_down (sched : Nat → Act) (hf : AFair sched) (c0 : ACfg) (h0 : AInv c0) (n : Nat) :
    ∃ m, n ≤ m ∧ 2 ≤ rk (acfgAt sched c0 m).a := by
  by_cases hd : (acfgAt sched c0 n).a = .down
  · refine leads_by_recvA sched hf c0 h0 (fun c => c.a = .down) (fun c => 2 ≤ rk c.a)
      (fun c x hi _ => (Decidable.em ((astep c x).a = .down)).imp_right
        (rk_ge_two_of_ne_down _ (ainv_step c x hi).a1))
      (fun c y r hi hp hq => ?_) n hd
    have hy := hi.qba1 y (hq ▸ List.mem_cons_self)
    -- B is not Up (an Up session has its peer at least Init), so `y` is a Down or an Init packet
    have hb : rk c.b < 3 := Nat.lt_of_not_le fun h3 => by
      have := (hi.upB (eq_up_of_rk _ h3)).1
      rw [hp] at this
      exact absurd this (by decide)
    rw [astep_recvA_cons hq]
    dsimp only
    rw [hp]
    exact recv_raises_down y hy.1 (by omega)
  · exact ⟨n, Nat.le_refl _, rk_ge_two_of_ne_down _ (ainv_at sched c0 h0 n).a1 hd⟩

/-- **Asynchronous convergence.** From every configuration satisfying the clean-start
invariant, under every fair schedule of sends and in-order lossless deliveries, both sessions
are Up from some point on, for ever. -/
theorem async_converges (sched : Nat → Act) (hf : AFair sched) (c0 : ACfg) (h0 : AInv c0) :
    ∃ N, ∀ n, N ≤ n → (acfgAt sched c0 n).a = .up ∧ (acfgAt sched c0 n).b = .up := by
  -- what is proved of A holds of B in the mirrored system
  have hfs := afair_swap sched hf
  have h0s := ainv_swap c0 h0
  have hsw := acfgAt_swap sched c0
  -- A leaves Down, then B; A comes Up, then B
  obtain ⟨m1, -, ha1⟩ := a_leaves_down sched hf c0 h0 0
  obtain ⟨m2, hm2, hb2⟩ := a_leaves_down _ hfs c0.swap h0s m1
  rw [hsw] at hb2
  obtain ⟨m3, hm3, ha3⟩ := a_comes_up sched hf c0 h0 m2
    (Nat.le_trans ha1 (acfgAt_mono sched c0 h0 hm2).1) hb2
  have hb3 := Nat.le_trans hb2 (acfgAt_mono sched c0 h0 hm3).2
  obtain ⟨m4, hm4, hb4⟩ := a_comes_up _ hfs c0.swap h0s m3 (by rw [hsw]; exact hb3)
    (by rw [hsw]; show 2 ≤ rk (acfgAt sched c0 m3).a; rw [ha3]; decide)
  rw [hsw] at hb4
  -- and Up is the top
  refine ⟨m4, fun n hn => ?_⟩
  have hA := (acfgAt_mono sched c0 h0 (Nat.le_trans hm4 hn)).1
  have hB := (acfgAt_mono sched c0 h0 hn).2
  rw [ha3] at hA
  rw [show (acfgAt sched c0 m4).b = .up from hb4] at hB
  exact ⟨eq_up_of_rk _ hA, eq_up_of_rk _ hB⟩

end Scion.Bfd
