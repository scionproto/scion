import Scion.Proofs.Spao
import Scion.Gen.Wire
import Scion.Gen.Spao
/-!
# C21 — Packet authenticators cover exactly the immutable packet fields

Model: `Scion.Model.Spao` — a transcription of
`spao.serializeAuthenticatedData` / `zeroOutMutablePath` **as the code is**, i.e. with the
traffic class masked by `0x3f`.  The tag is `AES-CMAC(key, macInput)`; what the code controls is
`macInput`, so "the tag is unchanged" is `macInput a = macInput b` and "the tag changes" follows
from `macInput a ≠ macInput b` for every MAC that is injective on its input
(`tag_changes_of_input_ne`; 128-bit collisions of AES-CMAC are outside the model).

`ImmutEq tcf a b` (`Scion/Model/Spao.lean`) says `a` and `b` agree on every covered field, with
`tcf` the projection of the traffic class that counts.  The specification's projection is
`specTC` (six DSCP bits); the code's is `codeTC` (`& 0x3f`).

**KNOWN FINDING `C21/tc-mask-0x3f`.**  The property at full strength (`AuthIgnoresMutable`,
`AuthCoversImmutable`, with `specTC`) is FALSE of the code: `tc_ecn_bits_are_authenticated` and
`tc_top_dscp_bits_not_authenticated` prove the negations with concrete packets.  Everything
except the traffic-class clause is proved (`…_partial`, with `codeTC` in place of `specTC`: all
other clauses are literally the same).  `pkg/spao/mac_test.go` pins the current bytes, so the
code is not repaired.
-/
namespace Scion.C21
open Scion.Spao Scion.Wire Scion.Util

/-- FULL STATEMENT, clause 1: packets (same SPI kind) that agree on all covered fields — i.e.
differ only in pointers, SegIDs, router-alert flags, **ECN bits**, NextHdr, PayloadLen, extension
headers, excluded addresses — have the same authenticator input. -/
def AuthIgnoresMutable : Prop :=
  ∀ a b : AuthIn, a.WF → b.WF → SameClass a b → ImmutEq specTC a b → macInput a = macInput b

/-- FULL STATEMENT, clause 2: the input is injective in the covered fields, **the six DSCP bits
included**. -/
def AuthCoversImmutable : Prop :=
  ∀ a b : AuthIn, a.WF → b.WF → SameClass a b → macInput a = macInput b → ImmutEq specTC a b

/-- both directions at once: the authenticator input is a complete invariant of `ImmutEq codeTC` -/
theorem auth_covers_exactly_partial (a b : AuthIn) (ha : a.WF) (hb : b.WF) (hc : SameClass a b) :
    macInput a = macInput b ↔ ImmutEq codeTC a b := by
  obtain ⟨za, hza, hla, hma, ea⟩ := macInput_ok a ha
  obtain ⟨zb, hzb, hlb, hmb, eb⟩ := macInput_ok b hb
  have hmoda := addrHdrLen_mod4 a.hdr.cmn
  have hmodb := addrHdrLen_mod4 b.hdr.cmn
  constructor
  · intro h
    rw [ea, eb] at h
    injection h with h
    simp only [List.append_assoc] at h
    obtain ⟨hf, h⟩ := List.append_inj h (by simp [length_fixedPart])
    obtain ⟨f0, f1, f2, f3, f4, f5, f6, f7, f8, f9, f10⟩ :=
      fixedPart_inj a b ha hb (by omega) (by omega) hf
    obtain ⟨g1, g2, g3, h⟩ := addrPart_inj a b ha hb hc f9 f10 h
    have hpl : pathLen a.hdr.path = pathLen b.hdr.path := by
      unfold addrHdrLen at f0; rw [f9, f10] at f0; omega
    obtain ⟨hz, hp⟩ := List.append_inj h (by omega)
    exact ⟨f5, f6, f7, f8, f9, f10, g1, g2, g3, by rw [hza, hzb, hz], f1, hp, f3, f4⟩
  · intro h
    obtain ⟨h1, h2, h3, h4, h5, h6, h7, h8, h9, hz, h11, h12, h13, h14⟩ := h
    rw [ea, eb]
    have hzz : za = zb := by rw [hza, hzb] at hz; injection hz
    have hpl : pathLen a.hdr.path = pathLen b.hdr.path := by rw [← hla, ← hlb, hzz]
    rw [fixedPart_congr a b hpl h1 h2 h3 h4 h5 h6 h11 h12 h13 h14,
      addrPart_congr a b hc h7 h8 h9, hzz, h12]

/-- clause 1 for everything except the traffic-class clause (what is missing: `codeTC` = low six
bits instead of `specTC` = high six bits) -/
theorem auth_ignores_mutable_partial (a b : AuthIn) (ha : a.WF) (hb : b.WF) (hc : SameClass a b)
    (h : ImmutEq codeTC a b) : macInput a = macInput b :=
  (auth_covers_exactly_partial a b ha hb hc).mpr h

/-- clause 2 for everything except the traffic-class clause -/
theorem auth_covers_immutable_partial (a b : AuthIn) (ha : a.WF) (hb : b.WF) (hc : SameClass a b)
    (h : macInput a = macInput b) : ImmutEq codeTC a b :=
  (auth_covers_exactly_partial a b ha hb hc).mp h

theorem macInput_defined (a : AuthIn) (ha : a.WF) : ∃ d, macInput a = .ok d := by
  obtain ⟨z, _, _, _, e⟩ := macInput_ok a ha
  exact ⟨_, e⟩

/-- `NextHdr`, `PayloadLen` and the `HdrLen` field never enter the input (extension headers are
not even an argument of `ComputeAuthCMAC`): replacing the common header by any other that agrees
on version, traffic class, flow id, path type and address types leaves the input unchanged -/
theorem auth_ignores_nexthdr_payloadlen (a : AuthIn) (c : Cmn)
    (h1 : c.version = a.hdr.cmn.version) (h2 : c.tc = a.hdr.cmn.tc) (h3 : c.flowID = a.hdr.cmn.flowID)
    (h4 : c.pathType = a.hdr.cmn.pathType) (h5 : c.dstType = a.hdr.cmn.dstType)
    (h6 : c.srcType = a.hdr.cmn.srcType) :
    macInput { a with hdr := { a.hdr with cmn := c } } = macInput a := by
  unfold macInput authData fixedPart addrPart addrHdrLen
  simp only [h1, h2, h3, h4, h5, h6]

theorem tag_changes_of_input_ne (mac : Bytes → Bytes) (hinj : ∀ x y, mac x = mac y → x = y)
    (x y : Bytes) (h : x ≠ y) : mac x ≠ mac y := fun e => h (hinj x y e)

/-! ### which path fields `ImmutEq` (through `zeroPath`) ignores and which it covers -/

theorem path_ignores_pointers (m : PathMeta.Hdr) (body : Bytes) (x y : Nat) :
    zeroPath (.scion { m with currINF := x, currHF := y } body) = zeroPath (.scion m body) := by
  -- the pointers sit in byte 0 of the meta line, which is overwritten, and nowhere else
  show zeroRaw _ body = zeroRaw m body
  unfold zeroRaw
  rw [baseDecode_pointers, PathMeta.natBE_encode, PathMeta.natBE_encode]
  cases PathMeta.baseDecode m <;> rfl

/-- on a SCION path with info fields `is` and hop fields `hs`: the authenticated bytes are the meta
line without its pointer byte, the info fields with SegID cleared, the hop fields with the
router-alert flags cleared — so SegIDs and alert flags are ignored and every other field
(segment lengths, Peer/ConsDir flags, timestamps, expiry, interfaces, MACs) is covered verbatim -/
theorem path_fields_covered (m : PathMeta.Hdr) (b : PathMeta.Base) (is : List Info) (hs : List Hop)
    (hb : PathMeta.baseDecode m = some b) (hi : is.length = b.numINF) (hh : hs.length = b.numHops) :
    zeroPath (.scion m (encInfos is ++ encHops hs)) =
      some (0 :: (natBE 4 (PathMeta.encode m)).drop 1 ++
        (encInfos (is.map clearSegID) ++ encHops (hs.map clearAlerts))) := by
  show zeroRaw m _ = _
  unfold zeroRaw
  rw [hb]
  simp only [natBE]
  have hl : (encInfos is).length = b.numINF * 8 := by rw [length_encInfos, hi]
  rw [takeN_append' _ _ _ hl]
  simp only
  have h1 := zeroSegIDs_encInfos is []
  have h2 := zeroHopFlags_encHops hs []
  simp only [List.append_nil] at h1 h2
  rw [← hi, ← hh, h1, h2]
  simp

/-- one-hop path: SegID, the first hop's router-alert flags and the whole second hop are ignored -/
theorem onehop_ignores_mutable (i : Info) (h1 h2 h2' : Hop) (s : Nat) (a b : Bool) :
    zeroPath (.onehop { i with segID := s } { h1 with inAlert := a, egAlert := b } h2') =
      zeroPath (.onehop i h1 h2) := by
  simp only [zeroPath, encInfo, encHop, natBE, List.cons_append, List.nil_append]

/-- EPIC: PktID, PHVF and LHVF are covered, the embedded path is treated as a SCION path -/
theorem epic_covers_metadata (ts ctr : Nat) (p l : Bytes) (m : PathMeta.Hdr) (body : Bytes)
    (hp : p.length = 4) (hl : l.length = 4) :
    zeroPath (.epic ts ctr p l m body) =
      (zeroRaw m body).map fun z => natBE 4 ts ++ natBE 4 ctr ++ p ++ l ++ z := by
  simp only [zeroPath, hp, hl]
  cases zeroRaw m body <;> simp

/-! ### extension headers: where the upper layer starts -/

/-- **Extension headers are not authenticated.**  Take a packet `header ‖ L4` (upper layer of
protocol `nh`) and the packet obtained by inserting an E2E extension header (for instance the one
carrying the authenticator option itself) or an HBH extension header in front of the upper layer —
which changes `NextHdr` and `PayloadLen` of the SCION header: both have the same authenticator
input.  `upperLayer` (the walk the callers of `ComputeAuthCMAC` perform) finds the same upper
layer type and bytes behind the extension. -/
theorem extension_headers_not_authenticated (h : Hdr) (nh el pl spi alg ts : Nat) (body l4 : Bytes)
    (h1 : nh < 256) (h2 : el < 256) (hl : body.length + 2 = (el + 1) * 4)
    (hn : nh ≠ 200 ∧ nh ≠ 201) (cls : Nat) (hc : cls = 200 ∨ cls = 201) :
    ∃ a b, packetAuthIn (withNext h nh l4.length) l4 spi alg ts = some a ∧
      packetAuthIn (withNext h cls pl) (UInt8.ofNat nh :: UInt8.ofNat el :: (body ++ l4)) spi alg ts = some b ∧
      macInput a = macInput b := by
  have e1 : upperLayer nh l4 = some (nh, l4) := upperLayer_plain nh l4 hn
  have e2 := upperLayer_wrap cls nh el body l4 hc h1 h2 hl hn
  refine ⟨⟨withNext h nh l4.length, spi, alg, ts, nh, l4⟩, ⟨withNext h cls pl, spi, alg, ts, nh, l4⟩, ?_, ?_, ?_⟩
  · simp only [packetAuthIn, withNext, e1]
  · simp only [packetAuthIn, withNext, e2]
  · rw [macInput_withNext, macInput_withNext]

/-! ### the timestamp / sequence number (replay protection) -/

/-- **Replay-relevant field.**  Two inputs that differ in the option's timestamp / sequence
number — whatever else they share or not — have different authenticator inputs (so, for every
MAC that is injective on its input, different tags): a captured packet cannot be replayed under a
new timestamp/sequence number without recomputing the MAC. -/
theorem timestamp_change_changes_input (a b : AuthIn) (ha : a.WF) (hb : b.WF) (hc : SameClass a b)
    (hts : a.ts ≠ b.ts) : macInput a ≠ macInput b := by
  intro h
  obtain ⟨_, _, _, _, _, _, _, _, _, _, _, _, _, e⟩ := (auth_covers_exactly_partial a b ha hb hc).mp h
  exact hts e

theorem timestamp_change_changes_tag (mac : Bytes → Bytes) (hinj : ∀ x y, mac x = mac y → x = y)
    (a b : AuthIn) (da db : Bytes) (ha : a.WF) (hb : b.WF) (hc : SameClass a b) (hts : a.ts ≠ b.ts)
    (ea : macInput a = .ok da) (eb : macInput b = .ok db) : mac da ≠ mac db := by
  apply tag_changes_of_input_ne mac hinj
  intro e
  apply timestamp_change_changes_input a b ha hb hc hts
  rw [ea, eb, e]

theorem algorithm_change_changes_input (a b : AuthIn) (ha : a.WF) (hb : b.WF) (hc : SameClass a b)
    (hal : a.alg ≠ b.alg) : macInput a ≠ macInput b := by
  intro h
  obtain ⟨_, _, _, _, _, _, _, _, _, _, _, _, e, _⟩ := (auth_covers_exactly_partial a b ha hb hc).mp h
  exact hal e

/-! ### the traffic-class clause fails (known finding `C21/tc-mask-0x3f`) -/

def exHdr (tc : Nat) : Hdr :=
  { cmn := { version := 0, tc := tc, flowID := 0x12345, nextHdr := 17, hdrLen := 9,
             payloadLen := 8, pathType := 0, dstType := 0, srcType := 0 },
    dstIA := 0x0001ff0000000110, srcIA := 0x0002ff0000000220,
    rawDst := [10, 0, 0, 1], rawSrc := [10, 0, 0, 2], path := .empty }

def exIn (tc : Nat) : AuthIn :=
  { hdr := exHdr tc, spi := 0x10001, alg := 0, ts := 0x123456789a, pldType := 17,
    pld := [1, 2, 3, 4, 5, 6, 7, 8] }

/-- TC 0x00 vs 0x01 differ in an ECN bit only (equal on all covered fields per the
specification), yet the authenticator inputs differ -/
theorem tc_ecn_bits_are_authenticated : ¬ AuthIgnoresMutable := by
  intro h
  have := h (exIn 0) (exIn 1) (by decide) (by decide) (by decide) (by decide)
  revert this
  decide

/-- TC 0x00 vs 0x40 differ in a DSCP bit, yet the authenticator inputs are equal -/
theorem tc_top_dscp_bits_not_authenticated : ¬ AuthCoversImmutable := by
  intro h
  have := h (exIn 0) (exIn 0x40) (by decide) (by decide) (by decide) (by decide)
  revert this
  unfold ImmutEq specTC
  decide

/-- constants of the layout, re-extracted from the source on every run (`tcMask` is the literal
in `TrafficClass&…` of `serializeAuthenticatedData`) -/
theorem gen_consts :
    Scion.Gen.Spao.tcMask = 0x3f ∧ Scion.Gen.Spao.MACBufferSize = 1032 ∧
    Scion.Gen.Wire.PacketAuthOptionMetadataLen = 12 ∧ Scion.Gen.Wire.CmnHdrLen = 12 ∧
    Scion.Gen.Wire.LineLen = 4 ∧ Scion.Gen.Wire.MaxHdrLen = 1020 ∧ Scion.Gen.Wire.EpicMetadataLen = 16 := by
  decide

theorem codeTC_is_extracted_mask (tc : Nat) : codeTC tc = tc % (Scion.Gen.Spao.tcMask + 1) := rfl

/-! Non-vacuity: the concrete inputs above are well-formed, of the same class, and the partial
theorems apply to them non-trivially (a DRKey AS-host SPI, receiver side: destination host covered). -/
example : (exIn 0).WF ∧ SameClass (exIn 0) (exIn 1) ∧ inclDst (exIn 0).spi = true ∧
    inclSrc (exIn 0).spi = false ∧ inclIA (exIn 0).spi = false := by decide

end Scion.C21
