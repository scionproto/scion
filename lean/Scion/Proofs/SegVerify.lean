import Scion.Model.SegVerify
/-! What `Verifier.Verify` of `Scion.Model.SegVerify` computes: its guards as a conjunction, and the
chains it tries. -/
namespace Scion.SegVerify
open Scion.Signed Scion.Util

theorem verifierVerify_eq_true_iff {SK PK : Type} (P : Parsers) (S : Scheme SK PK)
    (certs : List (Cert PK)) (boundIA : Nat) (nb na : Int) (m : SignedMessage) (ad : List Bytes) :
    verifierVerify P S certs boundIA nb na m ad = true ↔
      ∃ h b k c, extract P.F m.hb = some (h, b) ∧ P.keyId h.keyId = some k ∧ k.skid ≠ [] ∧
        (boundIA = 0 ∨ k.ia = boundIA) ∧ isWildcard k.ia = false ∧
        c ∈ chains certs k nb na ∧ isOk (verifyMsg P.F S m (some c.pk) ad) = true := by
  unfold verifierVerify
  constructor
  · intro hv
    cases hx : extract P.F m.hb with
    | none => rw [hx] at hv; cases hv
    | some hb =>
      obtain ⟨h, b⟩ := hb
      rw [hx] at hv
      dsimp only at hv
      cases hk : P.keyId h.keyId with
      | none => rw [hk] at hv; cases hv
      | some k =>
        rw [hk] at hv
        dsimp only at hv
        by_cases h1 : k.skid.isEmpty = true
        · rw [if_pos h1] at hv; cases hv
        by_cases h2 : boundIA ≠ 0 ∧ boundIA ≠ k.ia
        · rw [if_neg h1, if_pos h2] at hv; cases hv
        by_cases h3 : isWildcard k.ia = true
        · rw [if_neg h1, if_neg h2, if_pos h3] at hv; cases hv
        rw [if_neg h1, if_neg h2, if_neg h3, List.any_eq_true] at hv
        obtain ⟨c, hc, hok⟩ := hv
        refine ⟨h, b, k, c, rfl, hk, fun e => h1 (by rw [e]; rfl), ?_, by simpa using h3, hc, hok⟩
        by_cases h0 : boundIA = 0
        · exact .inl h0
        · exact .inr (Classical.not_not.1 fun hne => h2 ⟨h0, fun e => hne e.symm⟩)
  · rintro ⟨h, b, k, c, hx, hk, hsk, hb, hw, hc, hok⟩
    rw [hx]
    dsimp only
    rw [hk]
    dsimp only
    rw [if_neg (by rwa [List.isEmpty_iff]),
      if_neg (by rintro ⟨h0, hne⟩; exact hb.elim h0 fun e => hne e.symm),
      if_neg (by rw [hw]; exact Bool.false_ne_true)]
    exact List.any_eq_true.2 ⟨c, hc, hok⟩

theorem mem_chains {PK : Type} {certs : List (Cert PK)} {k : KeyId} {nb na : Int} {c : Cert PK} :
    c ∈ chains certs k nb na ↔ c ∈ certs ∧ c.ia = k.ia ∧ c.skid = k.skid ∧ c.nb ≤ nb ∧ na ≤ c.na := by
  simp [chains, and_assoc]

end Scion.SegVerify
