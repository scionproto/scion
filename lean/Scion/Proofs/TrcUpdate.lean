import Scion.Model.TrcUpdate
import Scion.Proofs.Guard
import Scion.Proofs.PairwiseKey
namespace Scion.Trc

theorem nodup_of_cover {α} (seen l : List α) (hn : seen.Nodup) (hs : seen ⊆ l)
    (hl : l.length ≤ seen.length) : l.Nodup ∧ l ⊆ seen := by
  induction seen generalizing l with
  | nil => cases l with
    | nil => exact ⟨.nil, fun _ h => h⟩
    | cons _ _ => simp at hl
  | cons a s ih =>
    -- take `a` out of `l`; the rest still covers `s`
    obtain ⟨l1, l2, rfl⟩ := List.append_of_mem (hs List.mem_cons_self)
    obtain ⟨ha, hs'⟩ := List.nodup_cons.1 hn
    obtain ⟨h1, h2⟩ := ih (l1 ++ l2) hs' (fun x hx => by
        have := hs (List.mem_cons_of_mem _ hx)
        simp only [List.mem_append, List.mem_cons] at this ⊢
        rcases this with h | rfl | h
        · exact .inl h
        · exact absurd hx ha
        · exact .inr h) (by simp at hl ⊢; omega)
    refine ⟨List.perm_middle.nodup_iff.2 (List.nodup_cons.2 ⟨fun h => ha (h2 h), h1⟩), fun x hx => ?_⟩
    simp only [List.mem_append, List.mem_cons] at hx ⊢
    rcases hx with h | rfl | h
    · exact .inr (h2 (List.mem_append_left _ h))
    · exact .inl rfl
    · exact .inr (h2 (List.mem_append_right _ h))

/-! ### indexed certificate maps -/

theorem withIdx_mem {n : Nat} {cs : List Cert} {p : ICert} (h : p ∈ withIdx n cs) :
    n ≤ p.1 ∧ cs[p.1 - n]? = some p.2 := by
  induction cs generalizing n with
  | nil => simp [withIdx] at h
  | cons c cs ih =>
    simp only [withIdx, List.mem_cons] at h
    rcases h with rfl | h
    · simp
    · have := ih h
      refine ⟨by omega, ?_⟩
      have e : p.1 - n = (p.1 - (n + 1)) + 1 := by omega
      rw [e, List.getElem?_cons_succ]
      exact this.2

theorem withIdx_nodup (n : Nat) (cs : List Cert) : ((withIdx n cs).map (·.1)).Nodup := by
  induction cs generalizing n with
  | nil => simp [withIdx]
  | cons c cs ih =>
    simp only [withIdx, List.map_cons, List.nodup_cons, List.mem_map, not_exists, not_and]
    refine ⟨?_, ih (n + 1)⟩
    intro p hp e
    have := (withIdx_mem hp).1
    omega

theorem ofCls_mem {k : Cls} {cs : List Cert} {p : ICert} (h : p ∈ ofCls k cs) :
    cs[p.1]? = some p.2 ∧ p.2.cls = k := by
  unfold ofCls at h
  rw [List.mem_filter] at h
  have := withIdx_mem h.1
  exact ⟨by simpa using this.2, by simpa using h.2⟩

theorem ofCls_nodup (k : Cls) (cs : List Cert) : ((ofCls k cs).map (·.1)).Nodup := by
  unfold ofCls
  exact List.Nodup.sublist (List.Sublist.map _ List.filter_sublist) (withIdx_nodup 0 cs)

theorem withIdx_map_snd (n : Nat) (cs : List Cert) : (withIdx n cs).map (·.2) = cs := by
  induction cs generalizing n with
  | nil => rfl
  | cons c cs ih => simp [withIdx, ih]

theorem ofCls_map_snd (k : Cls) (cs : List Cert) :
    (ofCls k cs).map (·.2) = cs.filter (fun c => c.cls = k) := by
  conv => rhs; rw [← withIdx_map_snd 0 cs, List.filter_map]
  rfl

theorem ofCls_subjects (k : Cls) (cs : List Cert) :
    (ofCls k cs).map (fun p => p.2.subj) = subjectsOf k cs := by
  unfold subjectsOf
  rw [← ofCls_map_snd, List.map_map]
  rfl

theorem lookup_some {m : List ICert} {v : Int} {p : ICert} (h : lookup m v = some p) :
    p ∈ m ∧ (p.1 : Int) = v := by
  unfold lookup at h
  have h1 := List.mem_of_find?_eq_some h
  have h2 := List.find?_some h
  exact ⟨h1, by simpa using h2⟩

theorem findSubj_some {m : List ICert} {c : Cert} {p : ICert} (h : findSubj m c = some p) :
    p ∈ m ∧ p.2.subj = c.subj := by
  unfold findSubj at h
  exact ⟨List.mem_of_find?_eq_some h, by simpa using List.find?_some h⟩

theorem unchangedIn_true {m : List ICert} {c : Cert} (h : unchangedIn m c = true) :
    ∃ p ∈ m, p.2.subj = c.subj ∧ p.2.id = c.id := by
  unfold unchangedIn at h
  split at h
  · rename_i p hp
    have := findSubj_some hp
    exact ⟨p, this.1, this.2, by simpa using h⟩
  · cases h

theorem mem_newVoters {pcs tcs : List Cert} {k : Cls} (hk : k = .sens ∨ k = .reg) {c : ICert}
    (hc : c ∈ ofCls k tcs) (hnew : unchangedIn (ofCls k pcs) c.2 = false) : c ∈ newVoters pcs tcs := by
  unfold newVoters
  rw [List.mem_append, List.mem_filter, List.mem_filter]
  rcases hk with rfl | rfl
  · exact Or.inl ⟨hc, by rw [hnew]; rfl⟩
  · exact Or.inr ⟨hc, by rw [hnew]; rfl⟩

theorem castVotes_some {m : List ICert} {vs : List Int} {r : List ICert}
    (h : castVotes m vs = some r) :
    r.map (fun p => (p.1 : Int)) = vs ∧ ∀ p ∈ r, p ∈ m := by
  induction vs generalizing r with
  | nil => simp [castVotes] at h; subst h; simp
  | cons v vs ih =>
    unfold castVotes at h
    split at h
    · cases h
    · rename_i c hc
      split at h
      · cases h
      · rename_i r' hr'
        cases h
        have h1 := lookup_some hc
        have h2 := ih hr'
        refine ⟨by simp [h1.2, h2.1], ?_⟩
        intro p hp
        rcases List.mem_cons.mp hp with rfl | hp
        · exact h1.1
        · exact h2.2 p hp

/-! ### signatures -/

theorem findCert_some {si : Signer} {certs : List ICert} {p : ICert}
    (h : findCert si certs = .some p) : p ∈ certs := by
  unfold findCert at h
  split at h
  · split at h
    · rename_i q hq; cases h; exact List.mem_of_find?_eq_some hq
    · cases h
  · split at h
    · split at h
      · rename_i q hq; cases h; exact List.mem_of_find?_eq_some hq
      · cases h
    · cases h

theorem verifyLoop_inv {certs : List ICert} {sis : List Signer} {seen seen' : List Nat}
    (h : verifyLoop certs sis seen = some seen') (hn : seen.Nodup) :
    seen'.Nodup ∧ ∀ i ∈ seen', i ∈ seen ∨
      ∃ si ∈ sis, ∃ p, findCert si certs = .some p ∧ p.1 = i ∧ p.2.id ∈ si.okUnder := by
  induction sis generalizing seen with
  | nil =>
    simp only [verifyLoop, Option.some.injEq] at h
    subst h
    exact ⟨hn, fun i hi => Or.inl hi⟩
  | cons si sis ih =>
    have lift : ∀ {seen₁ : List Nat} {i}, (i ∈ seen₁ ∨
          ∃ s ∈ sis, ∃ p, findCert s certs = .some p ∧ p.1 = i ∧ p.2.id ∈ s.okUnder) →
        i ∈ seen₁ ∨ ∃ s ∈ si :: sis, ∃ p, findCert s certs = .some p ∧ p.1 = i ∧ p.2.id ∈ s.okUnder :=
      fun h => h.imp_right fun ⟨s, hs, hh⟩ => ⟨s, List.mem_cons_of_mem _ hs, hh⟩
    unfold verifyLoop at h
    split at h
    · cases h
    · exact ⟨(ih h hn).1, fun i hi => lift ((ih h hn).2 i hi)⟩
    · rename_i p hp
      split at h
      case isFalse => cases h
      rename_i hok
      have hn' : (if p.1 ∈ seen then seen else p.1 :: seen).Nodup := by
        split
        · exact hn
        · rename_i hni; exact List.nodup_cons.mpr ⟨hni, hn⟩
      refine ⟨(ih h hn').1, fun i hi => ?_⟩
      rcases lift ((ih h hn').2 i hi) with h1 | h1
      · by_cases hps : p.1 ∈ seen
        · rw [if_pos hps] at h1; exact Or.inl h1
        · rw [if_neg hps, List.mem_cons] at h1
          rcases h1 with rfl | h1
          · exact Or.inr ⟨si, List.mem_cons_self, p, hp, rfl, hok⟩
          · exact Or.inl h1
      · exact Or.inr h1

/-- Pigeonhole: the verified indices are distinct, all among those of `certs`, and as many. -/
theorem verifyAll_true {sis : List Signer} {certs : List ICert} (h : verifyAll sis certs = true) :
    (certs.map (·.1)).Nodup ∧
      ∀ p ∈ certs, ∃ si ∈ sis, findCert si certs = .some p ∧ p.2.id ∈ si.okUnder := by
  unfold verifyAll at h
  split at h
  · cases h
  · rename_i seen hs
    have hlen : seen.length = certs.length := by simpa using h
    have inv := verifyLoop_inv hs List.nodup_nil
    simp only [List.not_mem_nil, false_or] at inv
    have hsub : seen ⊆ certs.map (·.1) := by
      intro i hi
      obtain ⟨si, _, p, hp, rfl, _⟩ := inv.2 i hi
      exact List.mem_map.mpr ⟨p, findCert_some hp, rfl⟩
    have hc := nodup_of_cover seen (certs.map (·.1)) inv.1 hsub (by simp [hlen])
    refine ⟨hc.1, fun p hp => ?_⟩
    obtain ⟨si, hsi, q, hq, hi, hok⟩ := inv.2 p.1 (hc.2 (List.mem_map.mpr ⟨p, hp, rfl⟩))
    cases eq_of_mem_of_key_eq (List.pairwise_map.1 hc.1) (findCert_some hq) hp hi
    exact ⟨si, hsi, hq, hok⟩

/-! ### inversion of `validateUpdate` / `validateRegular` / `verify` -/

theorem checkLink_ok {t p : TRC} (h : checkLink t p = .ok ()) :
    p.isd = t.isd ∧ p.base = t.base ∧ (p.serial + 1) % 2^64 = t.serial ∧
    p.noTrustReset = t.noTrustReset ∧ p.quorum ≤ (t.votes.length : Int) := by
  simpa only [checkLink, ite_error_eq_ok, ne_eq, Decidable.not_not, Int.not_lt, and_true] using h

/-- the two ways `ValidateUpdate` can succeed, told apart by the first vote -/
inductive UpdShape (t p : TRC) (u : Update) : Prop where
  | sensitive (v0 : Int) (rest : List Int) (hv : t.votes = v0 :: rest)
      (hfirst : lookup (ofCls .reg p.certs) v0 = none)
      (hvotes : castVotes (ofCls .sens p.certs) t.votes = some u.votes)
      (hty : u.type = .sensitive)
  | regular (v0 : Int) (rest : List Int) (hv : t.votes = v0 :: rest) (x : ICert)
      (hfirst : lookup (ofCls .reg p.certs) v0 = some x)
      (hreg : validateRegular t p = .ok (u.votes, u.acks))
      (hty : u.type = .regular)

theorem validateUpdate_ok {t : TRC} {p : Option TRC} {u : Update}
    (h : validateUpdate t p = .ok u) :
    validate t = .ok () ∧ ∃ p', p = some p' ∧ checkLink t p' = .ok () ∧
      classify p'.certs = .ok () ∧ u.newVoters = newVoters p'.certs t.certs ∧ UpdShape t p' u := by
  unfold validateUpdate at h
  split at h; · cases h
  rename_i hval
  split at h; · cases h
  rename_i p'
  split at h; · cases h
  rename_i hl
  split at h; · cases h
  rename_i hc
  refine ⟨hval, p', rfl, hl, hc, ?_⟩
  split at h; · cases h
  rename_i v0 rest hv
  split at h
  · rename_i hf
    split at h; · cases h
    rename_i voters hcv
    cases h
    exact ⟨rfl, .sensitive v0 rest hv hf hcv rfl⟩
  · rename_i x hf
    split at h; · cases h
    rename_i voters acks hr
    cases h
    exact ⟨rfl, .regular v0 rest hv x hf hr rfl⟩

theorem changedOf_some {pm : List ICert} {l r : List ICert} (h : changedOf pm l = some r) :
    (∀ c ∈ l, ∃ q, findSubj pm c.2 = some q ∧ (q.2.id ≠ c.2.id → q ∈ r)) ∧
    (∀ q ∈ r, q ∈ pm) := by
  induction l generalizing r with
  | nil => simp only [changedOf, Option.some.injEq] at h; subst h; simp
  | cons c cs ih =>
    unfold changedOf at h
    split at h
    · cases h
    · rename_i q hq
      split at h
      · cases h
      · rename_i r' hr'
        obtain ⟨ih1, ih2⟩ := ih hr'
        cases h
        constructor
        · refine List.forall_mem_cons.2 ⟨⟨q, hq, fun hne => by simp [hne]⟩, fun c' hc' => ?_⟩
          obtain ⟨q', hq', hin⟩ := ih1 c' hc'
          exact ⟨q', hq', fun hne => by split <;> simp [hin hne]⟩
        · intro q' hq'
          split at hq'
          · exact ih2 q' hq'
          · exact (List.mem_cons.1 hq').elim (· ▸ (findSubj_some hq).1) (ih2 q')

theorem allUnchanged_true {pm l : List ICert} (h : allUnchanged pm l = true) :
    ∀ c ∈ l, unchangedIn pm c.2 = true := by
  induction l with
  | nil => simp
  | cons c cs ih =>
    simp only [allUnchanged, Bool.and_eq_true] at h
    intro c' hc'
    rcases List.mem_cons.mp hc' with rfl | hc'
    · exact h.1
    · exact ih h.2 c' hc'

structure RegularFacts (t p : TRC) (voters acks : List ICert) : Prop where
  quorum : p.quorum = t.quorum
  core : p.core = t.core
  auth : p.auth = t.auth
  sensCount : (ofCls .sens p.certs).length = (ofCls .sens t.certs).length
  sensSame : ∀ c ∈ ofCls .sens t.certs, unchangedIn (ofCls .sens p.certs) c.2 = true
  rootCount : (ofCls .root p.certs).length = (ofCls .root t.certs).length
  rootKept : ∀ c ∈ ofCls .root t.certs, ∃ q, findSubj (ofCls .root p.certs) c.2 = some q ∧
    (q.2.id ≠ c.2.id → q ∈ acks)
  acksRoots : ∀ q ∈ acks, q ∈ ofCls .root p.certs
  regCount : (ofCls .reg p.certs).length = (ofCls .reg t.certs).length
  regKept : ∀ c ∈ ofCls .reg t.certs, ∃ q, findSubj (ofCls .reg p.certs) c.2 = some q ∧
    (q.2.id ≠ c.2.id → (q.1 : Int) ∈ t.votes)
  votes : castVotes (ofCls .reg p.certs) t.votes = some voters

theorem validateRegular_ok {t p : TRC} {voters acks : List ICert}
    (h : validateRegular t p = .ok (voters, acks)) : RegularFacts t p voters acks := by
  unfold validateRegular at h
  simp only [ite_error_eq_ok, ne_eq, Decidable.not_not, Bool.not_eq_false] at h
  obtain ⟨quorum, core, auth, sensCount, hsens, rootCount, h⟩ := h
  split at h; · cases h
  rename_i acks' hacks
  simp only [ite_error_eq_ok, Decidable.not_not] at h
  obtain ⟨regCount, h⟩ := h
  split at h; · cases h
  rename_i expected hexp
  split at h; · cases h
  rename_i voters' votes
  rw [ite_else_error_eq_ok, List.all_eq_true] at h
  obtain ⟨hall, h⟩ := h
  cases h
  have hr := changedOf_some hacks
  have he := changedOf_some hexp
  exact
    { quorum, core, auth, sensCount, rootCount, regCount, votes
      sensSame := allUnchanged_true hsens
      rootKept := hr.1
      acksRoots := hr.2
      regKept := fun c hc =>
        let ⟨q, hq, hin⟩ := he.1 c hc
        ⟨q, hq, fun hne => by simpa using hall q (hin hne)⟩ }

end Scion.Trc
