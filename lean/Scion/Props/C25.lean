import Scion.Proofs.BeaconPolicy
import Scion.Gen.Beacon
/-!
# C25 — Only valid, policy-conforming beacons are stored and propagated

Model: `Scion.Model.BeaconPolicy` (`Handler.HandleBeacon`,
`validateASEntry`, `baseStore.PreFilter/InsertBeacon`, `Policies.Filter/Usage`, `Filter.Apply`,
`FilterLoop`, `Propagator.shouldIgnore`), tied to the code by `harness/cmd/beacon` (real handler,
real stores, real propagator).
-/
namespace Scion.C25
open Scion.BeaconPolicy

/-- the hop list `buildHops` of a beacon given as `(Local, Next)` entries -/
abbrev hopsOf (entries : List (IA × IA)) : List IA := entries.map (·.1)

/-- **stored only if / stored iff.** A received beacon reaches the database exactly when it
arrived on a known interface whose link is parent or core, its last AS entry is the neighbour of
that interface and names the local AS as next hop, all signatures verify, and at least one policy
accepts it; the usage it is stored with is that of the accepting policies. -/
theorem stored_iff (loc : IA) (ps : Policies) (intf : Option Intf) (entries : List (IA × IA))
    (sigOk : Bool) (u : List PolicyTag) :
    handle loc ps intf entries sigOk = .stored u ↔
      ∃ i, intf = some i ∧ (i.lt = .parent ∨ i.lt = .core) ∧
        entries.getLast? = some (i.ia, loc) ∧ sigOk = true ∧
        u = usage ps (hopsOf entries) ∧ u ≠ [] := by
  cases intf with
  | none => simp [handle]
  | some i =>
    simp only [Option.some.injEq, exists_eq_left']
    rw [← and_assoc, ← validateASEntry_eq_true_iff, handle]
    cases hpf : preFilterOk ps (hopsOf entries) with
    | false =>
      have := mt (preFilterOk_iff_usage ps (hopsOf entries)).2 (by simp [hpf])
      simp only [Bool.not_false, if_true, reduceCtorEq, false_iff, not_and]
      rintro _ _ rfl; exact this
    | true =>
      have hne := (preFilterOk_iff_usage ps _).1 hpf
      cases hv : validateASEntry loc i entries with
      | none => simp
      | some b =>
        cases b
        · simp
        cases sigOk
        · simp
        simp only [if_false, Bool.not_true, Bool.false_eq_true, true_and]
        cases hu : usage ps (hopsOf entries) with
        | nil => exact absurd hu hne
        | cons t ts =>
          simp only [Outcome.stored.injEq, eq_comm (a := u), iff_self_and]
          rintro rfl; exact List.cons_ne_nil _ _

/-- **exactly the usages of the accepting policies**: a usage is recorded iff the policy with
that tag accepts the beacon -/
theorem stored_usage_eq_accepting_policies (loc : IA) (ps : Policies) (intf : Option Intf)
    (entries : List (IA × IA)) (sigOk : Bool) (u : List PolicyTag)
    (h : handle loc ps intf entries sigOk = .stored u) (t : PolicyTag) :
    t ∈ u ↔ ∃ f, (t, f) ∈ ps ∧ f.accepts (hopsOf entries) = true := by
  obtain ⟨_, _, _, _, _, hu, _⟩ := (stored_iff loc ps intf entries sigOk u).1 h
  rw [hu]
  exact mem_usage ps _ t

/-- **no stored beacon exceeds a policy's maximum length or contains a blocked AS or ISD for the
usages it is stored with** (policies have distinct tags, as in `Policies`/`CorePolicies`);
it is also free of AS loops, and of ISD loops where the policy disallows them -/
theorem stored_respects_filters (loc : IA) (ps : Policies) (intf : Option Intf)
    (entries : List (IA × IA)) (sigOk : Bool) (u : List PolicyTag)
    (hnd : (ps.map (·.1)).Nodup)
    (h : handle loc ps intf entries sigOk = .stored u)
    (t : PolicyTag) (f : Filter) (hm : (t, f) ∈ ps) (ht : t ∈ u) :
    ((hopsOf entries).length : Int) ≤ f.maxHops ∧
    (∀ ia ∈ hopsOf entries, ia.as ∉ f.asBlack ∧ ia.isd ∉ f.isdBlack) ∧
    asLoop (hopsOf entries) = false ∧
    (f.allowIsdLoop = false → isdLoop (hopsOf entries) = false) := by
  obtain ⟨f', hm', ha⟩ := (stored_usage_eq_accepting_policies loc ps intf entries sigOk u h t).1 ht
  -- distinct tags: the policy carrying tag `t` is unique
  have hff : f' = f :=
    congrArg Prod.snd (eq_of_mem_of_key_eq (List.pairwise_map.1 hnd) hm' hm rfl)
  subst hff
  obtain ⟨hl, hloop, hb⟩ := (accepts_iff f' _).1 ha
  obtain ⟨h1, h2⟩ := (hasLoop_false_iff _ _).1 hloop
  exact ⟨hl, hb, h1, h2⟩

/-- the two policy sets of the real stores have distinct tags -/
example (a b c : Filter) : (([(.prop, a), (.upReg, b), (.downReg, c)] : Policies).map (·.1)).Nodup := by
  simp
example (a b : Filter) : (([(.prop, a), (.coreReg, b)] : Policies).map (·.1)).Nodup := by simp

/-! ### propagation -/

/-- The propagation clause at full strength: whenever `shouldIgnore` lets a beacon pass on an
interface, the path the beacon is sent with — its entries, then the local AS (appended by the
extender), then the neighbour behind the egress interface — has no AS loop, and no ISD loop
(as `filterIsdLoop` defines it, DESIGN §7a) unless ISD loops are allowed. -/
def NeverPropagateLoop : Prop :=
  ∀ (loc next : IA) (allow : Bool) (hops : List IA), next ≠ (0, 0) →
    shouldIgnore loc allow hops next = false →
      asLoop (hops ++ [loc] ++ [next]) = false ∧
      (allow = false → isdLoop (hops ++ [loc] ++ [next]) = false)

theorem never_propagate_loop : NeverPropagateLoop := by
  intro loc next allow hops hnz h
  unfold shouldIgnore filterLoop at h
  rw [if_neg hnz] at h
  exact (hasLoop_false_iff _ _).1 h

/-- **No beacon is propagated over an interface where it would create an AS loop**, in plain
terms: the path sent visits no AS twice — in particular the beacon does not already contain the
local AS (the loop repaired by 2734f5b) nor the neighbour.  (No wildcard `0-0` among the ASes.) -/
theorem never_propagate_as_loop (loc next : IA) (allow : Bool) (hops : List IA)
    (hz : (0, 0) ∉ hops) (hlz : loc ≠ (0, 0)) (hnz : next ≠ (0, 0))
    (h : shouldIgnore loc allow hops next = false) :
    (hops ++ [loc] ++ [next]).Nodup ∧ loc ∉ hops ∧ next ∉ hops ∧ next ≠ loc := by
  have has := (never_propagate_loop loc next allow hops hnz h).1
  have hz' : (0, 0) ∉ hops ++ [loc] ++ [next] := by
    simp only [List.mem_append, List.mem_singleton, not_or]
    exact ⟨⟨hz, fun e => hlz e.symm⟩, fun e => hnz e.symm⟩
  have hnd := (asLoop_false_iff_nodup _ hz').1 has
  refine ⟨hnd, ?_⟩
  simp only [List.nodup_append, List.mem_append, List.mem_singleton, forall_eq, or_imp,
    forall_and] at hnd
  exact ⟨fun hm => hnd.1.2.2 _ hm rfl, fun hm => hnd.2.2.1 _ hm rfl, fun e => hnd.2.2.2 e.symm⟩

/-- **… or an ISD loop when those are disallowed** (the clause repaired after this check found
`1-100 → 2-100 → 1-101` being propagated): the ISD test sees the local AS. -/
theorem never_propagate_isd_loop (loc next : IA) (hops : List IA) (hnz : next ≠ (0, 0))
    (h : shouldIgnore loc false hops next = false) :
    isdLoop (hops ++ [loc] ++ [next]) = false :=
  (never_propagate_loop loc next false hops hnz h).2 rfl

/-- the same in plain terms: merging consecutive hops of one ISD, the ISD sequence of the path
sent never returns to an ISD it has left (no ISD 0 among the hops) -/
theorem never_propagate_isd_reentry (loc next : IA) (hops : List IA) (hnz : next ≠ (0, 0))
    (h0 : ∀ ia ∈ hops ++ [loc] ++ [next], ia.isd ≠ 0)
    (h : shouldIgnore loc false hops next = false) :
    (runsFrom 0 ((hops ++ [loc] ++ [next]).map IA.isd)).Nodup :=
  (isdLoop_false_iff _ h0).1 (never_propagate_isd_loop loc next hops hnz h)

/-- the input on which the unrepaired code propagated into an ISD loop is now ignored -/
example : shouldIgnore (2, 100) false [(1, 100)] (1, 101) = true := by decide
/-- and a beacon that already contains the local AS is ignored whatever the switch -/
example : shouldIgnore (1, 120) true [(1, 100), (1, 120), (1, 110)] (1, 130) = true := by decide

/-! ### regenerated facts -/

theorem gen_consts :
    (Scion.Gen.Beacon.DefaultMaxHopsLength : Int) = defaultMaxHopsLength ∧
    Scion.Gen.Beacon.UsageUpReg = PolicyTag.upReg.bit ∧
    Scion.Gen.Beacon.UsageDownReg = PolicyTag.downReg.bit ∧
    Scion.Gen.Beacon.UsageCoreReg = PolicyTag.coreReg.bit ∧
    Scion.Gen.Beacon.UsageProp = PolicyTag.prop.bit := by decide

/-! ### non-vacuity -/

/-- a two-entry beacon from `1-100` via the parent `1-110`, received by `1-120`, accepted by the
propagation and the up-registration policy but not by the down-registration policy (which
blocks AS 100): stored with usage prop + upReg = 9 -/
example :
    handle (1, 120)
      [(.prop, ⟨10, [], [], true⟩), (.upReg, ⟨10, [], [], true⟩), (.downReg, ⟨10, [100], [], true⟩)]
      (some ⟨(1, 110), .parent⟩) [((1, 100), (1, 110)), ((1, 110), (1, 120))] true
      = .stored [.prop, .upReg] := by decide

/-- the link check is an allow-list: an interface whose link type is unset (or any other value)
never lets a beacon in -/
example (lt : LinkType) (hlt : lt ≠ .parent ∧ lt ≠ .core) (ps : Policies) (es : List (IA × IA)) (u : List PolicyTag) :
    handle (1, 120) ps (some ⟨(1, 110), lt⟩) es true ≠ .stored u := by
  intro h
  obtain ⟨i, hi, hl, _⟩ := (stored_iff _ _ _ _ _ _).1 h
  cases hi
  rcases hl with hl | hl
  · exact hlt.1 hl
  · exact hlt.2 hl

example : shouldIgnore (1, 120) false [(1, 100), (1, 110)] (1, 130) = false := by decide
example : isdLoop [(1, 100), (2, 100), (1, 101)] = true ∧ isdLoop [(1, 100), (1, 101), (2, 100)] = false := by
  decide

end Scion.C25
