import Scion.Model.Trc
/-! Stage lemmas for `Scion.Trc.validate`: each stage accepts iff its rule holds. -/
namespace Scion.Trc

theorem andThen_ok_iff (a b : Except Err Unit) :
    andThen a b = .ok () ↔ a = .ok () ∧ b = .ok () := by
  unfold andThen
  cases a <;> simp

theorem andThen_error_iff (a b : Except Err Unit) (e : Err) :
    andThen a b = .error e ↔ a = .error e ∨ (a = .ok () ∧ b = .error e) := by
  unfold andThen
  cases a <;> simp

theorem checkID_ok_iff (t : TRC) :
    checkID t = .ok () ↔ t.isd ≠ 0 ∧ t.base ≤ t.serial ∧ 1 ≤ t.base := by
  unfold checkID
  grind

theorem checkHead_ok_iff (t : TRC) :
    checkHead t = .ok () ↔
      t.version = 1 ∧ (t.isd ≠ 0 ∧ t.base ≤ t.serial ∧ 1 ≤ t.base) ∧ t.nb < t.na ∧
      (t.serial = t.base → t.grace = 0) ∧ (t.serial = t.base → t.votes = []) ∧
      1 ≤ t.quorum ∧ t.quorum ≤ 255 := by
  rw [← checkID_ok_iff]
  unfold checkHead TRC.isBase
  grind [andThen_ok_iff]

theorem asSeqLoop_ok_iff (l : List Nat) : asSeqLoop l = .ok () ↔ 0 ∉ l ∧ l.Nodup := by
  induction l with
  | nil => simp [asSeqLoop]
  | cons a rest ih =>
    unfold asSeqLoop
    simp only [List.mem_cons, not_or, List.nodup_cons]
    grind

theorem asSeq_ok_iff (l : List Nat) : asSeq l = .ok () ↔ l ≠ [] ∧ 0 ∉ l ∧ l.Nodup := by
  unfold asSeq
  rw [← asSeqLoop_ok_iff]
  grind

/-- the certificate is classifiable as one of the three kinds a TRC may carry -/
def Cert.votingOrRoot (c : Cert) : Prop := c.cls = .sens ∨ c.cls = .reg ∨ c.cls = .root

theorem classify_ok_iff (cs : List Cert) :
    classify cs = .ok () ↔ ∀ c ∈ cs, c.votingOrRoot := by
  induction cs with
  | nil => simp [classify]
  | cons c cs ih =>
    unfold classify
    simp only [List.mem_cons, forall_eq_or_imp, Cert.votingOrRoot]
    cases h : c.cls <;> simp [ih, Cert.votingOrRoot]

/-- the certificate belongs to the TRC's ISD and covers the TRC's validity -/
def Cert.okFor (t : TRC) (c : Cert) : Prop :=
  c.iaKind ≠ 0 ∧ (c.iaKind = 2 → c.isd = t.isd) ∧ c.nb ≤ t.nb ∧ t.na ≤ c.na

theorem checkCerts_ok_iff (t : TRC) (cs : List Cert) :
    checkCerts t cs = .ok () ↔ ∀ c ∈ cs, c.okFor t := by
  induction cs with
  | nil => simp [checkCerts]
  | cons c cs ih =>
    unfold checkCerts
    simp only [List.mem_cons, forall_eq_or_imp]
    rw [← ih]
    unfold Cert.okFor
    grind

def Cert.clash (a b : Cert) : Prop := a.serial = b.serial ∧ a.issN = b.issN

theorem sameIssuerSerial_iff (a b : Cert) : sameIssuerSerial a b = true ↔ a.clash b := by
  simp [sameIssuerSerial, Cert.clash]

theorem issSerialUnique_ok_iff (cs : List Cert) :
    issSerialUnique cs = .ok () ↔ cs.Pairwise (fun a b => ¬ a.clash b) := by
  induction cs with
  | nil => simp [issSerialUnique]
  | cons a rest ih =>
    unfold issSerialUnique
    rw [List.pairwise_cons, ← ih]
    have : rest.any (sameIssuerSerial a) = true ↔ ∃ b ∈ rest, a.clash b := by
      rw [List.any_eq_true]; simp only [sameIssuerSerial_iff]
    grind

theorem subjUniqueLoop_ok_iff (l : List Nat) : subjUniqueLoop l = .ok () ↔ l.Nodup := by
  induction l with
  | nil => simp [subjUniqueLoop]
  | cons a rest ih =>
    unfold subjUniqueLoop
    rw [List.nodup_cons, ← ih]
    grind

theorem checkBody_ok_iff (t : TRC) :
    checkBody t = .ok () ↔
      (∀ c ∈ t.certs, c.votingOrRoot) ∧
      t.quorum ≤ (countCls .sens t.certs : Int) ∧ t.quorum ≤ (countCls .reg t.certs : Int) ∧
      (∀ c ∈ t.certs, c.okFor t) ∧
      t.certs.Pairwise (fun a b => ¬ a.clash b) ∧
      (subjectsOf .sens t.certs).Nodup ∧ (subjectsOf .reg t.certs).Nodup ∧
      (subjectsOf .root t.certs).Nodup := by
  unfold checkBody
  rw [← classify_ok_iff, ← checkCerts_ok_iff, ← issSerialUnique_ok_iff,
    ← subjUniqueLoop_ok_iff, ← subjUniqueLoop_ok_iff, ← subjUniqueLoop_ok_iff]
  grind [andThen_ok_iff]

end Scion.Trc
