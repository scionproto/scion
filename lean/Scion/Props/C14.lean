import Scion.Proofs.PoolObs
import Scion.Gen.Pool
/-! # C14 — every packet buffer has exactly one owner at a time

Model: `Scion.Model.Pool` — the ownership protocol of the router pipeline as an interleaving
transition system (one event per `Get`/`Put`/hand-over site; full queues, write errors, partial
batch writes and stop are nondeterministic choices between events). Lemmas: `Scion.Proofs.Pool`.
Facts regenerated from the source: `Scion.Gen.Pool` (the hand-over sites of every stage in source
order and the batch bookkeeping statements). Engine `pool` runs the real pipeline with scripted
sockets and validates what is observable at the sockets against `Pool.obsStep`.

PARTIAL: data races in the sense of the Go memory model are outside the model; the model's
atomic steps are the channel operations of the code. -/
namespace Scion.C14
open Scion.Pool

/-- the states reachable from the initial pool of `n` buffers under any interleaving / fault
sequence -/
def Reachable (n : Nat) (s : State) : Prop := ∃ es, run (init n) es = some s

theorem reachable_perm (n : Nat) (s : State) (h : Reachable n s) :
    (bufs s.holdings).Perm (List.range n) := by
  obtain ⟨es, he⟩ := h
  have := run_perm es (init n) s he
  rw [bufs_init] at this
  exact this

/-- **One owner.** In every reachable state every buffer of the pool is at exactly one place:
in the pool, in one queue, or in the hands of one stage — never at two, never nowhere. -/
theorem one_owner (n : Nat) (s : State) (h : Reachable n s) (b : Buf) (hb : b < n) :
    ∃ loc, (loc, b) ∈ s.holdings ∧ ∀ loc', (loc', b) ∈ s.holdings → loc' = loc := by
  have hp := reachable_perm n s h
  have hmem : b ∈ bufs s.holdings := hp.mem_iff.mpr (List.mem_range.mpr hb)
  obtain ⟨p, hpin, hpb⟩ := List.mem_map.mp hmem
  have hnd : (bufs s.holdings).Nodup := hp.nodup_iff.mpr List.nodup_range
  refine ⟨p.1, ?_, ?_⟩
  · have : p = (p.1, b) := by rw [← hpb]
    rw [← this]; exact hpin
  · intro loc' hl
    have := eq_of_nodup_snd s.holdings hnd (loc', b) p hl hpin hpb.symm
    rw [← this]

theorem no_duplicates (n : Nat) (s : State) (h : Reachable n s) :
    (bufs s.holdings).Nodup ∧ ∀ b ∈ bufs s.holdings, b < n := by
  have hp := reachable_perm n s h
  exact ⟨hp.nodup_iff.mpr List.nodup_range, fun b hb => List.mem_range.mp (hp.mem_iff.mp hb)⟩

/-- **`Put` only by the current owner, `Get` only hands out buffers that are in the pool**: an
event is enabled only if every buffer it moves is at the event's source location. -/
theorem moves_only_owned (s s' : State) (e : Ev) (h : step s e = some s') :
    ∀ b ∈ e.move.2.2, (e.move.1, b) ∈ s.holdings ∨ ∃ b' ∈ e.move.2.2, b' ≠ b := by
  intro b hb
  have hm := step_moveAll s s' e h
  -- the first buffer of the batch must be at the source; any other has the first beside it
  cases hl : e.move.2.2 with
  | nil => rw [hl] at hb; cases hb
  | cons b0 rest =>
    rw [hl] at hm hb
    have hin := (moveAll_cons_some hm).1
    by_cases hbb : b0 = b
    · exact Or.inl (hbb ▸ hin)
    · exact Or.inr ⟨b0, List.mem_cons_self, hbb⟩

/-- a `Put` (any event whose destination is the pool) of a buffer that is already in the pool —
a double return — is never enabled in a reachable state -/
theorem no_double_put (n : Nat) (s : State) (h : Reachable n s) (e : Ev) (b : Buf)
    (hmv : e.move.2.2 = [b]) (hsrc : e.move.1 ≠ .pool) (hpool : (Loc.pool, b) ∈ s.holdings) :
    step s e = none := by
  cases hs : step s e with
  | none => rfl
  | some s' =>
    have hm := step_moveAll s s' e hs
    rw [hmv] at hm
    have hin := (moveAll_cons_some hm).1
    have := eq_of_nodup_snd s.holdings (no_duplicates n s h).1 (e.move.1, b) (Loc.pool, b) hin
      hpool rfl
    exact absurd (congrArg Prod.fst this) hsrc

/-- all queues empty and no stage holding a buffer -/
def Quiescent (s : State) : Prop := ∀ p ∈ s.holdings, p.1 = Loc.pool ∨ p.1 = Loc.lost

/-- **No leak.** In a run in which `bfdSend.Send` never fails to serialise, whenever the pipeline
is quiescent all `n` buffers are back in the pool. -/
theorem no_leak_quiescent (n : Nat) (es : List Ev) (s : State)
    (hser : ∀ e ∈ es, e.isSerializeError = false)
    (hr : run (init n) es = some s) (hq : Quiescent s) :
    (holds s.holdings .pool).Perm (List.range n) := by
  have hn := run_noLost es (init n) s hr hser (noLost_init n)
  have hall : ∀ p ∈ s.holdings, p.1 = Loc.pool := fun p hp =>
    (hq p hp).resolve_right (hn p hp)
  have hf : s.holdings.filter (fun p => p.1 == Loc.pool) = s.holdings := by
    apply List.filter_eq_self.mpr
    intro p hp
    simp [hall p hp]
  have : holds s.holdings .pool = bufs s.holdings := by
    unfold holds bufs
    rw [hf]
  rw [this]
  exact reachable_perm n s ⟨es, hr⟩

/-- the full-strength statement without the serialisation hypothesis does not hold of the code
as written: `bfdSend.Send` returns on a serialisation error without returning the buffer. It is
kept visible here; it is reachable only if `gopacket.SerializeLayers` can fail for the fixed
SCION/BFD layers of a `bfdSend` (see registry level_note). -/
def NoLeakUnconditional : Prop :=
  ∀ n es s, run (init n) es = some s → Quiescent s → (holds s.holdings .pool).Perm (List.range n)

theorem no_leak_unconditional_fails : ¬ NoLeakUnconditional := by
  intro h
  have := h 1 [.bfdGet 0 0, .bfdSerializeError 0 0] ⟨[(Loc.lost, 0)]⟩ (by decide) (by
    intro p hp
    simp only [List.mem_cons, List.mem_nil_iff, or_false] at hp
    rw [hp]; exact Or.inr rfl)
  have hl := this.length_eq
  simp [holds] at hl

/-! ### What the sockets see (the acceptor used for trace validation) -/

/-- **The acceptor accepts every behaviour of the protocol.** For every run of the model the
sequence of socket-level observations it gives rise to (buffers registered for `ReadBatch`,
filled, presented to `WriteBatch`, written or dropped, released at stop) is accepted by
`obsStep`, and the acceptor's book-keeping agrees with the model state afterwards. So a rejected
trace of the real pipeline is not a behaviour of the protocol. -/
theorem socket_observations_accepted (n : Nat) (es : List Ev) (s : State)
    (h : run (init n) es = some s) :
    ∃ σ, obsRun [] (es.flatMap Ev.obs) = .ok σ ∧ Agree s.holdings σ := by
  apply run_obs es _ s h []
  · rw [bufs_init]; exact List.nodup_range
  · intro p hp
    simp only [init, List.mem_map] at hp
    obtain ⟨b, _, rfl⟩ := hp
    rfl

/-- **… and rejects a second holder.** While a receiver has a buffer registered, the acceptor
rejects the pool handing it to any receiver and any sender presenting it; while a sender holds
it, the pool handing it out or another sender presenting it. -/
theorem acceptor_rejects_second_holder (σ : ObsState) (b : Buf) (c : Nat) :
    (seen σ b = .rx c → ∀ c', (obsStep σ (.hold c' b)).isOk = false ∧
        (obsStep σ (.present c' b)).isOk = false) ∧
    (seen σ b = .tx c → ∀ c', (obsStep σ (.hold c' b)).isOk = false ∧
        (c' ≠ c → (obsStep σ (.present c' b)).isOk = false)) := by
  constructor
  · intro h c'
    simp [obsStep, h, Except.isOk, Except.toBool]
  · intro h c'
    refine ⟨by simp [obsStep, h, Except.isOk, Except.toBool], fun hne => ?_⟩
    simp only [obsStep, h]
    rw [if_neg (fun e => hne e.symm)]
    rfl

/-! ### Batch bookkeeping of `udpConnection.send` and `receive` -/

theorem shiftLoop_spec (written : Nat) : ∀ (fuel i : Nat) (pkts : List Buf) (k : Nat),
    i + fuel + written + 1 ≤ pkts.length →
    (shiftLoop pkts written i fuel)[k]? =
      if i ≤ k ∧ k < i + fuel then pkts[k + written + 1]? else pkts[k]? := by
  intro fuel
  induction fuel with
  | zero => intro i pkts k _; simp [shiftLoop]; omega
  | succ f ih =>
    intro i pkts k hlen
    unfold shiftLoop
    have hi : i + written + 1 < pkts.length := by omega
    rw [List.getElem?_eq_getElem hi]
    dsimp only
    rw [ih (i + 1) _ k (by rw [List.length_set]; omega)]
    by_cases hk : k = i
    · subst hk
      rw [if_neg (by omega), if_pos (by omega)]
      rw [List.getElem?_set_self (by omega), List.getElem?_eq_getElem hi]
    · by_cases h2 : i + 1 ≤ k ∧ k < i + 1 + f
      · rw [if_pos h2, if_pos (by omega)]
        rw [List.getElem?_set_ne (by omega)]
      · rw [if_neg h2, if_neg (by omega)]
        rw [List.getElem?_set_ne (by omega)]

/-- after a partial write (`written < toWrite`) `send` returns exactly `pkts[:written+1]` to the
pool and keeps exactly `pkts[written+1:toWrite]`, in order: together they are the batch it held —
nothing is returned twice, kept twice or forgotten. -/
theorem send_partial_write (pkts : List Buf) (toWrite written : Nat)
    (hlen : toWrite ≤ pkts.length) (hw : written < toWrite) :
    (afterWrite pkts toWrite written).1 = pkts.take (written + 1) ∧
    (afterWrite pkts toWrite written).2 = (pkts.take toWrite).drop (written + 1) := by
  unfold afterWrite
  rw [if_pos (by omega)]
  dsimp only
  constructor
  · have hlt : written < pkts.length := by omega
    rw [List.getElem?_eq_getElem hlt, List.take_add_one, List.getElem?_eq_getElem hlt]
    rfl
  · apply List.ext_getElem?
    intro k
    by_cases hk : k < toWrite - (written + 1)
    · rw [List.getElem?_take_of_lt hk, shiftLoop_spec written _ 0 pkts k (by omega)]
      rw [if_pos (by omega), List.getElem?_drop, List.getElem?_take_of_lt (by omega)]
      congr 1; omega
    · rw [List.getElem?_eq_none (by rw [List.length_take]; omega),
        List.getElem?_eq_none (by rw [List.length_drop, List.length_take]; omega)]

theorem send_full_write (pkts : List Buf) (toWrite : Nat) :
    afterWrite pkts toWrite toWrite = (pkts.take toWrite, []) := by
  unfold afterWrite; rw [if_neg (by omega)]

/-- `receive`: delivered and reusable slots partition the batch -/
theorem receive_partition (packets : List Buf) (numPkts : Option Nat) :
    (afterRead packets numPkts).1 ++ (afterRead packets numPkts).2 = packets := by
  cases numPkts with
  | none => rfl
  | some k => exact List.take_append_drop k packets

/-! ### T3: the hand-over sites of the source are the ones the model was written for

Each list is the source-order list of pool `Get`/`Put` calls, `Link.Send` calls, channel sends and
receives of one function; the events of `Scion.Pool.Ev` correspond to them:
`runProcessor`: procTake; procToSlowQ | procPut (slow path busy); procPut ×4 (done, discard,
unknown disposition, no egress link); procToEgress | procPut (forwarder busy). -/
theorem gen_sites :
    Scion.Gen.Pool.runProcessor =
      ["recv q", "send slowQ <- p", "d.packetPool.Put(p)", "d.packetPool.Put(p)",
       "d.packetPool.Put(p)", "d.packetPool.Put(p)", "d.packetPool.Put(p)", "fwLink.Send(p)",
       "d.packetPool.Put(p)"] ∧
    Scion.Gen.Pool.runSlowPathProcessor =
      ["recv q", "d.packetPool.Put(p)", "d.packetPool.Put(p)", "egressLink.Send(p)",
       "d.packetPool.Put(p)"] ∧
    Scion.Gen.Pool.bfdSend =
      ["b.dataPlane.packetPool.Get()", "fwLink.Send(p)", "b.dataPlane.packetPool.Put(p)"] ∧
    Scion.Gen.Pool.poolGet = ["recv p.pool"] ∧
    Scion.Gen.Pool.poolPut = ["send p.pool <- pkt"] ∧
    Scion.Gen.Pool.connReceive =
      ["pool.Get()", "u.conn.ReadBatch(msgs)", "l.receive(size, msg.Addr.(*net.UDPAddr), p)",
       "u.link.receive(size, msg.Addr.(*net.UDPAddr), p)", "pool.Put(p)"] ∧
    Scion.Gen.Pool.connSend =
      ["readUpTo(queue, batchSize-toWrite, toWrite == 0, pkts[toWrite:])",
       "conn.WriteBatch(msgs[:toWrite], 0)", "pool.Put(p)", "pool.Put(pkts[written])"] ∧
    Scion.Gen.Pool.readUpTo = ["recv queue", "recv queue"] ∧
    Scion.Gen.Pool.connectedReceive =
      ["l.pool.Put(p)", "send l.procQs[procID] <- p", "l.pool.Put(p)"] ∧
    Scion.Gen.Pool.detachedReceive =
      ["l.pool.Put(p)", "send l.procQs[procID] <- p", "l.pool.Put(p)"] ∧
    Scion.Gen.Pool.internalReceive = ["send q <- p", "l.pool.Put(p)"] ∧
    Scion.Gen.Pool.connectedSend = ["send l.egressQ <- p"] ∧
    Scion.Gen.Pool.detachedSend = ["send l.egressQ <- p"] ∧
    Scion.Gen.Pool.internalSend = ["send l.egressQ <- p"] ∧
    Scion.Gen.Pool.internalRunProcessor =
      ["recv l.procQ", "l.pool.Put(p)", "l.pool.Put(p)", "egressLink.Send(p)", "l.pool.Put(p)",
       "recv l.procStop", "recv l.procQ", "l.pool.Put(p)"] :=
  ⟨rfl, rfl, rfl, rfl, rfl, rfl, rfl, rfl, rfl, rfl, rfl, rfl, rfl, rfl, rfl⟩

/-- T3: the batch bookkeeping of `send`/`receive` is what `afterWrite`/`afterRead` transcribe -/
theorem gen_bookkeeping :
    Scion.Gen.Pool.connSendBookkeeping =
      ["toWrite := 0",
       "toWrite += readUpTo(queue, batchSize-toWrite, toWrite == 0, pkts[toWrite:])",
       "range pkts[:toWrite]", "written, _ := conn.WriteBatch(msgs[:toWrite], 0)", "written = 0",
       "range pkts[:written]", "sc := router.ClassOfSize(len(pkts[written].RawPacket))",
       "toWrite -= (written + 1)", "range toWrite", "pkts[i] = pkts[i+written+1]",
       "toWrite = 0"] ∧
    Scion.Gen.Pool.connReceiveBookkeeping =
      ["numReusable := 0", "range batchSize - numReusable", "packets[i] = p",
       "numReusable = len(msgs)", "numReusable -= numPkts", "p := packets[i]",
       "range packets[batchSize-numReusable : batchSize]"] := ⟨rfl, rfl⟩

/-! ### Non-vacuity -/

/-- a packet travels receiver → processor → slow path → sender → pool; another is dropped because
the forwarder is busy; a third one is the dropped packet of a partial write -/
example : (run (init 3)
    [.rxGet 0 0, .rxGet 0 1, .rxGet 0 2, .rxRead 0 [0, 1], .rxToProcQ 0 0 1, .rxPutBusy 0 1,
     .procTake 1 0, .procToSlowQ 1 0 0, .slowTake 0 0, .slowToEgress 0 0 5, .txTake 5 0,
     .txPut 5 0, .rxStopPut 0 2]).map (fun s => holds s.holdings .pool) = some [1, 0, 2] := by
  decide
/-- a second `Put` of the same buffer is rejected -/
example : run (init 2) [.bfdGet 0 1, .bfdPut 0 1, .bfdPut 0 1] = none := by decide
example : afterWrite [10, 11, 12, 13, 14] 5 1 = ([10, 11], [12, 13, 14]) := by decide

end Scion.C14
