import Scion.Model.BeaconPolicy
import Scion.Proofs.PairwiseKey
/-! Lemmas about the loop filters and the policy usage of `Scion.Model.BeaconPolicy`. -/
namespace Scion.BeaconPolicy

/-- the step of both loop filters: a value not seen so far joins the seen ones -/
theorem nodup_cons_unseen {α} {a : α} {l seen : List α} (ha : a ∉ seen) :
    (l.Nodup ∧ ∀ x ∈ l, x ∉ a :: seen) ↔ (a :: l).Nodup ∧ ∀ x ∈ a :: l, x ∉ seen := by
  simp only [List.nodup_cons, List.mem_cons, not_or, forall_eq_or_imp]
  constructor
  · rintro ⟨hnd, hdis⟩
    exact ⟨⟨fun hm => (hdis _ hm).1 rfl, hnd⟩, ha, fun x hx => (hdis x hx).2⟩
  · rintro ⟨⟨hni, hnd⟩, _, hdis⟩
    exact ⟨hnd, fun x hx => ⟨fun e => hni (e ▸ hx), hdis x hx⟩⟩


theorem asDupFrom_zero_iff (seen hops : List IA) (hz : (0, 0) ∉ hops) :
    asDupFrom seen hops = (0, 0) ↔ hops.Nodup ∧ ∀ x ∈ hops, x ∉ seen := by
  induction hops generalizing seen with
  | nil => simp [asDupFrom]
  | cons a rest ih =>
    have hz' : (0, 0) ∉ rest := fun hm => hz (by simp [hm])
    have ha : a ≠ (0, 0) := fun e => hz (by simp [e])
    unfold asDupFrom
    by_cases hc : a ∈ seen
    · simp [hc, ha]
    · simp only [List.contains_eq_mem, hc, decide_false, Bool.false_eq_true, if_false, ih _ hz']
      exact nodup_cons_unseen hc

theorem asDupFrom_mem (seen hops : List IA) :
    asDupFrom seen hops = (0, 0) ∨ asDupFrom seen hops ∈ hops := by
  induction hops generalizing seen with
  | nil => left; rfl
  | cons a rest ih =>
    unfold asDupFrom
    split
    · right; simp
    · exact (ih (a :: seen)).imp_right (List.mem_cons_of_mem _)

/-- for hop lists without the wildcard `0-0`: `filterAsLoop` reports a loop iff some ISD-AS
occurs twice -/
theorem asLoop_false_iff_nodup (hops : List IA) (hz : (0, 0) ∉ hops) :
    asLoop hops = false ↔ hops.Nodup := by
  simp [asLoop, asDupFrom_zero_iff [] hops hz]


/-- the ISD sequence with consecutive repetitions merged (`last` = the ISD of the previous hop) -/
def runsFrom (last : Nat) : List Nat → List Nat
  | [] => []
  | a :: t => if a = last then runsFrom last t else a :: runsFrom a t

theorem isdDupFrom_zero_iff (seen : List Nat) (last : Nat) (hops : List IA)
    (h0 : ∀ ia ∈ hops, ia.isd ≠ 0) :
    isdDupFrom seen last hops = 0 ↔
      (runsFrom last (hops.map IA.isd)).Nodup ∧
      ∀ x ∈ runsFrom last (hops.map IA.isd), x ∉ seen := by
  induction hops generalizing seen last with
  | nil => simp [isdDupFrom, runsFrom]
  | cons ia t ih =>
    have h0t : ∀ ia ∈ t, ia.isd ≠ 0 := fun x hx => h0 x (by simp [hx])
    have hia : ia.isd ≠ 0 := h0 ia (by simp)
    unfold isdDupFrom
    simp only [List.map_cons, runsFrom]
    by_cases hl : last = ia.isd
    · rw [if_pos hl, if_pos hl.symm]
      exact ih seen last h0t
    · have hl' : ¬ ia.isd = last := fun e => hl e.symm
      rw [if_neg hl, if_neg hl']
      by_cases hs : seen.contains ia.isd = true
      · rw [if_pos hs]
        constructor
        · intro h; exact absurd h hia
        · rintro ⟨_, hdis⟩
          exact absurd (by simpa using hs) (hdis ia.isd (by simp))
      · rw [if_neg hs]
        have hns : ia.isd ∉ seen := by simpa using hs
        rw [ih (ia.isd :: seen) ia.isd h0t]
        exact nodup_cons_unseen hns

/-- for hop lists without ISD 0: `filterIsdLoop` reports a loop iff, after merging consecutive
hops of the same ISD, some ISD occurs twice — i.e. an ISD is re-entered after having been left -/
theorem isdLoop_false_iff (hops : List IA) (h0 : ∀ ia ∈ hops, ia.isd ≠ 0) :
    isdLoop hops = false ↔ (runsFrom 0 (hops.map IA.isd)).Nodup := by
  unfold isdLoop
  have := isdDupFrom_zero_iff [] 0 hops h0
  simp only [List.not_mem_nil, not_false_eq_true, implies_true, and_true] at this
  rw [← this]
  simp


theorem preFilterOk_iff_usage (ps : Policies) (hops : List IA) :
    preFilterOk ps hops = true ↔ usage ps hops ≠ [] := by
  simp [preFilterOk, usage, List.length_filter_eq_length_iff, List.filter_eq_nil_iff]

theorem mem_usage (ps : Policies) (hops : List IA) (t : PolicyTag) :
    t ∈ usage ps hops ↔ ∃ f, (t, f) ∈ ps ∧ f.accepts hops = true := by
  simp only [usage, List.mem_map, List.mem_filter, Prod.exists, exists_and_right, exists_eq_right]

theorem accepts_iff (f : Filter) (hops : List IA) :
    f.accepts hops = true ↔
      (hops.length : Int) ≤ f.maxHops ∧ hasLoop hops f.allowIsdLoop = false ∧
      ∀ ia ∈ hops, ia.as ∉ f.asBlack ∧ ia.isd ∉ f.isdBlack := by
  unfold Filter.accepts blocked
  by_cases h1 : (hops.length : Int) > f.maxHops
  · simp [h1]; omega
  · cases h2 : hasLoop hops f.allowIsdLoop <;> simp [h1, Int.not_lt.1 h1]

theorem hasLoop_false_iff (hops : List IA) (allow : Bool) :
    hasLoop hops allow = false ↔ asLoop hops = false ∧ (allow = false → isdLoop hops = false) := by
  unfold hasLoop
  cases h1 : asLoop hops <;> cases allow <;> simp

/-- `validateASEntry` accepts: the link is parent or core, and the last entry is the neighbour's
and names the local AS as next hop -/
theorem validateASEntry_eq_true_iff (loc : IA) (i : Intf) (es : List (IA × IA)) :
    validateASEntry loc i es = some true ↔
      (i.lt = .parent ∨ i.lt = .core) ∧ es.getLast? = some (i.ia, loc) := by
  unfold validateASEntry
  by_cases hlt : i.lt ≠ .parent ∧ i.lt ≠ .core
  · simp [hlt]
  · rw [if_neg hlt]
    simp only [ne_eq, Classical.not_and_iff_not_or_not, Classical.not_not] at hlt
    cases es.getLast? with
    | none => simp
    | some last =>
      obtain ⟨l, n⟩ := last
      by_cases h1 : l = i.ia <;> by_cases h2 : n = loc <;> simp [h1, h2, hlt]

end Scion.BeaconPolicy
