import Scion.Model.Router
import Scion.Proofs.BigEndian
/-! Byte-level lemmas for the router model: `slice`, `writeAt`, the footprint of the three
in-place edits (`setMeta`, `setInfo`, `setHop`), the checked accesses, and that reads and writes on
the path stay inside a buffer that holds the whole path header (`InBuf`). -/
namespace Scion.Router
open Scion.Util Scion.PathMeta

theorem slice_getElem? (b : Bytes) (off n i : Nat) :
    (slice b off n)[i]? = if i < n then b[off + i]? else none := by
  unfold slice
  rw [List.getElem?_take]
  split
  · rw [List.getElem?_drop]
  · rfl

theorem length_slice (b : Bytes) (off n : Nat) : (slice b off n).length = min n (b.length - off) := by
  unfold slice; simp

theorem length_writeAt (b : Bytes) (off : Nat) (new : Bytes) (h : off + new.length ≤ b.length) :
    (writeAt b off new).length = b.length := by
  unfold writeAt
  simp
  omega

theorem writeAt_getElem? (b : Bytes) (off : Nat) (new : Bytes) (h : off + new.length ≤ b.length)
    (i : Nat) :
    (writeAt b off new)[i]? =
      if i < off then b[i]? else if i < off + new.length then new[i - off]? else b[i]? := by
  unfold writeAt
  rw [List.append_assoc, List.getElem?_append, List.length_take_of_le (by omega),
    List.getElem?_append, List.getElem?_drop, List.getElem?_take]
  split
  · rfl
  · split
    · rw [if_pos (by omega)]
    · rw [if_neg (by omega)]; congr 1; omega

theorem slice_congr {a b : Bytes} (off n : Nat) (h : ∀ i, off ≤ i → i < off + n → a[i]? = b[i]?) :
    slice a off n = slice b off n := by
  apply List.ext_getElem?
  intro i
  rw [slice_getElem?, slice_getElem?]
  split
  · exact h _ (by omega) (by omega)
  · rfl

theorem slice_writeAt_disj {b : Bytes} {off k : Nat} {new : Bytes} (hk : new.length = k)
    (h : off + k ≤ b.length) {off2 n : Nat} (hd : off2 + n ≤ off ∨ off + k ≤ off2) :
    slice (writeAt b off new) off2 n = slice b off2 n :=
  slice_congr off2 n fun i _ _ => by
    subst hk
    rw [writeAt_getElem? b off new h]
    split
    · rfl
    · rw [if_neg (by omega)]

theorem slice_writeAt_same {b : Bytes} {off k : Nat} {new : Bytes} (hk : new.length = k)
    (h : off + k ≤ b.length) : slice (writeAt b off new) off k = new := by
  subst hk
  apply List.ext_getElem?
  intro i
  rw [slice_getElem?]
  split
  · rw [writeAt_getElem? b off new h, if_neg (by omega), if_pos (by omega), Nat.add_sub_cancel_left]
  · rw [List.getElem?_eq_none (by omega)]

theorem drop_congr {a b : Bytes} (k : Nat) (h : ∀ i, k ≤ i → a[i]? = b[i]?) : a.drop k = b.drop k := by
  apply List.ext_getElem?
  intro i
  rw [List.getElem?_drop, List.getElem?_drop]
  exact h _ (by omega)

theorem raw_at_of_slice {raw : Bytes} {off n : Nat} {l : Bytes} (hs : slice raw off n = l) (t : Nat)
    (ht : t < n) : raw[off + t]? = l[t]? := by
  rw [← hs, slice_getElem?, if_pos ht]

theorem length_encodeInfo (i : Info) : (encodeInfo i).length = 8 := by
  simp [encodeInfo, natBE]

theorem length_encodeHop (x : Hop) (hm : x.mac.length = 6) : (encodeHop x).length = 12 := by
  simp [encodeHop, natBE, hm]

theorem decodeInfo_some {b : Bytes} {i : Info} (h : decodeInfo b = some i) : b.length = 8 := by
  unfold decodeInfo at h
  split at h
  · rfl
  · cases h

theorem decodeHop_some {b : Bytes} {x : Hop} (h : decodeHop b = some x) :
    b.length = 12 ∧ x.mac.length = 6 := by
  unfold decodeHop at h
  split at h
  · cases h; exact ⟨rfl, rfl⟩
  · cases h

theorem getInfo_some_bound {h : Hd} {buf : Bytes} {idx : Nat} {i : Info}
    (e : getInfo h buf idx = some i) : idx < h.numINF ∧ infoOff h idx + 8 ≤ buf.length := by
  unfold getInfo at e
  split at e
  · rename_i hi
    have := decodeInfo_some e
    rw [length_slice] at this
    exact ⟨hi, by omega⟩
  · cases e

theorem getHop_some_bound {h : Hd} {buf : Bytes} {idx : Nat} {x : Hop}
    (e : getHop h buf idx = some x) :
    idx < h.numHops ∧ hopOff h idx + 12 ≤ buf.length ∧ x.mac.length = 6 := by
  unfold getHop at e
  split at e
  · rename_i hi
    have := decodeHop_some e
    rw [length_slice] at this
    exact ⟨hi, by omega, this.2⟩
  · cases e

def InBuf (h : Hd) (buf : Bytes) : Prop := hopOff h h.numHops ≤ buf.length

theorem infoOff_le_hopOff (h : Hd) (i j : Nat) (hi : i < h.numINF) : infoOff h i + 8 ≤ hopOff h j := by
  unfold infoOff hopOff MetaLen InfoLen HopLen
  have : 8 * (i + 1) ≤ 8 * h.numINF := Nat.mul_le_mul_left 8 hi
  omega

theorem hopOff_mono (h : Hd) (i j : Nat) (hij : i < j) : hopOff h i + 12 ≤ hopOff h j := by
  unfold hopOff HopLen
  have : 12 * (i + 1) ≤ 12 * j := Nat.mul_le_mul_left 12 hij
  omega

theorem infoOff_mono (h : Hd) (i j : Nat) (hij : i < j) : infoOff h i + 8 ≤ infoOff h j := by
  unfold infoOff InfoLen
  have : 8 * (i + 1) ≤ 8 * j := Nat.mul_le_mul_left 8 hij
  omega

theorem pathOff_le_infoOff (h : Hd) (i : Nat) : h.pathOff + 4 ≤ infoOff h i := by
  unfold infoOff MetaLen; omega

/-! ### the three edits: length and footprint -/

theorem length_setMeta (h : Hd) (buf : Bytes) (pm : Hdr) (hb : h.pathOff + 4 ≤ buf.length) :
    (setMeta h buf pm).length = buf.length := by
  unfold setMeta
  apply length_writeAt
  rw [length_natBE]; exact hb

theorem length_setInfo (h : Hd) (buf : Bytes) (idx : Nat) (i : Info)
    (hb : infoOff h idx + 8 ≤ buf.length) : (setInfo h buf idx i).length = buf.length := by
  unfold setInfo
  apply length_writeAt
  rw [length_encodeInfo]; exact hb

theorem length_setHop (h : Hd) (buf : Bytes) (idx : Nat) (x : Hop) (hm : x.mac.length = 6)
    (hb : hopOff h idx + 12 ≤ buf.length) : (setHop h buf idx x).length = buf.length := by
  unfold setHop
  apply length_writeAt
  rw [length_encodeHop x hm]; exact hb

theorem getInfo_setMeta (h : Hd) (buf : Bytes) (pm : Hdr) (hb : h.pathOff + 4 ≤ buf.length)
    (idx : Nat) : getInfo h (setMeta h buf pm) idx = getInfo h buf idx := by
  unfold getInfo setMeta
  split
  · rw [slice_writeAt_disj (length_natBE 4 _) hb (Or.inr (pathOff_le_infoOff h idx))]
  · rfl

theorem getHop_setMeta (h : Hd) (buf : Bytes) (pm : Hdr) (hb : h.pathOff + 4 ≤ buf.length)
    (idx : Nat) : getHop h (setMeta h buf pm) idx = getHop h buf idx := by
  unfold getHop setMeta
  split
  · rw [slice_writeAt_disj (length_natBE 4 _) hb (Or.inr (by unfold hopOff MetaLen; omega))]
  · rfl

theorem getInfo_setInfo_ne (h : Hd) (buf : Bytes) (j : Nat) (inf : Info)
    (hb : infoOff h j + 8 ≤ buf.length) (idx : Nat) (hne : idx ≠ j) :
    getInfo h (setInfo h buf j inf) idx = getInfo h buf idx := by
  unfold getInfo setInfo
  split
  · rw [slice_writeAt_disj (length_encodeInfo _) hb]
    rcases Nat.lt_or_gt_of_ne hne with hlt | hgt
    · left; exact infoOff_mono h idx j hlt
    · right; exact infoOff_mono h j idx hgt
  · rfl

theorem getHop_setInfo (h : Hd) (buf : Bytes) (j : Nat) (inf : Info) (hj : j < h.numINF)
    (hb : infoOff h j + 8 ≤ buf.length) (idx : Nat) :
    getHop h (setInfo h buf j inf) idx = getHop h buf idx := by
  unfold getHop setInfo
  split
  · rw [slice_writeAt_disj (length_encodeInfo _) hb (Or.inr (infoOff_le_hopOff h j idx hj))]
  · rfl

/-! ### checked accesses -/

theorem readHop_eq_ok {h : Hd} {buf : Bytes} {idx : Nat} {x : Hop} :
    readHop h buf idx = .ok x ↔ getHop h buf idx = some x := by
  unfold readHop getHop
  split
  · split <;> simp [*]
  · simp

theorem readInfo_eq_ok {h : Hd} {buf : Bytes} {idx : Nat} {x : Info} :
    readInfo h buf idx = .ok x ↔ getInfo h buf idx = some x := by
  unfold readInfo getInfo
  split
  · split <;> simp [*]
  · simp

theorem wrInfo_of_le {h : Hd} {buf : Bytes} {idx : Nat} {i : Info} (hl : infoOff h idx + 8 ≤ buf.length) :
    wrInfo h buf idx i = some (setInfo h buf idx i) := by unfold wrInfo; simp [hl]

theorem wrMeta_of_le {h : Hd} {buf : Bytes} {pm : Hdr} (hl : h.pathOff + 4 ≤ buf.length) :
    wrMeta h buf pm = some (setMeta h buf pm) := by unfold wrMeta; simp [hl]

theorem wrHop_of_le {h : Hd} {buf : Bytes} {idx : Nat} {x : Hop} (hl : hopOff h idx + 12 ≤ buf.length) :
    wrHop h buf idx x = some (setHop h buf idx x) := by unfold wrHop; simp [hl]

theorem wrInfo_some {h : Hd} {buf b : Bytes} {idx : Nat} {i : Info} (e : wrInfo h buf idx i = some b) :
    b = setInfo h buf idx i ∧ infoOff h idx + 8 ≤ buf.length := by
  unfold wrInfo at e
  split at e
  · rename_i hl; cases e; exact ⟨rfl, hl⟩
  · cases e

theorem wrMeta_some {h : Hd} {buf b : Bytes} {pm : Hdr} (e : wrMeta h buf pm = some b) :
    b = setMeta h buf pm ∧ h.pathOff + 4 ≤ buf.length := by
  unfold wrMeta at e
  split at e
  · rename_i hl; cases e; exact ⟨rfl, hl⟩
  · cases e

theorem wrHop_some {h : Hd} {buf b : Bytes} {idx : Nat} {x : Hop} (e : wrHop h buf idx x = some b) :
    b = setHop h buf idx x ∧ hopOff h idx + 12 ≤ buf.length := by
  unfold wrHop at e
  split at e
  · rename_i hl; cases e; exact ⟨rfl, hl⟩
  · cases e

/-! ### reads and writes on the path stay inside the buffer -/

theorem inBuf_of_length {h : Hd} {a b : Bytes} (hb : InBuf h a) (hl : b.length = a.length) : InBuf h b := by
  unfold InBuf at *; omega

theorem decodeHop_of_length {l : Bytes} (h : l.length = 12) : ∃ x, decodeHop l = some x := by
  match l, h with
  | [_, _, _, _, _, _, _, _, _, _, _, _], _ => exact ⟨_, rfl⟩

theorem decodeInfo_of_length {l : Bytes} (h : l.length = 8) : ∃ x, decodeInfo l = some x := by
  match l, h with
  | [_, _, _, _, _, _, _, _], _ => exact ⟨_, rfl⟩

theorem inBuf_hop (h : Hd) (buf : Bytes) (hb : InBuf h buf) (idx : Nat) (hi : idx < h.numHops) :
    hopOff h idx + 12 ≤ buf.length := by
  have := hopOff_mono h idx h.numHops hi
  unfold InBuf at hb; omega

theorem inBuf_info (h : Hd) (buf : Bytes) (hb : InBuf h buf) (idx : Nat) (hi : idx < h.numINF) :
    infoOff h idx + 8 ≤ buf.length := by
  have := infoOff_le_hopOff h idx h.numHops hi
  unfold InBuf at hb; omega

theorem inBuf_meta (h : Hd) (buf : Bytes) (hb : InBuf h buf) : h.pathOff + 4 ≤ buf.length := by
  unfold InBuf hopOff MetaLen at hb; omega

theorem getHop_of_inBuf {h : Hd} {buf : Bytes} (hb : InBuf h buf) {idx : Nat} (hi : idx < h.numHops) :
    ∃ x, getHop h buf idx = some x := by
  unfold getHop; rw [if_pos hi]
  exact decodeHop_of_length (by rw [length_slice]; have := inBuf_hop h buf hb idx hi; omega)

theorem getInfo_of_inBuf {h : Hd} {buf : Bytes} (hb : InBuf h buf) {idx : Nat} (hi : idx < h.numINF) :
    ∃ x, getInfo h buf idx = some x := by
  unfold getInfo; rw [if_pos hi]
  exact decodeInfo_of_length (by rw [length_slice]; have := inBuf_info h buf hb idx hi; omega)

/-- so a checked read never leaves the buffer -/
theorem readHop_inBuf (h : Hd) (buf : Bytes) (hb : InBuf h buf) (idx : Nat) :
    readHop h buf idx = .err ∨ ∃ x, readHop h buf idx = .ok x := by
  by_cases hi : idx < h.numHops
  · obtain ⟨x, hx⟩ := getHop_of_inBuf hb hi
    exact Or.inr ⟨x, readHop_eq_ok.2 hx⟩
  · left; unfold readHop; rw [if_neg hi]

theorem readInfo_inBuf (h : Hd) (buf : Bytes) (hb : InBuf h buf) (idx : Nat) :
    readInfo h buf idx = .err ∨ ∃ x, readInfo h buf idx = .ok x := by
  by_cases hi : idx < h.numINF
  · obtain ⟨x, hx⟩ := getInfo_of_inBuf hb hi
    exact Or.inr ⟨x, readInfo_eq_ok.2 hx⟩
  · left; unfold readInfo; rw [if_neg hi]

end Scion.Router
