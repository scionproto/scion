import Scion.Model.Pather
/-!
# C30 — Paths handed to applications are live, unrevoked and end at the destination

Model: `Scion.Model.Pather` (`Pather.GetPaths` with `buildAllPaths`,
`findDestinations`, `filterRevoked`, `translatePaths`; `MultiSegmentSplitter.Split`), tied to
`private/segment/segfetcher` by `harness/cmd/pather` (real pather, combinator, revocation cache
and splitter).  The combinator is a parameter of the model: the theorems hold for **every**
`combine`; the end-point clause uses the combinator's contract `CombineEnds` (C28's subject).
-/
namespace Scion.C30
open Scion.Pather

/-! ### the lookup -/

/-- **a lookup for the local AS yields exactly one empty path** (the result `localPath` stands
for the single path without interfaces that `GetPaths` builds), whatever the stores contain -/
theorem local_lookup (inp : Input) (h0 : inp.localIA.isd ≠ 0) (hl : inp.dst = inp.localIA) :
    getPaths inp = .localPath := by
  unfold getPaths
  rw [if_neg (by rw [hl]; exact h0), if_pos hl]

/-- … and only such a lookup does -/
theorem localPath_iff (inp : Input) :
    getPaths inp = .localPath ↔ inp.dst.isd ≠ 0 ∧ inp.dst = inp.localIA := by
  by_cases h0 : inp.dst.isd = 0
  · simp [getPaths, h0]
  by_cases hl : inp.dst = inp.localIA
  · simp [getPaths, hl]
  -- the two leading guards by `rw`, so that `split` works on the remaining term only
  rw [getPaths, if_neg h0, if_neg hl]
  simp only [hl, and_false, iff_false]
  split
  · exact Result.noConfusion
  split
  · split <;> exact Result.noConfusion
  split
  · exact Result.noConfusion
  split <;> exact Result.noConfusion

/-- inversion of a successful lookup: the result is the list of candidates (combinator paths to
the destinations that are live and unrevoked) whose first hop is routable -/
theorem paths_inv (inp : Input) (ps : List CPath) (h : getPaths inp = .paths ps) :
    inp.dst.isd ≠ 0 ∧ inp.dst ≠ inp.localIA ∧ inp.splitErr = false ∧
    ps = (candidates inp).filter (fun p => routable inp p == some true) ∧ ps ≠ [] := by
  by_cases h0 : inp.dst.isd = 0
  · rw [getPaths, if_pos h0] at h; cases h
  by_cases hl : inp.dst = inp.localIA
  · rw [getPaths, if_neg h0, if_pos hl] at h; cases h
  by_cases hs : inp.splitErr = true
  · rw [getPaths, if_neg h0, if_neg hl, if_pos hs] at h; cases h
  rw [getPaths, if_neg h0, if_neg hl, if_neg hs] at h
  refine ⟨h0, hl, by simpa using hs, ?_⟩
  dsimp only at h
  split at h
  · split at h <;> cases h
  split at h
  · cases h
  split at h
  · cases h
  · rename_i hne
    cases h
    exact ⟨rfl, fun he => hne he⟩

theorem mem_candidates (inp : Input) (p : CPath) :
    p ∈ candidates inp ↔
      (∃ d ∈ destinations inp, p ∈ inp.combine d) ∧ p.expiry > inp.now ∧
      ∀ i ∈ p.ifs, i ∉ inp.revoked := by
  unfold candidates isRevoked
  simp only [List.mem_filter, List.mem_flatMap, decide_eq_true_eq, Bool.not_eq_true',
    List.any_eq_false, List.contains_eq_mem, and_assoc]

theorem mem_paths {inp : Input} {ps : List CPath} (h : getPaths inp = .paths ps) (p : CPath) :
    p ∈ ps ↔ p ∈ candidates inp ∧ routable inp p = some true := by
  obtain ⟨_, _, _, rfl, _⟩ := paths_inv inp ps h
  rw [List.mem_filter, beq_iff_eq]

/-- **has not expired**: every returned path expires strictly after `now` -/
theorem paths_live (inp : Input) (ps : List CPath) (h : getPaths inp = .paths ps) :
    ∀ p ∈ ps, p.expiry > inp.now :=
  fun p hp => ((mem_candidates inp p).1 ((mem_paths h p).1 hp).1).2.1

/-- **traverses no interface with an active revocation** -/
theorem paths_unrevoked (inp : Input) (ps : List CPath) (h : getPaths inp = .paths ps) :
    ∀ p ∈ ps, ∀ i ∈ p.ifs, i ∉ inp.revoked :=
  fun p hp => ((mem_candidates inp p).1 ((mem_paths h p).1 hp).1).2.2

/-- the destinations the combinator is asked for: the requested ISD-AS itself, or for an ISD
wildcard the first ASes of the core segments (plus, inside the own ISD, of the up segments) -/
theorem destinations_spec (inp : Input) (d : IA) :
    d ∈ destinations inp ↔
      (inp.dst.isWildcard = false ∧ d = inp.dst) ∨
      (inp.dst.isWildcard = true ∧
        (d ∈ inp.coreFirst ∨ (inp.dst.isd = inp.localIA.isd ∧ d ∈ inp.upFirst))) := by
  unfold destinations
  cases hw : inp.dst.isWildcard
  · simp
  · by_cases hi : inp.dst.isd = inp.localIA.isd <;> simp [hi, List.mem_eraseDups]

/-- contract of the path combinator (C28/C29): a path combined for `(src, d)` starts with an
interface of `src` and ends with an interface of `d` -/
def CombineEnds (inp : Input) : Prop :=
  ∀ d p, p ∈ inp.combine d →
    (p.ifs.head?.map (·.1)) = some inp.localIA ∧ (p.ifs.getLast?.map (·.1)) = some d

/-- **starts at the local AS, ends at the requested ISD-AS (for an ISD wildcard, at one of the
core-segment / up-segment origin ASes, i.e. a core AS of that ISD)**; every returned path is one
the combinator produced for such a destination -/
theorem paths_endpoints (inp : Input) (ps : List CPath) (hc : CombineEnds inp)
    (h : getPaths inp = .paths ps) :
    ∀ p ∈ ps, ∃ d ∈ destinations inp, p ∈ inp.combine d ∧
      (p.ifs.head?.map (·.1)) = some inp.localIA ∧ (p.ifs.getLast?.map (·.1)) = some d ∧
      (inp.dst.isWildcard = false → d = inp.dst) := by
  intro p hp
  obtain ⟨⟨d, hd, hpd⟩, _, _⟩ := (mem_candidates inp p).1 ((mem_paths h p).1 hp).1
  obtain ⟨h1, h2⟩ := hc d p hpd
  refine ⟨d, hd, hpd, h1, h2, ?_⟩
  intro hw
  rcases (destinations_spec inp d).1 hd with ⟨_, he⟩ | ⟨hw', _⟩
  · exact he
  · rw [hw] at hw'; cases hw'

/-- nothing else is dropped: every combinator path to a destination that is live, unrevoked and
whose first hop is routable is returned -/
theorem paths_complete (inp : Input) (ps : List CPath) (h : getPaths inp = .paths ps)
    (d : IA) (hd : d ∈ destinations inp) (p : CPath) (hp : p ∈ inp.combine d)
    (hlive : p.expiry > inp.now) (hrev : ∀ i ∈ p.ifs, i ∉ inp.revoked)
    (hr : routable inp p = some true) : p ∈ ps :=
  (mem_paths h p).2 ⟨(mem_candidates inp p).2 ⟨⟨d, hd, hp⟩, hlive, hrev⟩, hr⟩

/-! ### the splitter -/

def Chain (src dst : IA) : List Request → Prop
  | [] => False
  | [r] => r.src = src ∧ r.dst = dst
  | r :: r' :: rest => r.src = src ∧ Chain r.dst dst (r' :: rest)

/-- **The segment requests issued for a lookup are the up/core/down combination required for the
kinds of source and destination** (inspector available): they form a chain local AS → … → dst,
of types up·core·down restricted to what the kinds need — an up segment iff the source is not
core, a down segment iff the destination is not core (`dstCore` as `inspect` reports it: a core
AS of the own ISD, a wildcard, or a core AS of another ISD), a core segment unless a single core
AS or the destination itself joins the two. -/
theorem split_chain (src dst : IA) (srcCore : Bool) (insp : Inspector) (rs : List Request)
    (h : split src srcCore (some insp) dst = some rs) :
    ∃ single dstCore, inspect insp src dst = some (single, dstCore) ∧
      Chain src dst rs ∧
      (rs.map (·.ty) = [.up, .down] ∨ rs.map (·.ty) = [.up, .core, .down] ∨
       rs.map (·.ty) = [.up] ∨ rs.map (·.ty) = [.up, .core] ∨ rs.map (·.ty) = [.down] ∨
       rs.map (·.ty) = [.core, .down] ∨ rs.map (·.ty) = [.core]) ∧
      ((∃ r ∈ rs, r.ty = .up) ↔ srcCore = false) ∧
      ((∃ r ∈ rs, r.ty = .down) ↔ dstCore = false) := by
  unfold split at h
  dsimp only at h
  split at h
  · cases h
  · rename_i single dstCore hi
    refine ⟨single, dstCore, hi, ?_⟩
    cases srcCore <;> cases dstCore <;> dsimp only at h
    · split at h <;> cases h <;> simp [Chain]
    · split at h <;> cases h <;> simp [Chain]
    · split at h <;> cases h <;> simp [Chain]
    · cases h; simp [Chain]

/-- the single-core shortcut is taken only when that AS really is the only core AS reported for
the common ISD -/
theorem inspect_single (insp : Inspector) (src dst single : IA) (dc : Bool)
    (h : inspect insp src dst = some (single, dc)) (hs : single ≠ (0, 0)) :
    src.isd = dst.isd ∧ insp.cores = some [single] := by
  unfold inspect at h
  split at h
  · split at h
    · cases h; exact absurd rfl hs
    · split at h
      · cases h
      · cases h; exact absurd rfl hs
  · rename_i hisd
    split at h
    · cases h
    · rename_i cores hc
      have hisd' : src.isd = dst.isd := by simpa using hisd
      rcases cores with _ | ⟨c, _ | ⟨c2, t⟩⟩ <;> dsimp only at h <;> split at h <;> cases h
      all_goals first | exact absurd rfl hs | exact ⟨hisd', hc⟩

/-! ### non-vacuity -/

def exInput : Input :=
  { localIA := (1, 111), dst := (1, 0), now := 1000,
    upFirst := [(1, 110)], coreFirst := [(1, 120)],
    combine := fun d =>
      if d = (1, 110) then [⟨1, 2000, [((1, 111), 1), ((1, 110), 7)]⟩, ⟨2, 900, [((1, 111), 2), ((1, 110), 8)]⟩]
      else if d = (1, 120) then [⟨3, 5000, [((1, 111), 1), ((1, 110), 7), ((1, 110), 3), ((1, 120), 4)]⟩]
      else [],
    revoked := [((1, 110), 3)], hasNextHop := fun _ => true, splitErr := false, fetchErr := false }

/-- ISD-wildcard lookup: path 2 has expired, path 3 crosses the revoked interface `1-110#3`;
exactly path 1 is returned -/
example : getPaths exInput = .paths [⟨1, 2000, [((1, 111), 1), ((1, 110), 7)]⟩] := by decide

example : split (1, 111) false (some ⟨some [(1, 110), (1, 120)], some false⟩) (2, 211)
    = some [⟨.up, (1, 111), (1, 0)⟩, ⟨.core, (1, 0), (2, 0)⟩, ⟨.down, (2, 0), (2, 211)⟩] := by decide

end Scion.C30
