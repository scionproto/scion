import Scion.Props.C02
/-!
# C03 — Reversed paths carry replies back to the source

`reverseCursor` is `Decoded.Reverse` (tied by the `rev` lines of engine `net`: every delivered
packet is reversed by the real code and by the model).
-/
namespace Scion.C03
open Scion.Net

/-- **C03 at full strength** (SCION paths; EPIC replies use the embedded SCION path, one-hop
    paths are C12's): whenever a packet is delivered, the packet with the reversed path sent by the
    destination is delivered in the source AS and crosses the same interfaces in reverse order. -/
def C03_full : Prop :=
  ∀ (mac : MacFn) (net : Net) (now : Nat) (edges : List Edge) (src dst : Nat) (c cf : Cursor)
    (tr : List (Nat × Nat)),
    WFNet net → AllUp net → Joinable mac net edges src dst → pathOf edges = some c →
    Unexpired now c →
    send mac net now src dst c = .delivered dst tr cf →
    ∃ cr, send mac net now dst src (reverseCursor cf) = .delivered src tr.reverse cr

theorem revSeg_involutive (s : Seg) : revSeg (revSeg s) = s := by
  cases s with
  | mk i hs => cases i; simp [revSeg, flipInfo]

theorem reverse_involutive (c : Cursor) : reverseCursor (reverseCursor c) = c := by
  cases c with
  | mk b i d cur t a =>
    cases i
    simp [reverseCursor, flipInfo, List.map_reverse, Function.comp_def, revSeg_involutive]

/-- reversal keeps the current hop and mirrors the position: the hops behind become the hops
    ahead, the first hop becomes the last -/
theorem reverse_position (c : Cursor) :
    (reverseCursor c).cur = c.cur ∧ (reverseCursor c).isFirstHop = c.isLastHop ∧
    (reverseCursor c).isLastHop = c.isFirstHop ∧
    (reverseCursor c).info.consDir = !c.info.consDir ∧
    (reverseCursor c).info.segID = c.info.segID := by
  simp [reverseCursor, Cursor.isFirstHop, Cursor.isLastHop, flipInfo, Bool.and_comm]

/-- **C03 for every path without peering**, any number and combination of segments, shortcuts
    included; one border router per AS.  The delivered packet, reversed, is exactly the packet that
    path combination would build over the mirrored segment list (`reverse_finalCur`: every SegID
    the routers left behind is the initial value for the way back — C22 — and `Decoded.Reverse`
    mirrors positions), the mirrored list is again a good path (`pathOK_rev`), so C02 applies
    to the way back; the interfaces are those of the way there in reverse order. -/
theorem reverse_run_nonpeering_partial (mac : MacFn) (net : Net) (now : Nat)
    (hWF : WFNet net) (hUp : AllUp net) (hSR : SingleRouter net)
    (edges : List Edge) (src dst : Nat) (c cf : Cursor) (tr : List (Nat × Nat))
    (hnp : ∀ e ∈ edges, e.peer = none)
    (hJ : Joinable mac net edges src dst) (hp : pathOf edges = some c) (hexp : Unexpired now c)
    (hsend : send mac net now src dst c = .delivered dst tr cf) :
    ∃ cr, send mac net now dst src (reverseCursor cf) = .delivered src tr.reverse cr := by
  obtain ⟨s, rest, hc, hok, hif, hlink, hA, hexps, hfw⟩ :=
    nonpeer_specs mac net now src dst hWF hUp hSR edges c hnp hJ hp hexp
  rw [hfw] at hsend
  cases hsend
  obtain ⟨_, _, _, _, _, hhead, hlast, hnd⟩ := hJ
  rw [hA] at hhead hlast hnd
  have hok' := pathOK_rev mac net now src dst s rest hlink hexps hhead hlast hnd
  have hlink' := tailOK_specsLink mac net now dst src _ _ hok'.2.2.2
  have hcur := reverse_finalCur rest s [] [] (by simp)
  refine ⟨finalCur (revM rest s []).2 [] (revM rest s []).1, ?_⟩
  rw [hcur, send_specs mac net now dst src hUp hSR _ _ hok', hif,
    pathTrace_specIfaces mac net _ _ hlink', specIfaces_rev, pathTrace_specIfaces mac net s rest hlink]

/-- **C03 for single-segment paths** (up, core or down; whole or shortcut; one border router per AS
    — hence `_partial`): the packet delivered at the destination, with its path reversed there,
    is delivered back in the source AS and crosses the same interfaces in reverse order.
    The proof shows that the reversed delivered packet carries exactly the path that path
    combination would build from the same segment used in the opposite direction — the SegID the
    routers leave in the info field is the initial value for the way back (C22
    `down_final_is_up_start` / `up_final_is_down_start`) — and then applies C02. -/
theorem reverse_run_partial (mac : MacFn) (net : Net) (now : Nat)
    (hWF : WFNet net) (hUp : AllUp net) (hSR : SingleRouter net)
    (e : Edge) (src dst : Nat) (c cf : Cursor) (tr : List (Nat × Nat)) (hpeer : e.peer = none)
    (hJ : Joinable mac net [e] src dst) (hp : pathOf [e] = some c) (hexp : Unexpired now c)
    (hsend : send mac net now src dst c = .delivered dst tr cf) :
    ∃ cr, send mac net now dst src (reverseCursor cf) = .delivered src tr.reverse cr :=
  reverse_run_nonpeering_partial mac net now hWF hUp hSR [e] src dst c cf tr
    (List.forall_mem_singleton.2 hpeer) hJ hp hexp hsend

/-- **C03 over peering paths** (up segment ending in a peer entry, peering link, down segment
    starting with the matching peer entry; each side one or more ASes; one border router per AS).
    The delivered packet, reversed, is exactly the packet path combination builds from the same
    two segments used the other way round (`peering_accepted_rev`: the down segment's routers leave
    in the info field the SegID an up segment over the same entries starts with, the peering hop
    leaves it untouched — C22), the mirrored pair of edges is again joinable
    (`joinable_flip_peering`), so C02 for peering paths applies to the way back. -/
theorem reverse_run_peering_partial (mac : MacFn) (net : Net) (now : Nat)
    (hWF : WFNet net) (hUp : AllUp net) (hSR : SingleRouter net)
    (eu ed : Edge) (src dst : Nat) (c cf : Cursor) (tr : List (Nat × Nat)) (ku kd : Nat)
    (hup : eu.peer = some ku) (hdp : ed.peer = some kd)
    (hJ : Joinable mac net [eu, ed] src dst) (hp : pathOf [eu, ed] = some c) (hexp : Unexpired now c)
    (hsend : send mac net now src dst c = .delivered dst tr cf) :
    ∃ cr, send mac net now dst src (reverseCursor cf) = .delivered src tr.reverse cr := by
  obtain ⟨cf', h1, h2, h3⟩ :=
    peering_accepted_rev mac net now src dst hWF hUp hSR eu ed c ku kd hup hdp hJ hp hexp
  rw [h1] at hsend
  cases hsend
  have hJ' := joinable_flip_peering mac net eu ed src dst ku kd hup hdp hJ
  have hj := hJ.2.2.2.1.1
  simp only [Joint, hup, hdp] at hj
  obtain ⟨huc, hud⟩ := kind_zero eu hj.1
  obtain ⟨hdc, hdd⟩ := kind_two ed hj.2.1
  obtain ⟨cr, h4⟩ := peering_accepted mac net now dst src hWF hUp hSR
    { ed with down := false } { eu with down := true } (reverseCursor cf) kd ku hdp hup hJ' h2 h3
  exact ⟨cr, by rw [h4, pathIfaces_flip_peering eu ed hud hdd]⟩

/-- **C03 for networks with one border router per AS**: `C03_full` with the additional hypothesis
    `SingleRouter` — every path path combination can build (all segment combinations, shortcuts,
    peering shortcuts). -/
theorem C03_single_router_partial (mac : MacFn) (net : Net) (now : Nat) (edges : List Edge)
    (src dst : Nat) (c cf : Cursor) (tr : List (Nat × Nat))
    (hWF : WFNet net) (hUp : AllUp net) (hSR : SingleRouter net)
    (hJ : Joinable mac net edges src dst) (hp : pathOf edges = some c) (hexp : Unexpired now c)
    (hsend : send mac net now src dst c = .delivered dst tr cf) :
    ∃ cr, send mac net now dst src (reverseCursor cf) = .delivered src tr.reverse cr := by
  rcases joinable_cases mac net edges src dst hJ with hnp | ⟨e1, e2, k1, k2, rfl, h1, h2⟩
  · exact reverse_run_nonpeering_partial mac net now hWF hUp hSR edges src dst c cf tr hnp hJ hp hexp hsend
  · exact reverse_run_peering_partial mac net now hWF hUp hSR e1 e2 src dst c cf tr k1 k2 h1 h2 hJ hp hexp
      hsend

/-- **C03 at full strength is a theorem**: any number of border routers per AS, all path shapes.
    The way there and the way back are delivered in the network with one router per AS
    (`C03_single_router_partial` on `collapse net`, whose hypotheses follow from those on `net`);
    both deliveries transfer to `net` with the same traces and final packets
    (`send_sim`: every AS crossing by one router is reproduced by the ingress router and, where
    another router owns the egress interface, its sibling); the delivered packet, reversed, is
    again a packet on its first hop with uniform Peer flags (`reverse_delivered`). -/
theorem C03_holds : C03_full := by
  intro mac net now edges src dst c cf tr hWF hUp hJ hp hexp hsend
  have hWF0 := wf_collapse net hWF
  have hUp0 := allUp_collapse net hUp
  have hSR0 := singleRouter_collapse net
  have hJ0 := joinable_collapse mac net edges src dst hJ
  obtain ⟨hU, hfirst⟩ := pathOf_uniform mac net edges src dst c hJ hp
  obtain ⟨cf0, h0⟩ := Scion.C02.C02_single_router_partial mac (collapse net) now edges src dst c hWF0 hUp0 hSR0 hJ0 hp hexp
  have hreal := send_sim mac net now src dst hWF c hU hfirst dst _ cf0 h0
  rw [hreal] at hsend
  cases hsend
  obtain ⟨cr, hr⟩ := C03_single_router_partial mac (collapse net) now edges src dst c cf _ hWF0 hUp0 hSR0
    hJ0 hp hexp h0
  obtain ⟨hUr, hfr⟩ := reverse_delivered mac (collapse net) now src dst c cf dst _ hU h0
  exact ⟨cr, send_sim mac net now dst src hWF (reverseCursor cf) hUr hfr src _ cr hr⟩

end Scion.C03
