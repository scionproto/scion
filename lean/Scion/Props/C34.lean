import Scion.Proofs.Chain
import Scion.Proofs.Best
import Scion.Gen.Pki2
/-!
# C34 — Only properly formed chains rooted in an active TRC are trusted

Property theorems only.  The model (`Scion.Model.Chain`) is the decision logic of
`cppki.ValidateCert/ValidateChain/VerifyChain` and of the trust provider's TRC selection
(`activeTRCs`, `filterVerifiableChains`, `GetChains`) over certificate *facts*; it is tied to the
real functions by `harness/cmd/chain` on real certificates generated in-process.

Signature checking and X.509 path validation are oracles: `asByCa` ("`certs[0]` carries a valid
signature of `certs[1]`'s key", `CheckSignatureFrom`) and `x509ok` (Go's `Verify`).  What the
statement of C34 needs from the latter is the hypothesis `X509Sound` below ("`Verify` succeeded"
implies: the CA certificate is signed by a root of the TRC, and AS, CA and that root certificate
are inside their validity at the verification time).  The harness evaluates this implication,
and the whole statement, on the real objects of every accepted case.

History: before the repair of finding `C34/accepted-not-issued-by-ca`, `verifyChain` had no
`asByCa` check and passed `certs[1]` to `Verify` merely as an optional intermediate, so an AS
certificate issued directly by a TRC root was accepted next to any CA certificate.
-/
namespace Scion.C34
open Scion.Chain

/-! ## First sentence: which chains are accepted against a TRC -/

/-- the AS profile as the statement words it: SCION key usages, constraints, ISD-AS attributes -/
structure ASProfile (a : Cert) : Prop where
  version : a.version = 3
  serial : a.hasSerial = true
  sigAlg : a.sigAlg = 10 ∨ a.sigAlg = 11 ∨ a.sigAlg = 12
  skid : a.skidEmpty = false
  skidNotCritical : a.skidExt ≠ some true
  akidNotCritical : a.akidExt ≠ some true
  digitalSignature : a.keyUsage % 2 = 1
  noCertSign : a.keyUsage / 32 % 2 = 0
  notCA : ¬ (a.bcValid = true ∧ a.isCA = true)
  issuerIA : ∃ ia, a.issuerIA = .ok ia
  subjectIA : ∃ ia, a.subjectIA = .ok ia
  akid : a.akid ≠ 0
  timeStamping : 8 ∈ a.eku

structure CAProfile (c : Cert) : Prop where
  version : c.version = 3
  serial : c.hasSerial = true
  sigAlg : c.sigAlg = 10 ∨ c.sigAlg = 11 ∨ c.sigAlg = 12
  skid : c.skidEmpty = false
  skidNotCritical : c.skidExt ≠ some true
  akidNotCritical : c.akidExt ≠ some true
  certSign : c.keyUsage / 32 % 2 = 1
  noDigitalSignature : c.keyUsage % 2 = 0
  noClientAuth : 2 ∉ c.eku
  noServerAuth : 1 ∉ c.eku
  bcCritical : c.bcExt ≠ some false
  isCA : c.bcValid = true ∧ c.isCA = true
  pathLen : c.maxPathLen = 0
  issuerIA : ∃ ia, c.issuerIA = .ok ia
  subjectIA : ∃ ia, c.subjectIA = .ok ia
  akid : c.akid ≠ 0
  /-- not one of the TRC certificate classes -/
  noScionEKU : classifyUeku c.ueku = none

theorem validateCert_as_iff (a : Cert) :
    validateCert (some a) = (.as, true) ↔ (classifyUeku a.ueku = none ∧ ASProfile a) := by
  rw [validateCert_as, asOk_iff, generalOk_iff, iaSetOk_iff, certSign_false, digSig_true]
  constructor
  · rintro ⟨hu, ⟨g1, g2, g3, g4, g5, g6⟩, hcs, hds, nca, ⟨i1, i2⟩, ak, ts⟩
    exact ⟨hu, ⟨g1, g2, g3, g4, g5, g6, hds, hcs, nca, i1, i2, ak, ts⟩⟩
  · rintro ⟨hu, p⟩
    exact ⟨hu, ⟨p.version, p.serial, p.sigAlg, p.skid, p.skidNotCritical, p.akidNotCritical⟩,
      p.noCertSign, p.digitalSignature, p.notCA, ⟨p.issuerIA, p.subjectIA⟩, p.akid, p.timeStamping⟩

theorem validateCert_ca_iff (c : Cert) :
    validateCert (some c) = (.ca, true) ↔ CAProfile c := by
  rw [validateCert_ca, caOk_iff, generalOk_iff, iaSetOk_iff, certSign_true, digSig_false]
  constructor
  · rintro ⟨hu, ⟨g1, g2, g3, g4, g5, g6⟩, hcs, nd, nc, ns, bcx, bv, ic, pl, ⟨i1, i2⟩, ak⟩
    exact ⟨g1, g2, g3, g4, g5, g6, hcs, nd, nc, ns, bcx, ⟨bv, ic⟩, pl, i1, i2, ak, hu⟩
  · intro p
    exact ⟨p.noScionEKU, ⟨p.version, p.serial, p.sigAlg, p.skid, p.skidNotCritical, p.akidNotCritical⟩,
      p.certSign, p.noDigitalSignature, p.noClientAuth, p.noServerAuth, p.bcCritical, p.isCA.1,
      p.isCA.2, p.pathLen, ⟨p.issuerIA, p.subjectIA⟩, p.akid⟩

/-- **`ValidateChain` accepts exactly**: two certificates, a valid AS certificate followed by a
valid CA certificate whose validity covers the AS certificate's. -/
theorem validateChain_ok_iff (certs : List (Option Cert)) (a c : Cert) :
    validateChain certs = .ok (a, c) ↔
      certs = [some a, some c] ∧ validateCert (some a) = (.as, true) ∧
      validateCert (some c) = (.ca, true) ∧
      c.notBefore ≤ a.notBefore ∧ a.notAfter ≤ c.notAfter := by
  constructor
  · intro h
    unfold validateChain at h
    split at h
    case h_2 => cases h
    rename_i c0 c1
    split at h; · cases h
    rename_i t0 h0
    simp only [ite_error_eq_ok, Decidable.not_not] at h
    obtain ⟨rfl, h⟩ := h
    split at h; · cases h
    rename_i t1 h1
    simp only [ite_error_eq_ok, Decidable.not_not] at h
    obtain ⟨rfl, h⟩ := h
    split at h
    case h_2 => cases h
    rw [ite_else_error_eq_ok, covers_iff] at h
    obtain ⟨hcov, h⟩ := h
    cases h
    exact ⟨rfl, h0, h1, hcov⟩
  · rintro ⟨rfl, h0, h1, hb, ha⟩
    simp [validateChain, h0, h1, covers, hb, ha]

theorem validateChain_length (certs : List (Option Cert)) (h : certs.length ≠ 2) :
    validateChain certs = .error .length := by
  match certs, h with
  | [], _ => rfl
  | [_], _ => rfl
  | [_, _], h => exact absurd rfl h
  | _ :: _ :: _ :: _, _ => rfl

/-- **`verifyChain` accepts iff** the chain validates, a (non-zero) TRC is given, the AS
certificate carries a valid signature of the CA certificate, the TRC's certificates all classify
as voting/root certificates with at least one root, and X.509 path validation of the AS
certificate through the CA certificate to the TRC's roots succeeds at the given time. -/
theorem chain_accept_iff (certs : List (Option Cert)) (trc : TrcArg) (s x : Bool) :
    verifyChain certs trc s x = .ok () ↔
      (∃ a c, validateChain certs = .ok (a, c)) ∧
      (∃ tc, trc = .trc tc ∧ rootPoolOk tc = true) ∧ s = true ∧ x = true := by
  unfold verifyChain
  rcases validateChain certs with _ | ⟨a, c⟩ <;> cases trc <;> simp [ite_error_eq_ok, and_left_comm]

/-- a chain is accepted by `VerifyChain` iff it is accepted against one of the listed TRCs -/
theorem verifyAny_iff (certs : List (Option Cert)) (s : Bool) (ts : List (TrcArg × Bool)) :
    verifyAny certs s ts = true ↔ ∃ p ∈ ts, verifyChain certs p.1 s p.2 = .ok () := by
  induction ts with
  | nil => simp [verifyAny]
  | cons p r ih => simp [verifyAny, ih, verifyOk_iff]

/-- the root pool of an accepted TRC consists of certificates that validate as roots, and
every certificate of the TRC is a valid sensitive, regular or root certificate -/
theorem trcCertsOk_iff (tc : List (Option Cert)) :
    trcCertsOk tc = true ↔
      ∀ c ∈ tc, validateCert c = (.sensitive, true) ∨ validateCert c = (.regular, true) ∨
        validateCert c = (.root, true) := by
  induction tc with
  | nil => simp [trcCertsOk]
  | cons c r ih =>
    unfold trcCertsOk
    split
    case h_4 h1 h2 h3 => exact ⟨nofun, fun h => ((h c List.mem_cons_self).elim h1 (·.elim h2 h3)).elim⟩
    all_goals simp [*]

/-- What the property needs from Go's path validation (see the header). -/
def X509Sound (a c : Cert) (f : X509Facts) (t : Int) (x : Bool) : Prop :=
  x = true → x509Necessary a c f t = true

/-- **C34, first sentence.**  If `verifyChain` accepts and path validation is sound, then the
chain is an AS certificate followed by the CA certificate that issued it (`s`), both in the SCION
profile (key usages, constraints, ISD-AS attributes), the CA validity covers the AS validity,
and the CA certificate is signed by a root certificate of that TRC which — like the CA and AS
certificates — is valid at the verification time. -/
theorem chain_accept_statement (certs : List (Option Cert)) (trc : TrcArg) (s x : Bool)
    (f : X509Facts) (t : Int)
    (hsound : ∀ a c, validateChain certs = .ok (a, c) → X509Sound a c f t x)
    (h : verifyChain certs trc s x = .ok ()) :
    ∃ a c, certs = [some a, some c] ∧ ASProfile a ∧ CAProfile c ∧
      c.notBefore ≤ a.notBefore ∧ a.notAfter ≤ c.notAfter ∧
      s = true ∧
      (a.notBefore ≤ t ∧ t ≤ a.notAfter) ∧ (c.notBefore ≤ t ∧ t ≤ c.notAfter) ∧
      (∃ tc, trc = .trc tc ∧ rootPoolOk tc = true) ∧
      ∃ r ∈ f.roots, r.1 = true ∧ r.2.1 ≤ t ∧ t ≤ r.2.2 := by
  obtain ⟨⟨a, c, hv⟩, htrc, hs, hx⟩ := (chain_accept_iff certs trc s x).1 h
  have hn := hsound a c hv hx
  obtain ⟨hc, ha, hca, hb, hna⟩ := (validateChain_ok_iff certs a c).1 hv
  simp only [x509Necessary, contains, Bool.and_eq_true, decide_eq_true_eq, List.any_eq_true] at hn
  obtain ⟨⟨h2, h3⟩, r, hr, h4⟩ := hn
  exact ⟨a, c, hc, ((validateCert_as_iff a).1 ha).2, (validateCert_ca_iff c).1 hca, hb, hna, hs,
    h2, h3, htrc, r, hr, h4.1, h4.2.1, h4.2.2⟩

/-- a chain whose first certificate was not signed by its second certificate is never accepted,
whatever path validation says (the repaired defect) -/
theorem not_issued_by_ca_rejected (certs : List (Option Cert)) (trc : TrcArg) (x : Bool) :
    verifyChain certs trc false x ≠ .ok () := by
  intro h
  have := (chain_accept_iff certs trc false x).1 h
  simp at this

/-! ## Second sentence: which TRCs the provider uses, and which chains it hands out -/

theorem inGrace_iff (t : TrcInfo) (now : Int) :
    t.inGrace now = true ↔ t.base ≠ t.serial ∧ t.notBefore ≤ now ∧ now ≤ t.notBefore + t.grace := by
  unfold TrcInfo.inGrace TrcInfo.isBase
  by_cases h : t.base = t.serial <;> simp [h, contains]

/-- what a successful `activeTRCs` says: the latest TRC is valid now, and it is selected alone or, inside its grace
period, together with the predecessor answer of the DB -/
theorem activeTRCs_view {latest pred : Lookup} {now : Int} (h : (activeTRCs latest pred now).trcs ≠ []) :
    ∃ L, latest = .found L ∧ (L.notBefore ≤ now ∧ now ≤ L.notAfter) ∧
      (activeTRCs latest pred now = .one L ∨
       ∃ g, activeTRCs latest pred now = .two L g ∧ pred = .found g ∧ L.base ≠ L.serial ∧
         L.notBefore ≤ now ∧ now ≤ L.notBefore + L.grace) := by
  cases hres : activeTRCs latest pred now with
  | one L =>
    obtain ⟨hl, hv, _⟩ := activeTRCs_eq_one_iff.1 hres
    exact ⟨L, hl, (contains_iff ..).1 hv, .inl rfl⟩
  | two L g =>
    obtain ⟨hl, hv, hg, hp⟩ := activeTRCs_eq_two_iff.1 hres
    exact ⟨L, hl, (contains_iff ..).1 hv, .inr ⟨g, rfl, hp, (inGrace_iff L now).1 hg⟩⟩
  | _ => rw [hres] at h; exact absurd rfl h

/-- `Store.latest` is the selection of the trust DB's `latest`, written as a recursion: a fold from the right -/
theorem latest_eq_foldl (s : Store) : s.latest = s.reverse.foldl (pickNewer newer) none := by
  rw [List.foldl_reverse]
  induction s with
  | nil => rfl
  | cons t r ih => rw [Store.latest, List.foldr_cons, ← ih]; cases Store.latest r <;> rfl

theorem latest_is_max (s : Store) (m : TrcInfo) (h : s.latest = some m) :
    m ∈ s ∧ ∀ t ∈ s, newer t m = false := by
  have := (Picked.foldl_none (scans_newer newer) (by simp only [newer_iff]; omega)
    (by simp only [newer_iff]; omega) s.reverse).best (le := fun x m => newer x m = false)
    (fun a => by simp [newer]) (by simp only [newer_iff, newer_false_iff]; omega) (by simp)
  rw [← latest_eq_foldl, h] at this
  simpa [Best] using this

/-- **C34, second sentence (selection).**  Every TRC that `activeTRCs` selects is either the
ISD's latest TRC, selected only while it is valid, or the predecessor answer of the DB, selected
only while the latest TRC is valid *and* inside its grace period. -/
theorem provider_active_trc_rule (latest pred : Lookup) (now : Int) (t : TrcInfo)
    (h : t ∈ (activeTRCs latest pred now).trcs) :
    ∃ L, latest = .found L ∧ (L.notBefore ≤ now ∧ now ≤ L.notAfter) ∧
      (t = L ∨ (pred = .found t ∧ L.base ≠ L.serial ∧ L.notBefore ≤ now ∧
                now ≤ L.notBefore + L.grace)) := by
  obtain ⟨L, hl, hv, h1 | ⟨g, h2, hp, hg⟩⟩ := activeTRCs_view (List.ne_nil_of_mem h)
  · rw [h1] at h; exact ⟨L, hl, hv, .inl (List.mem_singleton.1 h)⟩
  · rw [h2, ActiveRes.trcs, List.mem_cons, List.mem_singleton] at h
    exact ⟨L, hl, hv, h.imp_right fun e => by rw [e]; exact ⟨hp, hg⟩⟩

/-- … and over the abstract store the latest is the maximal `(base, serial)` and the second
one, if any, is its immediate predecessor `(base, serial − 1)`. -/
theorem provider_active_of_store (s : Store) (fl fp : Bool) (now : Int) (t : TrcInfo)
    (h : t ∈ (activeOfStore s fl fp now).trcs) :
    ∃ L, s.latest = some L ∧ (∀ u ∈ s, newer u L = false) ∧
      (L.notBefore ≤ now ∧ now ≤ L.notAfter) ∧
      (t = L ∨ (s.find L.base (L.serial - 1) = some t ∧ L.base ≠ L.serial ∧
                L.notBefore ≤ now ∧ now ≤ L.notBefore + L.grace)) := by
  unfold activeOfStore at h
  obtain ⟨L, hL, hv, hor⟩ := provider_active_trc_rule _ _ now t h
  have hs := (lookupOf_eq_found.1 hL).2
  refine ⟨L, hs, (latest_is_max s L hs).2, hv, hor.imp_right fun ⟨hp, hrest⟩ => ⟨?_, hrest⟩⟩
  rw [hs] at hp
  exact (lookupOf_eq_found.1 hp).2

theorem filterVerifiable_mem (n : Nat) (chains : List Nat) (ok : Nat → Nat → Bool) (c : Nat)
    (h : c ∈ filterVerifiable n chains ok) : c ∈ chains ∧ ∃ k, k < n ∧ ok c k = true := by
  simp only [filterVerifiable, List.mem_filter, List.any_eq_true, List.mem_range] at h
  exact h

/-- **C34, second sentence (hand-out).**  Without the explicit `AllowInactive` opt-out, every
chain `GetChains` hands out (from the DB or freshly fetched) verifies against one of the
selected TRCs. -/
theorem getChainsActive_mem (i : GetIn) (chains : List Nat) (n : Nat) (l : List Nat)
    (h : getChainsActive i chains n = .ok l) : ∀ c ∈ l, ∃ k, k < n ∧ i.ok c k = true := by
  unfold getChainsActive at h
  split at h
  · cases h
    exact fun c hc => (filterVerifiable_mem _ _ _ c hc).2
  · rw [ite_error_eq_ok] at h
    obtain ⟨_, h⟩ := h
    split at h; · cases h
    rw [ite_error_eq_ok] at h
    cases h.2
    exact fun c hc => (filterVerifiable_mem _ _ _ c hc).2

theorem provider_hands_out_only_verifiable (i : GetIn) (l : List Nat)
    (hai : i.allowInactive = false) (h : getChains i = .ok l) :
    ∀ c ∈ l, ∃ k, k < i.active.trcs.length ∧ i.ok c k = true := by
  unfold getChains at h
  split at h
  · cases h
  · split at h
    · cases h
    · rename_i chains _
      simp only [hai, Bool.false_and, Bool.false_eq_true, if_false] at h
      split at h
      · cases h
      · cases h
      · cases h
      · exact getChainsActive_mem i chains _ l h

/-- hence a chain is handed out only if it verifies against the latest TRC while that TRC is
valid, or against the predecessor inside the latest TRC's grace period -/
theorem provider_chain_rule (i : GetIn) (latest pred : Lookup) (now : Int) (l : List Nat)
    (hact : i.active = activeTRCs latest pred now)
    (hai : i.allowInactive = false) (h : getChains i = .ok l) :
    ∀ c ∈ l, ∃ L, latest = .found L ∧ (L.notBefore ≤ now ∧ now ≤ L.notAfter) ∧
      (i.ok c 0 = true ∨
        (i.ok c 1 = true ∧ (∃ g, pred = .found g) ∧ L.base ≠ L.serial ∧ L.notBefore ≤ now ∧
          now ≤ L.notBefore + L.grace)) := by
  intro c hc
  obtain ⟨k, hk, hok⟩ := provider_hands_out_only_verifiable i l hai h c hc
  rw [hact] at hk
  obtain ⟨L, hl, hv, h1 | ⟨g, h2, hp, hg⟩⟩ :=
    activeTRCs_view (List.ne_nil_of_length_pos (Nat.zero_lt_of_lt hk))
  · rw [h1] at hk
    cases Nat.lt_one_iff.1 hk
    exact ⟨L, hl, hv, .inl hok⟩
  · rw [h2] at hk
    match k, hk with
    | 0, _ => exact ⟨L, hl, hv, .inl hok⟩
    | 1, _ => exact ⟨L, hl, hv, .inr ⟨hok, ⟨g, hp⟩, hg⟩⟩

/-! ## `LoadChains`: the same rule at the second entry point, independent of file order -/

/-- a chain file is inserted into the trust DB iff it is a readable, valid chain inside its
validity that verifies against one of the TRCs `activeTRCs` selected (and the DB takes it) -/
theorem loadFile_loaded_iff (f : FileIn) :
    loadFile f = .loaded ↔
      f.readable = true ∧ f.chainValid = true ∧ f.inValidity = true ∧
      ((∃ t, f.active = .one t ∧ f.ok0 = true) ∨
       (∃ t g, f.active = .two t g ∧ (f.ok0 = true ∨ f.ok1 = true))) ∧
      f.insertFails = false ∧ f.duplicate = false := by
  unfold loadFile FileIn.verified
  cases f.active <;> simp [ite_eq_iff_of_ne, Decidable.or_iff_not_imp_left]

/-- the decision taken for the file at position `i` is `loadFile` of that file alone: it does
not depend on which files were processed (or loaded) before it -/
theorem loadChains_order_independent (fs : List FileIn) (i : Nat) (r : FileRes)
    (h : (loadChains fs)[i]? = some r) : ∃ f, fs[i]? = some f ∧ r = loadFile f := by
  induction fs generalizing i with
  | nil => simp [loadChains] at h
  | cons f rest ih =>
    unfold loadChains at h
    split at h
    · rename_i hab
      cases i with
      | zero => simp at h; exact ⟨f, by simp, by rw [hab]; exact h.symm⟩
      | succ n => simp at h
    · rename_i x hx
      cases i with
      | zero => simp at h; exact ⟨f, by simp, h.symm⟩
      | succ n =>
        simp only [List.getElem?_cons_succ] at h ⊢
        exact ih n h

/-- hence every file reported as loaded verifies against the latest TRC while it is valid or
against the predecessor inside the grace period (with `provider_active_trc_rule`) -/
theorem loadChains_loaded_verified (fs : List FileIn) (i : Nat)
    (h : (loadChains fs)[i]? = some .loaded) :
    ∃ f, fs[i]? = some f ∧ f.chainValid = true ∧ f.inValidity = true ∧
      ((∃ t, f.active = .one t ∧ f.ok0 = true) ∨
       (∃ t g, f.active = .two t g ∧ (f.ok0 = true ∨ f.ok1 = true))) := by
  obtain ⟨f, hf, hr⟩ := loadChains_order_independent fs i _ h
  have := (loadFile_loaded_iff f).1 hr.symm
  exact ⟨f, hf, this.2.1, this.2.2.1, this.2.2.2.1⟩

/-! ## Facts regenerated from the source (T3) -/

/-- the numbering of `cppki.CertType`, the X.509 version, the chain length constant and the list
of accepted signature algorithms are the ones the model uses -/
theorem gen_consts :
    Gen.Pki2.certTypeInvalid = CertType.invalid.toNat ∧
    Gen.Pki2.certTypeSensitive = CertType.sensitive.toNat ∧
    Gen.Pki2.certTypeRegular = CertType.regular.toNat ∧
    Gen.Pki2.certTypeRoot = CertType.root.toNat ∧
    Gen.Pki2.certTypeCA = CertType.ca.toNat ∧
    Gen.Pki2.certTypeAS = CertType.as.toNat ∧
    Gen.Pki2.certVersion = 3 ∧ Gen.Pki2.chainLen = 2 ∧
    Gen.Pki2.validSigAlgs = ["x509.ECDSAWithSHA256", "x509.ECDSAWithSHA384", "x509.ECDSAWithSHA512"] :=
  ⟨rfl, rfl, rfl, rfl, rfl, rfl, rfl, rfl, rfl⟩

/-- the staged checks appear in the source in the order the model applies them -/
theorem gen_call_order :
    Gen.Pki2.verifyChainCalls = ["ValidateChain", "IsZero", "CheckSignatureFrom", "RootPool", "Verify"] ∧
    Gen.Pki2.validateChainCalls = ["ValidateCert", "ValidateCert", "Covers"] ∧
    Gen.Pki2.activeTRCsCalls =
      ["SignedTRC", "IsZero", "Contains", "InGracePeriod", "SignedTRC", "IsZero"] :=
  ⟨rfl, rfl, rfl⟩

/-! ## Non-vacuity -/

def exAS : Cert :=
  { version := 3, hasSerial := true, sigAlg := 10, skidEmpty := false, akid := 1,
    skidExt := some false, akidExt := some false, bcExt := none, keyUsage := 1,
    eku := [1, 2, 8], ueku := [], bcValid := false, isCA := false, maxPathLen := -1,
    issuerIA := .ok 0x1ff0000000110, subjectIA := .ok 0x1ff0000000111,
    notBefore := -7200, notAfter := 7200, keyId := 7 }

def exCA : Cert :=
  { version := 3, hasSerial := true, sigAlg := 10, skidEmpty := false, akid := 1,
    skidExt := some false, akidExt := some false, bcExt := some true, keyUsage := 96,
    eku := [], ueku := [], bcValid := true, isCA := true, maxPathLen := 0,
    issuerIA := .ok 0x1ff0000000110, subjectIA := .ok 0x1ff0000000110,
    notBefore := -18000, notAfter := 18000, keyId := 3 }

def exRoot : Cert :=
  { exCA with akid := 2, keyUsage := 96, eku := [8], ueku := [3], maxPathLen := 1,
              notBefore := -36000, notAfter := 36000, keyId := 1 }

example : verifyChain [some exAS, some exCA] (.trc [some exRoot]) true true = .ok () := by rfl
example : verifyChain [some exAS, some exCA] (.trc [some exRoot]) true false = .error .x509 := by
  rfl
example : verifyChain [some exAS, some exCA] (.trc [some exRoot]) false true =
    .error .notIssuedByCA := by rfl
example : verifyChain [some exCA, some exAS] (.trc [some exRoot]) true true =
    .error (.chain .firstType) := by rfl
example : verifyChain [some exAS, some exCA] (.trc [some exCA]) true true = .error .rootPool := by
  rfl
example : X509Sound exAS exCA ⟨[(true, -36000, 36000)]⟩ 0 true := fun _ => by decide

/-- a store with an update in its grace period selects both TRCs; after the grace period only
the latest -/
example : (activeOfStore [⟨1, 1, -100, 100, 0⟩, ⟨1, 2, -10, 200, 20⟩] false false 0).trcs =
    [⟨1, 2, -10, 200, 20⟩, ⟨1, 1, -100, 100, 0⟩] := by decide
example : (activeOfStore [⟨1, 1, -100, 100, 0⟩, ⟨1, 2, -10, 200, 5⟩] false false 0).trcs =
    [⟨1, 2, -10, 200, 5⟩] := by decide
example : activeOfStore [⟨1, 1, -100, 100, 0⟩, ⟨1, 2, 10, 200, 5⟩] false false 0 = .inactive := by
  decide

end Scion.C34
