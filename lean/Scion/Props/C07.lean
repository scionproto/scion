import Scion.Proofs.RouterFrame
import Scion.Proofs.RouterExamples
import Scion.Gen.Router1
/-!
# C07 — Forwarded packets change only in the path's mutable state

Property theorems only. Model: `Scion.Model.Router`, whose packet buffer is edited in place
exactly where `process` edits it; the tie (`harness/cmd/router`) compares the complete output
buffer of the real router with the model's on every packet and, independently, diffs it against
the input under the mask of this file. One-hop-path completion is property C12's file.

The statement at full strength (`ForwardFrame`) is **false** of the code: `MetaHdr.SerializeTo`
and `InfoField.SerializeTo` zero the reserved bits when the router rewrites the pointers / the
SegID (`forward_frame_fails`, known finding `C07/reserved-bits-cleared`). Proved instead:
`forward_frame_partial` (the exact statement for packets whose reserved bits are zero) and the
unconditional `forward_confined` (every byte outside the mutable fields is unchanged or has
only its reserved bits cleared).
-/
namespace Scion.C07
open Scion.Util Scion.Router
open Scion.PathMeta hiding Info

abbrev out (cfg : Cfg) (mac : Mac) (resolve : Cfg → Hd → ResolveOut) (now : Nat) (ing : Ingress)
    (raw : Bytes) : Bytes := (processPkt cfg mac resolve now ing raw).2

abbrev accepted (cfg : Cfg) (mac : Mac) (resolve : Cfg → Hd → ResolveOut) (now : Nat) (ing : Ingress)
    (raw : Bytes) : Prop := (processPkt cfg mac resolve now ing raw).1.accepting = true

/-- **C07 at full strength**: a forwarded (or delivered) packet is byte-identical to the
received one except for the byte holding CurrINF/CurrHF and the SegID of the current segment
(at a segment change also of the next one); the length is unchanged. (The router-alert flags
are consumed only on the slow path: a packet with a pending alert is never `forward`ed by the
fast path.) -/
def ForwardFrame : Prop :=
  ∀ (cfg : Cfg) (mac : Mac) (resolve : Cfg → Hd → ResolveOut) (now : Nat) (ing : Ingress) (raw : Bytes),
    accepted cfg mac resolve now ing raw →
    ∃ h pm, parse raw = .ok h pm ∧ (out cfg mac resolve now ing raw).length = raw.length ∧
      ∀ i, ¬ Mutable h pm i → (out cfg mac resolve now ing raw)[i]? = raw[i]?

/-- the code does not meet it: reserved bits of the meta header and of the info field are
cleared on the way (witness: `Ex.firstHopRsv`, byte 37 `fc` → `00`) -/
theorem forward_frame_fails : ¬ ForwardFrame := by
  intro hf
  obtain ⟨h, pm, hp, _, hframe⟩ :=
    hf Ex.cfg Ex.idMac resolveLocal Ex.now ⟨0, 0⟩ Ex.firstHopRsv (by decide)
  have hh : h.pathOff = 36 ∧ pm.currINF = 0 ∧ pm.currHF = 0 ∧ pm.s0 = 2 ∧ pm.s1 = 0 := by
    have : parse Ex.firstHopRsv = .ok _ _ := rfl
    rw [this] at hp
    cases hp
    decide
  have := hframe 37 (by
    unfold Mutable segIDPos infoOff MetaLen InfoLen isXover infIdx base
    simp [hh.1, hh.2.1, hh.2.2.1, hh.2.2.2.1])
  revert this
  decide

/-- the reserved bits of the received packet are zero where the router may rewrite them: the RSV
bits of the meta header (second byte of the line) and the reserved flag bits / reserved byte of
the current info field (at a segment change also of the next one) -/
def RsvZero (h : Hd) (pm : Hdr) (raw : Bytes) : Prop :=
  (∀ x, raw[h.pathOff + 1]? = some x → x.toNat / 4 = 0) ∧
  (∀ j x, Touched h pm j → raw[infoOff h j]? = some x → x.toNat / 4 = 0) ∧
  (∀ j x, Touched h pm j → raw[infoOff h j + 1]? = some x → x = 0)

/-- **unconditional frame.** For every accepted packet: same length, and every byte outside the
mutable fields is either unchanged or equals the received byte with the reserved bits of its
position cleared (`clr` is the identity except on the second byte of the meta line and the first
two bytes of the current — at a segment change also the next — info field). -/
theorem forward_confined (cfg : Cfg) (mac : Mac) (resolve : Cfg → Hd → ResolveOut) (now : Nat)
    (ing : Ingress) (raw : Bytes) (hacc : accepted cfg mac resolve now ing raw) :
    ∃ h pm, parse raw = .ok h pm ∧ (out cfg mac resolve now ing raw).length = raw.length ∧
      ∀ i, ¬ Mutable h pm i →
        ((out cfg mac resolve now ing raw)[i]? = raw[i]? ∨
         (out cfg mac resolve now ing raw)[i]? = (raw[i]?).map (clr h pm i)) := by
  obtain ⟨h, pm, hp, e⟩ := processPkt_accepting_inv hacc
  unfold accepted at hacc
  unfold out
  rw [e] at hacc ⊢
  have d := parse_ok_iff.1 hp
  obtain ⟨_, _, _, f⟩ := accept_frame d.mline d.numHops_le hacc
  exact ⟨h, pm, hp, f.near.1, f.near.2⟩

/-- addresses, flow ID, traffic class, hop fields, extension headers and payload are never
modified: every byte before the path header and every byte after the info fields is unchanged -/
theorem outside_meta_and_infos_unchanged (cfg : Cfg) (mac : Mac) (resolve : Cfg → Hd → ResolveOut)
    (now : Nat) (ing : Ingress) (raw : Bytes) (hacc : accepted cfg mac resolve now ing raw) :
    ∃ h pm, parse raw = .ok h pm ∧
      ∀ i, (i < h.pathOff ∨ h.pathOff + 4 + 8 * h.numINF ≤ i) →
        (out cfg mac resolve now ing raw)[i]? = raw[i]? := by
  obtain ⟨h, pm, hp, _, hfr⟩ := forward_confined cfg mac resolve now ing raw hacc
  have hcur : pm.currINF < h.numINF := by
    unfold accepted processPkt at hacc
    simp only [hp] at hacc
    exact accepting_currINF_lt hacc
  refine ⟨h, pm, hp, fun i hi => ?_⟩
  have hm : ¬ Mutable h pm i := by
    have hin : ∀ j, Touched h pm j → ¬ segIDPos h j i := by
      intro j ht
      have hj := touched_in_range hp hcur ht
      have := Nat.mul_le_mul_left 8 hj
      unfold segIDPos infoOff MetaLen InfoLen
      omega
    rintro (hc | hc | ⟨hx, hc⟩)
    · omega
    · exact hin _ (Or.inl rfl) hc
    · exact hin _ (Or.inr ⟨hx, rfl⟩) hc
  rcases hfr i hm with e | e
  · exact e
  · rw [e]
    cases raw[i]? <;> simp [clr_id_outside hp hcur i hi]

/-- **C07 for packets whose reserved bits are zero** (`…_partial`: the full statement minus the
known finding): byte-identical outside the pointer byte and the SegID(s). -/
theorem forward_frame_partial (cfg : Cfg) (mac : Mac) (resolve : Cfg → Hd → ResolveOut) (now : Nat)
    (ing : Ingress) (raw : Bytes) (hacc : accepted cfg mac resolve now ing raw) :
    ∃ h pm, parse raw = .ok h pm ∧ (out cfg mac resolve now ing raw).length = raw.length ∧
      (RsvZero h pm raw → ∀ i, ¬ Mutable h pm i → (out cfg mac resolve now ing raw)[i]? = raw[i]?) := by
  obtain ⟨h, pm, hp, hlen, hfr⟩ := forward_confined cfg mac resolve now ing raw hacc
  refine ⟨h, pm, hp, hlen, fun hz i hm => ?_⟩
  rcases hfr i hm with e | e
  · exact e
  · rw [e]
    cases hx : raw[i]? with
    | none => rfl
    | some x =>
      simp only [Option.map_some, Option.some.injEq]
      unfold clr
      split
      · rename_i h1
        subst h1
        have := hz.1 x hx
        apply ofNat_eq; omega
      · split
        · rename_i h1 h2
          have : x.toNat / 4 = 0 := by
            rcases h2 with rfl | ⟨hxo, rfl⟩
            · exact hz.2.1 _ x (Or.inl rfl) hx
            · exact hz.2.1 _ x (Or.inr ⟨hxo, rfl⟩) hx
          apply ofNat_eq; omega
        · split
          · rename_i h1 h2 h3
            rcases h3 with rfl | ⟨hxo, rfl⟩
            · exact (hz.2.2 _ x (Or.inl rfl) hx).symm
            · exact (hz.2.2 _ x (Or.inr ⟨hxo, rfl⟩) hx).symm
          · rfl

/-! ### non-vacuity -/

/-- a forwarded first-hop packet: only byte 36 (CurrINF/CurrHF) changes (the toy MAC starts with
two zero bytes, so the SegID update is invisible here) -/
example : out Ex.cfg Ex.idMac resolveLocal Ex.now ⟨0, 0⟩ Ex.firstHop = Ex.firstHop.set 36 1 ∧
    accepted Ex.cfg Ex.idMac resolveLocal Ex.now ⟨0, 0⟩ Ex.firstHop := by
  unfold out accepted; rw [Ex.firstHop_out]; exact ⟨rfl, rfl⟩

/-- across a segment change the pointer byte moves by two hops and one segment -/
example : out Ex.cfg Ex.idMac resolveLocal Ex.now ⟨1, 10⟩ Ex.xover = Ex.xover.set 36 0x43 :=
  congrArg Prod.snd Ex.xover_out

/-- with reserved bits set, bytes 37, 40 and 41 are cleared as well (the known finding) -/
example : out Ex.cfg Ex.idMac resolveLocal Ex.now ⟨0, 0⟩ Ex.firstHopRsv =
    (((Ex.firstHopRsv.set 36 1).set 37 0).set 40 1).set 41 0 := by decide

/-! ### T3 -/

/-- the conditions under which the two SegID updates happen, and the order of the stages -/
theorem update_conditions :
    Scion.Gen.Router1.conds_updateNonConsDirIngressSegID =
      ["!p.infoField.ConsDir && p.ingressFromLink != 0 && !p.peering", "err != nil"] ∧
    Scion.Gen.Router1.conds_processEgress =
      ["p.infoField.ConsDir && !p.peering", "err != nil", "err != nil"] ∧
    Scion.Gen.Router1.processCalls = Router.processCallOrder := ⟨rfl, rfl, rfl⟩

/-- field sizes used for the byte positions -/
theorem gen_consts :
    Router.CmnHdrLen = Scion.Gen.Router1.CmnHdrLen ∧ Router.MetaLen = Scion.Gen.Router1.MetaLen ∧
    Router.InfoLen = Scion.Gen.Router1.InfoLen ∧ Router.HopLen = Scion.Gen.Router1.HopLen ∧
    Scion.Gen.Router1.LineLen = 4 := ⟨rfl, rfl, rfl, rfl, rfl⟩

end Scion.C07
