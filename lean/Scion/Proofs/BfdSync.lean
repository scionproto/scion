import Scion.Model.Bfd
import Scion.Proofs.Progress
/-! C16, synchronous exchange: every delivery carries the sender's current state. {Down, Init, Up}
is closed under every input; a ranking function on the pair of states that no delivery raises and
some delivery lowers; convergence under every fair schedule (progress rule:
`Scion.Proofs.Progress`). Core Lean only. -/
namespace Scion.Bfd

/-- The session never enters AdminDown ("never into a state it cannot leave"): {Down, Init, Up}
is closed under every input. -/
theorem step_ne_adminDown (l : St) (i : Input) (hl : l ≠ .adminDown) : step l i ≠ .adminDown := by
  cases i with
  | recv r =>
    -- the normalisation after the transition never leaves AdminDown behind
    show norm (transition l (eventOf r)) ≠ .adminDown
    cases transition l (eventOf r) <;> nofun
  | timer => cases l <;> first | exact absurd rfl hl | nofun

/-- ranking function on the pair of states: 0 exactly at (Up, Up). -/
def rank : St × St → Nat
  | (.up, .up) => 0
  | (.up, .init) => 1 | (.init, .up) => 1
  | (.down, .init) => 2 | (.init, .down) => 2 | (.init, .init) => 2
  | (.down, .down) => 3
  | (.down, .up) => 4 | (.up, .down) => 4
  | _ => 5

theorem xstep_good (p : St × St) (d : Dir) (h : p.1 ≠ .adminDown ∧ p.2 ≠ .adminDown) :
    (xstep p d).1 ≠ .adminDown ∧ (xstep p d).2 ≠ .adminDown := by
  cases d
  · exact ⟨h.1, step_ne_adminDown p.2 (.recv p.1) h.2⟩
  · exact ⟨step_ne_adminDown p.1 (.recv p.2) h.1, h.2⟩

theorem xstep_rank (p : St × St) (d : Dir) (h : p.1 ≠ .adminDown ∧ p.2 ≠ .adminDown) :
    xstep p d = p ∨ rank (xstep p d) < rank p := by
  obtain ⟨a, b⟩ := p
  obtain ⟨ha, hb⟩ := h
  cases d <;> cases a <;> cases b <;>
    first | exact absurd rfl ha | exact absurd rfl hb | exact Or.inl rfl | (right; decide)

theorem exists_progress (p : St × St) (h : p.1 ≠ .adminDown ∧ p.2 ≠ .adminDown) (hr : rank p ≠ 0) :
    ∃ d, rank (xstep p d) < rank p := by
  obtain ⟨a, b⟩ := p
  obtain ⟨ha, hb⟩ := h
  cases a <;> cases b <;>
    first | exact absurd rfl ha | exact absurd rfl hb | exact absurd rfl hr
          | exact ⟨.ab, by decide⟩ | exact ⟨.ba, by decide⟩

theorem rank_zero_iff (p : St × St) : rank p = 0 ↔ p = (.up, .up) := by
  obtain ⟨a, b⟩ := p
  cases a <;> cases b <;> simp [rank]

theorem pairAt_good (sched : Nat → Dir) (p0 : St × St) (h : p0.1 ≠ .adminDown ∧ p0.2 ≠ .adminDown) :
    ∀ n, (pairAt sched p0 n).1 ≠ .adminDown ∧ (pairAt sched p0 n).2 ≠ .adminDown := by
  intro n
  induction n with
  | zero => exact h
  | succ n ih => exact xstep_good _ _ ih

theorem pairAt_rank_mono (sched : Nat → Dir) (p0 : St × St) (h : p0.1 ≠ .adminDown ∧ p0.2 ≠ .adminDown) {n m : Nat}
    (hnm : n ≤ m) : rank (pairAt sched p0 m) ≤ rank (pairAt sched p0 n) :=
  rel_of_le (R := fun x y => y ≤ x) (g := fun n => rank (pairAt sched p0 n)) Nat.le_refl
    (fun _ _ _ h1 h2 => Nat.le_trans h2 h1)
    (fun n => (xstep_rank _ (sched n) (pairAt_good sched p0 h n)).elim
      (fun he => Nat.le_of_eq (congrArg rank he)) Nat.le_of_lt) hnm

theorem reaches_rank_zero (sched : Nat → Dir) (hf : ∀ n d, ∃ m, n ≤ m ∧ sched m = d) (p0 : St × St) (h : p0.1 ≠ .adminDown ∧ p0.2 ≠ .adminDown) :
    ∀ r n, rank (pairAt sched p0 n) ≤ r → ∃ m, n ≤ m ∧ rank (pairAt sched p0 m) = 0 := by
  intro r
  induction r with
  | zero => intro n hn; exact ⟨n, Nat.le_refl _, by omega⟩
  | succ r ih =>
    intro n hn
    by_cases hz : rank (pairAt sched p0 n) = 0
    · exact ⟨n, Nat.le_refl _, hz⟩
    · -- some direction lowers the rank, and until it is scheduled the pair stays as it is
      obtain ⟨d, hd⟩ := exists_progress _ (pairAt_good sched p0 h n) hz
      obtain ⟨m, hm, hlt⟩ := ensures (I := fun p => p.1 ≠ .adminDown ∧ p.2 ≠ .adminDown)
        (P := (· = pairAt sched p0 n))
        (Q := fun p => rank p < rank (pairAt sched p0 n)) (act := d) (fun _ => rfl)
        (pairAt_good sched p0 h) (fun k => hf k d)
        (fun c x hg hc => by subst hc; exact xstep_rank _ x hg)
        (fun c _ hc _ => by subst hc; exact hd) n rfl
      obtain ⟨m', hm', hz'⟩ := ih m (by omega)
      exact ⟨m', by omega, hz'⟩

/-- **Synchronous convergence.** Two sessions, neither administratively down, that exchange their
current states over a link delivering in both directions again and again are both Up from some
point on, for ever. -/
theorem sync_converges (sched : Nat → Dir) (hf : ∀ n d, ∃ m, n ≤ m ∧ sched m = d) (p0 : St × St)
    (h : p0.1 ≠ .adminDown ∧ p0.2 ≠ .adminDown) :
    ∃ N, ∀ n, N ≤ n → pairAt sched p0 n = (.up, .up) := by
  obtain ⟨N, _, hN⟩ := reaches_rank_zero sched hf p0 h _ 0 (Nat.le_refl _)
  refine ⟨N, fun n hn => (rank_zero_iff _).1 ?_⟩
  have := pairAt_rank_mono sched p0 h hn
  omega

end Scion.Bfd
