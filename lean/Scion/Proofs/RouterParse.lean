import Scion.Proofs.RouterBytes
import Scion.Proofs.PathMeta
import Scion.Proofs.Guard
/-! What the decoder `parse` establishes, said once by positions of the buffer (`Decodes`), and
what follows from it: the path header lies inside the buffer, and `parse` looks at the buffer only
through its length, the bytes before the path header, the segment lengths of the meta line and
bytes after the info fields. -/
namespace Scion.Router
open Scion.Util
open Scion.PathMeta hiding Info

def u8 (raw : Bytes) (i : Nat) : Nat := (raw.getD i 0).toNat

/-- the two extension skippers of `parse` -/
def skipExts (nh : Nat) (pld : Bytes) : Option (Nat × Bytes) :=
  match (if nh = hbhClass then skipExt pld [hbhClass] else some (nh, pld)) with
  | none => none
  | some (n1, p1) => if n1 = e2eClass then skipExt p1 [hbhClass, e2eClass] else some (n1, p1)

def MetaDec (h : Hd) (buf : Bytes) (p : Hdr) : Prop := decode (beNat (slice buf h.pathOff 4)) = p

/-- everything `parse raw = .ok h pm` says, by positions of `raw`; the six length checks of the
decoder amount to `hdrLen` and `hdrIn` -/
structure Decodes (raw : Bytes) (h : Hd) (pm : Hdr) : Prop where
  len12   : 12 ≤ raw.length
  ptype   : u8 raw 8 = 1
  dstType : h.dstType = u8 raw 9 / 16
  srcType : h.srcType = u8 raw 9 % 16
  pathOff : h.pathOff = 28 + addrLen h.dstType + addrLen h.srcType
  hdrLen  : u8 raw 5 * 4 = h.pathOff + 4 + 8 * h.numINF + 12 * h.numHops
  hdrIn   : u8 raw 5 * 4 ≤ raw.length
  mline   : MetaDec h raw pm
  base    : ∃ b, baseDecode pm = some b ∧ h.numINF = b.numINF ∧ h.numHops = b.numHops
  srcIA   : h.srcIA = beNat (slice raw 20 8)
  dstIA   : h.dstIA = beNat (slice raw 12 8)
  dstHost : h.dstHost = slice raw 28 (addrLen h.dstType)
  srcHost : h.srcHost = slice raw (28 + addrLen h.dstType) (addrLen h.srcType)
  pldLen  : h.pldLenOk = (u8 raw 6 * 256 + u8 raw 7 == (raw.drop (u8 raw 5 * 4)).length)
  ext     : skipExts (u8 raw 4) (raw.drop (u8 raw 5 * 4)) = some (h.lastNext, h.l4)

theorem list12_of_length {l : Bytes} (h : 12 ≤ l.length) :
    ∃ a0 a1 a2 a3 a4 a5 a6 a7 a8 a9 a10 a11 r,
      l = a0 :: a1 :: a2 :: a3 :: a4 :: a5 :: a6 :: a7 :: a8 :: a9 :: a10 :: a11 :: r := by
  rcases l with _ | ⟨a0, _ | ⟨a1, _ | ⟨a2, _ | ⟨a3, _ | ⟨a4, _ | ⟨a5, _ | ⟨a6, _ | ⟨a7, _ | ⟨a8,
    _ | ⟨a9, _ | ⟨a10, _ | ⟨a11, r⟩⟩⟩⟩⟩⟩⟩⟩⟩⟩⟩⟩ <;>
    first
    | exact ⟨_, _, _, _, _, _, _, _, _, _, _, _, _, rfl⟩
    | (simp only [List.length_cons, List.length_nil] at h; omega)

/-- The decoder is walked once, here. The buffer and the two address lengths are turned into
variables before the chain of length checks is read off: the term would otherwise carry the
twelve-cons pattern of `parse` some ten times, and every step would pay for it. -/
theorem parse_ok_iff {raw : Bytes} {h : Hd} {pm : Hdr} : parse raw = .ok h pm ↔ Decodes raw h pm := by
  constructor
  · intro e
    unfold parse at e
    split at e
    · rename_i x0 x1 x2 x3 nh hl pl0 pl1 pt ty x10 x11 rest
      generalize hraw : (x0 :: x1 :: x2 :: x3 :: nh :: hl :: pl0 :: pl1 :: pt :: ty :: x10 :: x11 :: rest) = raw at e
      have hlen : raw.length = rest.length + 12 := by rw [← hraw]; rfl
      dsimp only at e
      generalize hdl : addrLen (ty.toNat / 16) = dl at e
      generalize hsl : addrLen (ty.toNat % 16) = sl at e
      simp only [ite_eq_iff_of_ne, ne_eq, reduceCtorEq, not_false_eq_true] at e
      obtain ⟨c0, c1, c2, c3, c4, e⟩ := e
      cases hb : baseDecode (decode (beNat (slice raw (28 + dl + sl) 4))) with
      | none => rw [hb] at e; cases e
      | some b =>
        rw [hb] at e
        simp only [ite_eq_iff_of_ne, ne_eq, reduceCtorEq, not_false_eq_true] at e
        obtain ⟨c5, c6, e⟩ := e
        split at e
        · cases e
        · rename_i n1 p1 he1
          split at e
          · cases e
          · rename_i n2 p2 he2
            cases e
            subst hraw hdl hsl
            refine ⟨by simp, by simpa [u8] using c0, rfl, rfl, rfl, ?_, ?_, rfl, ⟨b, hb, rfl, rfl⟩,
              rfl, rfl, rfl, rfl, rfl, ?_⟩
            · simp only [u8, List.getD_cons_succ, List.getD_cons_zero]; omega
            · simp only [u8, List.getD_cons_succ, List.getD_cons_zero]; omega
            · show skipExts nh.toNat (List.drop (hl.toNat * 4) _) = some (n2, p2)
              unfold skipExts
              rw [he1]; exact he2
    · cases e
  · intro d
    obtain ⟨x0, x1, x2, x3, nh, hl, pl0, pl1, pt, ty, x10, x11, rest, rfl⟩ := list12_of_length d.len12
    obtain ⟨b, hb, hn1, hn2⟩ := d.base
    have h1 := d.ptype; have h2 := d.hdrLen; have h3 := d.hdrIn; have h4 := d.pathOff
    have h5 := d.dstType; have h6 := d.srcType; have h7 := d.ext
    simp only [u8, List.getD_cons_succ, List.getD_cons_zero] at h1 h2 h3 h5 h6 h7
    rw [h5, h6] at h4
    rw [← d.mline, h4] at hb
    rw [h4, hn1, hn2] at h2
    simp only [List.length_cons] at h3
    unfold skipExts at h7
    unfold parse
    dsimp only
    rw [if_neg (by omega), if_neg (by omega), if_neg (by omega),
      if_neg (by simp only [List.length_cons]; omega), if_neg (by omega), hb]
    dsimp only
    rw [if_neg (by omega), if_neg (by omega)]
    split at h7
    · cases h7
    · rename_i n1 p1 he1
      rw [he1]
      dsimp only
      rw [h7]
      dsimp only
      obtain ⟨_, _, _, _, _, _, _, _, _, _, _, _⟩ := h
      have := d.srcIA; have := d.dstIA; have := d.dstHost; have := d.srcHost; have := d.pldLen
      have := d.mline
      simp only [MetaDec, u8, List.getD_cons_succ, List.getD_cons_zero] at *
      subst_vars
      rfl

theorem Decodes.inBuf {raw : Bytes} {h : Hd} {pm : Hdr} (d : Decodes raw h pm) : InBuf h raw := by
  have := d.hdrLen; have := d.hdrIn
  unfold InBuf hopOff MetaLen InfoLen HopLen; omega

theorem Decodes.numHops_le {raw h pm} (d : Decodes raw h pm) : h.numHops ≤ 64 := by
  obtain ⟨b, hb, _, hn2⟩ := d.base
  rw [hn2]; exact baseDecode_numHops_le hb

/-- **re-decoding.** If `raw` decodes to `(h, pm)` and `out` has the same length, the same bytes
before the path header and after the info fields, and a meta line with the same segment
lengths, then `out` decodes to the same header with the pointers of its own meta line: every
field of `Decodes` reads the buffer only there. -/
theorem parse_congr {raw out : Bytes} {h : Hd} {pm : Hdr} (hp : parse raw = .ok h pm)
    (hlen : out.length = raw.length)
    (hout : ∀ i, (i < h.pathOff ∨ h.pathOff + 4 + 8 * h.numINF ≤ i) → out[i]? = raw[i]?)
    (hs0 : (decode (beNat (slice out h.pathOff 4))).s0 = pm.s0)
    (hs1 : (decode (beNat (slice out h.pathOff 4))).s1 = pm.s1)
    (hs2 : (decode (beNat (slice out h.pathOff 4))).s2 = pm.s2) :
    parse out = .ok h (decode (beNat (slice out h.pathOff 4))) := by
  have d := parse_ok_iff.1 hp
  have hpo := d.pathOff
  have hu : ∀ i, i < 12 → u8 out i = u8 raw i := fun i hi => by
    unfold u8; rw [List.getD_eq_getElem?_getD, List.getD_eq_getElem?_getD, hout i (Or.inl (by omega))]
  have hsl : ∀ off n, off + n ≤ h.pathOff → slice out off n = slice raw off n :=
    fun off n hle => slice_congr off n (fun i _ hi => hout i (Or.inl (by omega)))
  have hdr : out.drop (u8 raw 5 * 4) = raw.drop (u8 raw 5 * 4) :=
    drop_congr _ (fun i hi => hout i (Or.inr (by have := d.hdrLen; omega)))
  obtain ⟨b, hb, hn1, hn2⟩ := d.base
  apply parse_ok_iff.2
  refine ⟨by rw [hlen]; exact d.len12, by rw [hu 8 (by omega)]; exact d.ptype,
    by rw [hu 9 (by omega)]; exact d.dstType, by rw [hu 9 (by omega)]; exact d.srcType, hpo,
    by rw [hu 5 (by omega)]; exact d.hdrLen, by rw [hu 5 (by omega), hlen]; exact d.hdrIn, rfl,
    ⟨_, baseDecode_congr hb hs0 hs1 hs2, hn1, hn2⟩,
    by rw [hsl 20 8 (by omega)]; exact d.srcIA, by rw [hsl 12 8 (by omega)]; exact d.dstIA,
    by rw [hsl 28 _ (by omega)]; exact d.dstHost, by rw [hsl _ _ (by omega)]; exact d.srcHost,
    by rw [hu 5 (by omega), hu 6 (by omega), hu 7 (by omega), hdr]; exact d.pldLen,
    by rw [hu 5 (by omega), hu 4 (by omega), hdr]; exact d.ext⟩

end Scion.Router
