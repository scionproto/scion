import Scion.Model.Ohp
import Scion.Proofs.BigEndian
import Scion.Proofs.Guard
/-! Helper lemmas for C12: `onehop.Path` decode ∘ serialize = id on well-formed paths. Core Lean only. -/
namespace Scion.R2OhpCodec
open Scion.Util Scion.Ohp

structure HopWF (h : Hop) : Prop where
  exp : h.exp < 256
  ci : h.consIngress < 65536
  ce : h.consEgress < 65536
  mac : h.mac.length = 6

structure InfoWF (i : Info) : Prop where
  seg : i.segID < 65536
  ts : i.ts < 4294967296

theorem u8 (v : Nat) : (UInt8.ofNat v).toNat = v % 256 := by simp

theorem flag_bits (a b : Bool) :
    bit (UInt8.ofNat (b2n a + 2 * b2n b)).toNat 0 = a ∧ bit (UInt8.ofNat (b2n a + 2 * b2n b)).toNat 1 = b := by
  cases a <;> cases b <;> decide

/- In the two round trips below `beAt (encode… ++ rest) off n` reduces, by evaluating `drop` and
`take` on the literal prefix, to `beNat (natBE n field)`; so each field is one use of
`beNat_natBE_of_lt`. -/

theorem decodeInfo_encodeInfo (i : Info) (h : InfoWF i) (rest : Bytes) :
    decodeInfo (encodeInfo i ++ rest) = i := by
  have e0 : beAt (encodeInfo i ++ rest) 0 1 = (UInt8.ofNat (b2n i.consDir + 2 * b2n i.peer)).toNat :=
    Nat.zero_add _
  have e1 : beAt (encodeInfo i ++ rest) 2 2 = i.segID := beNat_natBE_of_lt (k := 2) h.seg
  have e2 : beAt (encodeInfo i ++ rest) 4 4 = i.ts := beNat_natBE_of_lt (k := 4) h.ts
  simp only [decodeInfo, e0, e1, e2, (flag_bits i.consDir i.peer).1, (flag_bits i.consDir i.peer).2]

theorem encodeInfo_length (i : Info) : (encodeInfo i).length = 8 := by
  simp [encodeInfo, natBE]

theorem encodeHop_length (h : Hop) : (encodeHop h).length = 12 := by
  simp [encodeHop, natBE]

theorem decodeHop_encodeHop (h : Hop) (hw : HopWF h) (rest : Bytes) :
    decodeHop (encodeHop h ++ rest) = h := by
  have e0 : beAt (encodeHop h ++ rest) 0 1 = (UInt8.ofNat (b2n h.egAlert + 2 * b2n h.ingAlert)).toNat :=
    Nat.zero_add _
  have e1 : beAt (encodeHop h ++ rest) 1 1 = h.exp := by
    show 0 * 256 + (UInt8.ofNat h.exp).toNat = h.exp
    rw [UInt8.toNat_ofNat_of_lt' hw.exp, Nat.zero_mul, Nat.zero_add]
  have e2 : beAt (encodeHop h ++ rest) 2 2 = h.consIngress := beNat_natBE_of_lt (k := 2) hw.ci
  have e3 : beAt (encodeHop h ++ rest) 4 2 = h.consEgress := beNat_natBE_of_lt (k := 2) hw.ce
  have e4 : ((encodeHop h ++ rest).drop 6).take 6 = h.mac := by
    show ((h.mac ++ List.replicate 6 0).take 6 ++ rest).take 6 = h.mac
    rw [List.take_left' hw.mac, List.take_left' hw.mac]
  simp only [decodeHop, e0, e1, e2, e3, e4, (flag_bits h.egAlert h.ingAlert).1, (flag_bits h.egAlert h.ingAlert).2]

theorem encodePath_length (p : Path) : (encodePath p).length = 32 := by
  simp [encodePath, encodeInfo_length, encodeHop_length]

/-- `onehop.Path.DecodeFromBytes ∘ SerializeTo = id` on paths whose fields fit their wire width -/
theorem decodePath_encodePath (p : Path) (hi : InfoWF p.info) (h1 : HopWF p.first) (h2 : HopWF p.second) :
    decodePath (encodePath p) = some p := by
  unfold decodePath
  rw [if_neg (by simp [encodePath_length, PathLen])]
  have e1 : decodeInfo (encodePath p) = p.info := by
    unfold encodePath; rw [List.append_assoc]; exact decodeInfo_encodeInfo _ hi _
  have e2 : decodeHop ((encodePath p).drop 8) = p.first := by
    unfold encodePath
    have : (encodeInfo p.info).length = 8 := encodeInfo_length _
    rw [List.append_assoc, ← this, List.drop_left]
    exact decodeHop_encodeHop _ h1 _
  have e3 : decodeHop ((encodePath p).drop 20) = p.second := by
    unfold encodePath
    have : (encodeInfo p.info ++ encodeHop p.first).length = 20 := by simp [encodeInfo_length, encodeHop_length]
    rw [← this, List.drop_left]
    have := decodeHop_encodeHop _ h2 []
    simpa using this
  rw [e1, e2, e3]

theorem beNat_take_lt (b : Bytes) (n : Nat) : beNat (b.take n) < 256 ^ n :=
  Nat.lt_of_lt_of_le (beNat_lt _) (Nat.pow_le_pow_right (by decide) (List.length_take_le n b))

theorem decodeInfo_wf (b : Bytes) : InfoWF (decodeInfo b) :=
  ⟨beNat_take_lt _ 2, beNat_take_lt _ 4⟩

theorem decodeHop_wf (b : Bytes) (i : Nat) (hl : i + 12 ≤ b.length) : HopWF (decodeHop (b.drop i)) :=
  ⟨beNat_take_lt _ 1, beNat_take_lt _ 2, beNat_take_lt _ 2, by simp [decodeHop, List.length_take, List.length_drop]; omega⟩

theorem decodePath_wf (b : Bytes) (p : Path) (h : decodePath b = some p) :
    InfoWF p.info ∧ HopWF p.first ∧ HopWF p.second := by
  obtain ⟨hl, h⟩ := ite_none_eq_some.mp h
  have hl : 32 ≤ b.length := Nat.not_lt.mp hl
  cases h
  exact ⟨decodeInfo_wf _, decodeHop_wf b 8 (by omega), decodeHop_wf b 20 (by omega)⟩

theorem updateSegID_wf (i : Info) (m : Bytes) (h : InfoWF i) : InfoWF (updateSegID i m) :=
  ⟨Nat.xor_lt_two_pow (n := 16) h.seg (beNat_take_lt m 2), h.ts⟩

end Scion.R2OhpCodec
