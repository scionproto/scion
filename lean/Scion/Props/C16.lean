import Scion.Proofs.BfdAsync
import Scion.Proofs.BfdSync
import Scion.Proofs.Guard
import Scion.Gen.Bfd
/-! # C16 — BFD sessions follow RFC 5880 and always recover

Model: `Scion.Model.Bfd` (`transition` = fsm.go, `recvStep` = what `Session.Run` does with an
accepted packet incl. the AdminDown normalisation, `timerStep` = detection-timer branch).
The model is tied to the code on every run by engine `bfd`: the complete table of the real
`transition` (T1, exhaustive) and the event logs of real `Session`s (T2). -/
namespace Scion.C16
open Scion.Bfd

/-- RFC 5880 §6.8.6, the state-update part of the reception procedure, written from the RFC text
for a session that is not administratively down:

    If received state is AdminDown
        If bfd.SessionState is not Down  → Down
    Else
        If bfd.SessionState is Down
            If received State is Down → Init
            Else if received State is Init → Up
        Else if bfd.SessionState is Init
            If received State is Init or Up → Up
        Else (bfd.SessionState is Up)
            If received State is Down → Down -/
def rfc (l r : St) : St :=
  if r = .adminDown then (if l ≠ .down then .down else l)
  else if l = .down then
    (if r = .down then .init else if r = .init then .up else l)
  else if l = .init then
    (if r = .init ∨ r = .up then .up else l)
  else
    (if r = .down then .down else l)

/-- **RFC 5880 §6.8.6.** For every local state in {Down, Init, Up} and every received state the
session's next state is the one the RFC prescribes; in particular a received AdminDown gives
Down. -/
theorem rfc5880_6_8_6 (l r : St) (hl : l ≠ .adminDown) : recvStep l r = rfc l r := by
  cases l <;> cases r <;> first | rfl | exact absurd rfl hl

theorem recv_adminDown_goes_down (l : St) (hl : l ≠ .adminDown) : recvStep l .adminDown = .down := by
  cases l <;> first | rfl | exact absurd rfl hl

/-- RFC 5880 §6.8.4: expiry of the detection time in Init or Up sets the state to Down; a
session that is Down stays Down. -/
theorem rfc5880_detection_timer (l : St) (hl : l ≠ .adminDown) : timerStep l = .down := by
  cases l <;> first | rfl | exact absurd rfl hl

theorem run_ne_adminDown (h : List Input) (l : St) (hl : l ≠ .adminDown) : run l h ≠ .adminDown :=
  List.foldlRecOn (motive := fun s : St => s ≠ .adminDown) h step hl fun l hl i _ => step_ne_adminDown l i hl

/-- every state reachable from the initial state by any history of accepted packets (any
received state, AdminDown included) and timer expiries is one of Down, Init, Up. -/
theorem never_adminDown (h : List Input) : run initial h ≠ .adminDown :=
  run_ne_adminDown h initial (by decide)

theorem down_init_brings_up (l : St) (hl : l ≠ .adminDown) :
    run l [.recv .down, .recv .init] = .up := by
  cases l <;> first | rfl | exact absurd rfl hl

/-- **No absorbing state.** After any history of received packets (any state) and timer
expiries, a finite sequence of packets of a well-behaved peer (one that never sends AdminDown;
here: Down followed by Init, what a peer that is itself coming up sends) leads to Up. -/
theorem no_absorbing_state (h : List Input) :
    ∃ rs : List St, (∀ r ∈ rs, r ≠ .adminDown) ∧
      run (run initial h) (rs.map Input.recv) = .up := by
  exact ⟨[.down, .init], by decide, down_init_brings_up _ (never_adminDown h)⟩

/-- the raw table alone does have an absorbing state (this is why the normalisation in
`Session.Run` is part of the model, and what the revert of 7c477ad re-exposes). -/
theorem raw_table_adminDown_absorbing (r : St) : transition .adminDown (eventOf r) = .adminDown := by
  cases r <;> rfl

/-! ### Two sessions over a link that keeps delivering -/

def Fair (sched : Nat → Dir) : Prop := ∀ n d, ∃ m, n ≤ m ∧ sched m = d

def Good (p : St × St) : Prop := p.1 ≠ .adminDown ∧ p.2 ≠ .adminDown

/-- **Two sessions reach Up and stay Up.** Two sessions in arbitrary states (anything a history
of packets and losses can have left behind) that exchange their states over a link delivering in
both directions again and again (any fair order of deliveries, no detection-timer expiry) are
both Up from some point on, for ever. -/
theorem two_sessions_reach_up (sched : Nat → Dir) (hf : Fair sched) (p0 : St × St)
    (h : Good p0) : ∃ N, ∀ n, N ≤ n → pairAt sched p0 n = (.up, .up) :=
  sync_converges sched hf p0 h

/-- the same from the states left by arbitrary histories on both sides -/
theorem two_sessions_recover (ha hb : List Input) (sched : Nat → Dir) (hf : Fair sched) :
    ∃ N, ∀ n, N ≤ n → pairAt sched (run initial ha, run initial hb) n = (.up, .up) :=
  two_sessions_reach_up sched hf _ ⟨never_adminDown ha, never_adminDown hb⟩

/-! ### Two sessions with packets in flight (asynchronous exchange) -/

/-- configurations that arise from a clean start (both sessions Down, nothing in flight) by
sends and lossless in-order deliveries -/
def ACleanReachable (c : ACfg) : Prop := ∃ acts : List Act, acts.foldl astep aInit = c

theorem cleanReachable_inv (c : ACfg) (h : ACleanReachable c) : AInv c := by
  obtain ⟨acts, rfl⟩ := h
  exact List.foldlRecOn acts astep ainv_init fun c hc x _ => ainv_step c x hc

/-- **Two sessions reach Up and stay Up, with packets in flight.** Two FIFO channels; every
delivered packet carries the state its sender had when it SENT it; both sessions keep sending
their current state and both channels keep delivering (any fair interleaving of the four
actions, any number of packets in flight). From every configuration that arises from a clean
start — more generally from every configuration satisfying `AInv` — both sessions are Up from
some point on, for ever. -/
theorem async_two_sessions_reach_up (sched : Nat → Act) (hf : AFair sched) (c0 : ACfg)
    (h0 : ACleanReachable c0) :
    ∃ N, ∀ n, N ≤ n → (acfgAt sched c0 n).a = .up ∧ (acfgAt sched c0 n).b = .up :=
  async_converges sched hf c0 (cleanReachable_inv c0 h0)

/-- The same claim for ARBITRARY starting configurations (what a history with losses and
detection-timer expiries can leave behind) — kept visible at full strength. It is FALSE for the
untimed model: see `async_livelock`. -/
def AsyncConvergesFromAnywhere : Prop :=
  ∀ (c0 : ACfg), c0.a ≠ .adminDown → c0.b ≠ .adminDown →
    (∀ x ∈ c0.qab, x ≠ .adminDown) → (∀ x ∈ c0.qba, x ≠ .adminDown) →
    ∀ sched, AFair sched →
      ∃ N, ∀ n, N ≤ n → (acfgAt sched c0 n).a = .up ∧ (acfgAt sched c0 n).b = .up

/-- A is Down with a Down packet in flight, B is Up with an Init packet (sent before it came Up)
still in flight: one packet per direction. -/
def llCfg : ACfg := ⟨.down, .up, [.down], [.init]⟩

/-- each side sends once between two receptions; the packet it sends is made stale by the
reception that follows -/
def llSched (n : Nat) : Act :=
  match n % 10 with
  | 0 => .recvB | 1 => .sendA | 2 => .recvA | 3 => .sendB | 4 => .recvB
  | 5 => .sendA | 6 => .recvA | 7 => .sendB | 8 => .recvB | _ => .sendA

theorem llSched_add (k i : Nat) : llSched (10 * k + i) = llSched i := by
  unfold llSched
  rw [(by omega : (10 * k + i) % 10 = i % 10)]

theorem ll_period (k : Nat) : acfgAt llSched llCfg (10 * k) = llCfg := by
  induction k with
  | zero => rfl
  | succ k ih =>
    rw [(by omega : 10 * (k + 1) = 10 * k + 10), acfgAt_add, ih, funext (llSched_add k)]
    decide

theorem ll_fair : AFair llSched := by
  intro n x
  have h := llSched_add (n + 1)
  cases x
  · exact ⟨10 * (n + 1) + 1, by omega, by rw [h]; rfl⟩
  · exact ⟨10 * (n + 1) + 3, by omega, by rw [h]; rfl⟩
  · exact ⟨10 * (n + 1) + 2, by omega, by rw [h]; rfl⟩
  · exact ⟨10 * (n + 1) + 0, by omega, by rw [h]; rfl⟩

/-- **Livelock.** Under the fair, lossless, in-order schedule `llSched` (never more than one
packet in flight per direction) the two sessions started in `llCfg` go round a cycle of ten
actions for ever: A is Down again every ten actions. Fairness alone does not make two RFC 5880
state machines converge; real sessions rely on timing (packets arriving well within a
transmission interval, and the random jitter of RFC 5880 §6.8.7 breaking the phase lock). -/
theorem async_livelock : ¬ AsyncConvergesFromAnywhere := by
  intro h
  obtain ⟨N, hN⟩ := h llCfg (by decide) (by decide) (by decide) (by decide) llSched ll_fair
  have := (hN (10 * N) (by omega)).1
  rw [ll_period] at this
  exact absurd this (by decide)

/-- the livelock configuration arises from a clean start after ONE detection-timer expiry at A
(B's Init packet still in flight when B is already Up, A times out and sends Down) -/
theorem livelock_config_after_one_timeout :
    astep (atimerA ([Act.sendA, .sendB, .recvA, .recvB, .sendA, .sendB, .recvB].foldl astep aInit))
      .sendA = llCfg := by decide

/-! ### Detection timer -/

/-- **Silence goes Down.** Once the detection time armed by the last accepted packet has
elapsed without another packet, the session is Down. -/
theorem silence_goes_down (s : Timed) (now : Nat) (hs : s.st ≠ .adminDown)
    (hd : s.deadline ≤ now) : (s.tick now).st = .down := by
  unfold Timed.tick
  rw [if_pos hd]
  exact rfc5880_detection_timer s.st hs

/-- … and stays Down while nothing is received. -/
theorem silence_stays_down (ts : List Nat) : ∀ s : Timed, s.st = .down →
    (ts.foldl Timed.tick s).st = .down := by
  intro s h
  refine List.foldlRecOn (motive := fun s => s.st = .down) ts Timed.tick h fun s h t _ => ?_
  unfold Timed.tick
  split
  · show timerStep s.st = .down
    rw [h]; rfl
  · exact h

/-- before the detection time has elapsed nothing happens (a session that is Up stays Up). -/
theorem no_early_down (s : Timed) (now : Nat) (hd : now < s.deadline) : s.tick now = s := by
  unfold Timed.tick
  rw [if_neg (by omega)]

/-- the detection time armed by a packet is `DetectMult × max(RequiredMinRx, remote
DesiredMinTx)` after its arrival. Times are unbounded naturals (µs): the product is the
mathematical product, it does NOT wrap at 2^32 µs. The code agrees because it forms the product
in `time.Duration` (int64 ns; 255 × (2^32−1) µs ≈ 1.1·10^15 ns < 2^63) — see
`gen_detection_product_in_duration` and the large-product scripts of engine `bfd`. -/
theorem detection_time (s : Timed) (now : Nat) (r : St) (mult reqRx remTx : Nat) :
    (s.recv now r mult reqRx remTx).deadline = now + mult * max reqRx remTx := rfl

/-- in particular a product of 2^32 µs or more arms a timer of at least 2^32 µs (≈ 71.6 min):
a session that is Up stays Up for that long after the packet -/
theorem detection_time_beyond_32_bits (s : Timed) (now t : Nat) (r : St) (mult reqRx remTx : Nat)
    (hbig : 2 ^ 32 ≤ mult * max reqRx remTx) (ht : t < now + 2 ^ 32) :
    (s.recv now r mult reqRx remTx).tick t = s.recv now r mult reqRx remTx := by
  apply no_early_down
  rw [detection_time]
  omega

/-- T3: `Session.Run` computes `detectionTime` once, as
`time.Duration(msg.DetectMultiplier) * max(s.RequiredMinRxInterval, bfdIntervalToDuration(…))`,
i.e. the multiplication is performed in `time.Duration`, not in the 32-bit `BFDTimeInterval`. -/
theorem gen_detection_product_in_duration :
    Scion.Gen.Bfd.detectionProductInDuration = true ∧ Scion.Gen.Bfd.detectionTimeAssignments = 1 := by
  decide

/-! ### Transmission interval (RFC 5880 §6.8.7) -/

theorem clampPct_bounds (pct lo hi : Nat) (h : lo < hi) :
    lo ≤ clampPct pct lo hi ∧ clampPct pct lo hi < hi := by
  unfold clampPct
  split
  · omega
  · split <;> omega

/-- The interval to the next packet is the negotiated interval reduced by a jitter of 0–25 %
(10–25 % when the detect multiplier is 1), whatever the random generator returns: never longer
than the negotiated interval (≤ 90 % of it for multiplier 1), never shorter than 75 % (rounded
down to the nanosecond). So a running session sends at least once per negotiated interval, i.e.
at least `DetectMult` times per detection time of its peer. -/
theorem send_interval_bounds (iv mult pct d : Nat) (h : computeInterval iv mult pct = some d) :
    d ≤ iv ∧ 76 * iv ≤ 100 * d + 99 ∧ (mult = 1 → 100 * d ≤ 90 * iv) := by
  unfold computeInterval at h
  split at h
  · cases h
  · split at h
    · cases h
    · cases h
      generalize hlo : (if mult = 1 then minJitterDetectMult1 else minJitter) = lo
      have hlo' : lo < maxJitter ∧ (mult = 1 → 10 ≤ lo) := by
        subst hlo; unfold minJitterDetectMult1 minJitter maxJitter; split <;> omega
      have hc := clampPct_bounds pct lo maxJitter hlo'.1
      generalize clampPct pct lo maxJitter = c at hc ⊢
      have hc25 : c < 25 := hc.2
      -- `iv * (100 - c)` is `100 * iv` less `iv * c`, which lies between `lo * iv` and `24 * iv`
      rw [Nat.mul_sub]
      have h1 : iv * c ≤ iv * 24 := Nat.mul_le_mul_left iv (by omega)
      have h2 : iv * lo ≤ iv * c := Nat.mul_le_mul_left iv hc.1
      have h3 : mult = 1 → iv * 10 ≤ iv * lo := fun hm => Nat.mul_le_mul_left iv (hlo'.2 hm)
      generalize iv * c = m at *
      generalize iv * lo = k at *
      omega
/-- `computeInterval` is defined (does not panic) exactly for a positive interval and a non-zero
detect multiplier — which `validateParameters` guarantees before `Run` starts. -/
theorem send_interval_defined (iv mult pct : Nat) :
    (computeInterval iv mult pct).isSome = true ↔ (0 < iv ∧ mult ≠ 0) := by
  unfold computeInterval
  split
  · simp; omega
  · split
    · simp; omega
    · simp; omega

/-! ### Reception checks (RFC 5880 §6.8.6, first part) -/

/-- A packet reaches the state machine iff it passes the RFC's reception checks for a session
without authentication, echo, demand mode and poll sequences: version 1, plausible length, non-zero
detect multiplier, not multipoint, non-zero My Discriminator, and a zero Your Discriminator only
in states Down and AdminDown. -/
theorem accepted_iff (p : Pkt) :
    shouldDiscard p = false ↔
      (p.version = 1 ∧ 24 ≤ p.length ∧ p.detectMult ≠ 0 ∧ p.multipoint = false ∧ p.myDisc ≠ 0 ∧
       (p.yourDisc ≠ 0 ∨ p.state = .adminDown ∨ p.state = .down) ∧
       p.authPresent = false ∧ p.authHdrTyped = false ∧ p.poll = false ∧ p.final = false ∧
       p.echoRx = 0 ∧ p.demand = false) := by
  unfold shouldDiscard
  simp only [ite_true_eq_false]
  -- the one guard that is not a plain test of a field
  have hy : ¬ ((p.yourDisc == 0 && p.state != .adminDown && p.state != .down) = true) ↔
      (p.yourDisc ≠ 0 ∨ p.state = .adminDown ∨ p.state = .down) := by
    by_cases h1 : p.yourDisc = 0 <;> by_cases h2 : p.state = .adminDown <;> simp [h1, h2]
  rw [hy]
  cases p.authPresent <;> simp

/-! ### Non-vacuity -/

example : recvStep .up .adminDown = .down := rfl
example : run initial [.recv .down, .recv .adminDown, .timer, .recv .up] = .down := rfl
example : run (run initial [.recv .init, .recv .adminDown]) [.recv .down, .recv .init] = .up := rfl
example : Fair (fun n => if n % 2 = 0 then .ab else .ba) := by
  intro n d
  cases d
  · exact ⟨2 * n, by omega, by simp⟩
  · exact ⟨2 * n + 1, by omega, by simp⟩
example : pairAt (fun n => if n % 2 = 0 then .ab else .ba) (.up, .down) 6 = (.up, .up) := by decide
example : ACleanReachable ⟨.init, .down, [.down, .init], []⟩ :=
  ⟨[.sendA, .sendB, .recvA, .sendA], by decide⟩
example : (({ st := .up, deadline := 0 } : Timed).recv 1000 .up 255 1000 17000000).deadline = 1000 + 4335000000 := rfl
example : ({ st := .up, deadline := 300 } : Timed).tick 300 = { st := .down, deadline := 300 + defaultDetect } := rfl

end Scion.C16
