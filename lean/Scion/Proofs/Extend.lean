import Scion.Model.Extend
/-! Inversion and helper lemmas for `Scion.Model.Extend`. -/
namespace Scion.Extend

theorem extend_ok_inv (c : Cfg) (s : Seg) (ingress egress : Nat) (peers : List Nat)
    (signers : List Signer) (now : Int) (e : ASEntry) (s' : Seg) (sg : Signer)
    (h : extend c s ingress egress peers signers now = .ok e s' sg) :
    c.mtu ≠ 0 ∧ (ingress = 0 ↔ s.entries = []) ∧ ¬ (ingress = 0 ∧ egress = 0) ∧
    lastExpiring signers ((s.ts : Int) * nsPerSec) now = some sg ∧
    ∃ exp inMtu hop next,
      hopExpTime c.maxExp ((s.ts : Int) * nsPerSec) sg.notAfter = some exp ∧
      remoteMTU c ingress = some inMtu ∧
      createHopF c ingress egress exp s.ts (extractBeta s) = some hop ∧
      remoteIA c egress = some next ∧
      e = ⟨c.ia, next, c.mtu, inMtu, hop,
            createPeerEntries c egress peers exp s.ts (extractBeta s ^^^ sigma hop.mac)⟩ ∧
      s' = { s with entries := s.entries ++ [e] } ∧
      validate (egress != 0) s'.entries = true := by
  unfold extend at h
  -- the `if` guards one at a time by `rw` (`split at h` re-simplifies the whole remaining term)
  by_cases hmtu : c.mtu = 0
  · rw [if_pos hmtu] at h; cases h
  rw [if_neg hmtu] at h
  dsimp only at h
  by_cases h1 : ingress = 0 ∧ (!s.entries.isEmpty) = true
  · rw [if_pos h1] at h; cases h
  by_cases h2 : ingress ≠ 0 ∧ s.entries.isEmpty = true
  · rw [if_neg h1, if_pos h2] at h; cases h
  by_cases h3 : ingress = 0 ∧ egress = 0
  · rw [if_neg h1, if_neg h2, if_pos h3] at h; cases h
  rw [if_neg h1, if_neg h2, if_neg h3] at h
  split at h
  · cases h
  rename_i sgn hsg
  split at h
  · cases h
  rename_i exp hexp
  split at h
  · cases h
  rename_i inMtu hin
  split at h
  · cases h
  rename_i hop hhop
  split at h
  · cases h
  rename_i next hnext
  split at h
  · rename_i hval
    cases h
    refine ⟨hmtu, ?_, h3, hsg, exp, inMtu, hop, next, hexp, hin, hhop, hnext, rfl, rfl, hval⟩
    cases hs : s.entries <;> simp_all
  · cases h

theorem lookup_mem {α} (l : List (Nat × α)) (k : Nat) (v : α) (h : l.lookup k = some v) :
    (k, v) ∈ l := by
  obtain ⟨l1, l2, rfl, _⟩ := List.lookup_eq_some_iff.1 h
  simp

theorem latest_spec (cur : Signer) (l : List Signer) :
    latest cur l ∈ cur :: l ∧ ∀ x ∈ cur :: l, x.notAfter ≤ (latest cur l).notAfter := by
  induction l generalizing cur with
  | nil => simp [latest]
  | cons a rest ih =>
    have ha := ih a
    have hc := ih cur
    unfold latest
    simp only [List.mem_cons, forall_eq_or_imp] at ha hc ⊢
    split
    · exact ⟨.inr ha.1, by omega, ha.2⟩
    · exact ⟨hc.1.imp_right .inr, hc.2.1, by omega, hc.2.2⟩

theorem lastExpiring_spec (signers : List Signer) (nb na : Int) (sg : Signer)
    (h : lastExpiring signers nb na = some sg) :
    sg ∈ signers ∧ sg.covers nb na = true ∧
    ∀ x ∈ signers, x.covers nb na = true → x.notAfter ≤ sg.notAfter := by
  unfold lastExpiring at h
  split at h
  · cases h
  · rename_i c cs hf
    cases h
    obtain ⟨hm, hall⟩ := latest_spec c cs
    rw [← hf, List.mem_filter] at hm
    exact ⟨hm.1, hm.2, fun x hx hc => hall x (hf ▸ List.mem_filter.2 ⟨hx, hc⟩)⟩

theorem remoteIA_eq_some {c : Cfg} {ifID : Nat} {ia : IA} (h : remoteIA c ifID = some ia) :
    (ifID = 0 ∧ ia = IA.zero) ∨
    (ifID ≠ 0 ∧ ∃ i, c.ifs.lookup ifID = some i ∧ i.ia.isWildcard = false ∧ ia = i.ia) := by
  unfold remoteIA at h
  by_cases h0 : ifID = 0
  · rw [if_pos h0] at h; cases h; exact .inl ⟨h0, rfl⟩
  · rw [if_neg h0] at h
    cases hl : c.ifs.lookup ifID with
    | none => rw [hl] at h; cases h
    | some i =>
      rw [hl] at h
      by_cases hw : i.ia.isWildcard = true
      · simp [hw] at h
      · simp only [hw] at h; cases h; exact .inr ⟨h0, i, rfl, by simpa using hw, rfl⟩

theorem remoteInfo_eq_some {c : Cfg} {ifID : Nat} {r : IA × Nat × Nat} (h0 : ifID ≠ 0)
    (h : remoteInfo c ifID = some r) :
    ∃ i, c.ifs.lookup ifID = some i ∧ i.remoteID ≠ 0 ∧ i.ia.isWildcard = false ∧
      r = (i.ia, i.remoteID, i.mtu) := by
  unfold remoteInfo at h
  rw [if_neg h0] at h
  cases hl : c.ifs.lookup ifID with
  | none => rw [hl] at h; cases h
  | some i =>
    rw [hl] at h
    by_cases hr : i.remoteID = 0
    · simp [hr] at h
    by_cases hw : i.ia.isWildcard = true
    · simp [hr, hw] at h
    · simp only [hr, hw] at h; cases h; exact ⟨i, rfl, hr, by simpa using hw, rfl⟩

theorem createHopF_spec (c : Cfg) (i e x t b : Nat) (h : HopF)
    (hh : createHopF c i e x t b = some h) :
    h.expTime = x ∧ h.inIf = i ∧ h.egIf = e ∧ h.mac = (c.mac (macInput b t x i e)).take 6 := by
  unfold createHopF at hh
  dsimp only at hh
  split at hh
  · cases hh
  · cases hh; exact ⟨rfl, rfl, rfl, rfl⟩

theorem extractBeta_append (s : Seg) (e : ASEntry) :
    extractBeta { s with entries := s.entries ++ [e] } = extractBeta s ^^^ sigma e.hop.mac := by
  unfold extractBeta
  simp [List.foldl_append]

end Scion.Extend
