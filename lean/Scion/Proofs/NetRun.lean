import Scion.Proofs.NetStage
/-! Run level: runs as a relation between positions (`Reach n p q`: `n` router invocations take the packet from `p` to
`q`; `Ends n p res`), composed without fuel arithmetic; what one step of `run` does, more fuel changes nothing; the
steps of the single router of an AS on a packet in the middle of a segment (transit, expired, bad MAC).  Core Lean only. -/
namespace Scion.Net
open Scion.SegID (updateSegID)

/-- cursor on the first hop of `l` (the current segment's hops still to be processed) -/
def mkCur (before : List Seg) (info : Info) (done l : List Hop) (after : List Seg) : Cursor :=
  match l with
  | h :: t => ⟨before, info, done, h, t, after⟩
  | [] => ⟨before, info, done, ⟨0, 0, 0, 0, false, false⟩, [], after⟩

theorem incPath_mkCur (before : List Seg) (info : Info) (done : List Hop) (h : Hop) (l : List Hop)
    (after : List Seg) (hl : l ≠ []) :
    (⟨before, info, done, h, l, after⟩ : Cursor).incPath = some (mkCur before info (done ++ [h]) l after) := by
  cases l with
  | nil => exact absurd rfl hl
  | cons x y => rfl

/-- the router configuration of the only border router of AS `a` -/
def cfgOf (net : Net) (a : Nat) : RCfg := ⟨(net a).key, 0, (net a).ifaces⟩

theorem cfgOf_iface (net : Net) (a e : Nat) : (cfgOf net a).iface e = (net a).iface e := rfl

/-- the fuel `send` grants: two router invocations per hop field, and two to spare -/
theorem fuelFor_eq (c : Cursor) : fuelFor c = 2 * ((c.segs.map (·.hops)).flatten).length + 2 := rfl

theorem entryRouter_zero (net : Net) (hSR : SingleRouter net) (a : Nat) (c : Cursor) :
    entryRouter net a c = 0 := by
  unfold entryRouter
  split
  · rename_i f hf; exact hSR _ _ _ hf
  · rfl

/-- `Transits … seg a i hops seg' a' i' tr`: a packet that enters AS `a` on interface `i` with
    SegID `seg` and `hops` as the next hop fields of its current segment (none of them the last of
    the segment) is handed from AS to AS, each hop field being consumed by the AS it belongs to,
    and arrives at AS `a'` on interface `i'` with SegID `seg'`, having crossed `tr`. -/
inductive Transits (mac : MacFn) (net : Net) (now src dst : Nat) (cd pr : Bool) (ts : Nat) :
    Nat → Nat → Nat → List Hop → Nat → Nat → Nat → List (Nat × Nat) → Prop
  | nil (seg a i : Nat) : Transits mac net now src dst cd pr ts seg a i [] seg a i []
  | cons (seg a i : Nat) (h : Hop) (rest : List Hop) (seg' a' i' : Nat) (tr : List (Nat × Nat))
      (fi f g : Iface) :
      i ≠ 0 → i = inSide cd h → a ≠ src → a ≠ dst →
      macOk mac (net a).key ⟨cd, pr, usedSeg cd seg h, ts⟩ h = true →
      expired now ts h.exp = false → h.inAlert = false → h.egAlert = false →
      (net a).iface i = some fi →
      (net a).iface (outSide cd h) = some f → outSide cd h ≠ 0 → f.up = true → f.owner = 0 →
      ltSame fi.lt f.lt = true →
      (net f.nbr).iface f.nbrIf = some g → g.owner = 0 →
      Transits mac net now src dst cd pr ts (nextSeg cd seg h) f.nbr f.nbrIf rest seg' a' i' tr →
      Transits mac net now src dst cd pr ts seg a i (h :: rest) seg' a' i'
        ((a, outSide cd h) :: (f.nbr, f.nbrIf) :: tr)

theorem hasSingleton_false (before : List Seg) (info : Info) (done : List Hop) (cur : Hop)
    (todo : List Hop) (after : List Seg)
    (hb : ∀ s ∈ before, s.hops.length ≠ 1) (ha : ∀ s ∈ after, s.hops.length ≠ 1)
    (hc : done.length + 1 + todo.length ≠ 1) :
    (⟨before, info, done, cur, todo, after⟩ : Cursor).hasSingleton = false := by
  simp only [Cursor.hasSingleton, Cursor.segLens, Cursor.curSegLen, List.any_append, List.any_map,
    List.any_cons, List.any_nil, Bool.or_false, Bool.or_eq_false_iff, List.any_eq_false,
    Function.comp, beq_iff_eq]
  exact ⟨⟨fun s hs => hb s hs, by simpa using hc⟩, fun s hs => ha s hs⟩

/-- no segment of a single hop field; only paths without Peer flag are held to that -/
theorem noSingleton_of (before : List Seg) (info : Info) (done : List Hop) (cur : Hop)
    (todo : List Hop) (after : List Seg)
    (h : info.peer = true ∨ ((∀ s ∈ before, s.hops.length ≠ 1) ∧ (∀ s ∈ after, s.hops.length ≠ 1) ∧
      done.length + 1 + todo.length ≠ 1)) :
    (!info.peer && (⟨before, info, done, cur, todo, after⟩ : Cursor).hasSingleton) = false := by
  rcases h with h | ⟨hb, ha, hc⟩
  · rw [h]; rfl
  · rw [hasSingleton_false before info done cur todo after hb ha hc]; exact Bool.and_false _

/-- peering is off on a hop that is neither the last of the first segment nor the first of the second -/
theorem determinePeer_transit (before : List Seg) (info : Info) (done : List Hop) (cur : Hop)
    (todo : List Hop) (after : List Seg)
    (hpr : info.peer = true → before.length + 1 + after.length = 2 ∧ (before ≠ [] → done ≠ []))
    (htodo : todo ≠ []) :
    determinePeer ⟨before, info, done, cur, todo, after⟩ = some false := by
  unfold determinePeer
  cases hpe : info.peer with
  | false => rfl
  | true =>
    obtain ⟨h2, h3⟩ := hpr hpe
    have hpos : ((before.isEmpty && todo.isEmpty) || (!before.isEmpty && done.isEmpty)) = false := by
      cases before with
      | nil => cases todo with
        | nil => exact absurd rfl htodo
        | cons _ _ => rfl
      | cons b bs => cases done with
        | nil => exact absurd rfl (h3 (List.cons_ne_nil _ _))
        | cons _ _ => rfl
    simp only [Bool.not_true, Bool.false_eq_true, if_false, h2, ne_eq, not_true_eq_false, hpos]

theorem isEmpty_false {α : Type _} {l : List α} (h : l ≠ []) : l.isEmpty = false :=
  List.isEmpty_eq_false_iff.mpr h

/-- one transit AS: in over an external link, out over an external link, same segment -/
theorem transit_step (mac : MacFn) (net : Net) (now src dst : Nat) (cd pr : Bool) (ts seg a i : Nat)
    (h : Hop) (before : List Seg) (done todo : List Hop) (after : List Seg) (fi f : Iface)
    (hsing : pr = true ∨ ((∀ s ∈ before, s.hops.length ≠ 1) ∧ (∀ s ∈ after, s.hops.length ≠ 1) ∧
      done.length + 1 + todo.length ≠ 1))
    (hpr : pr = true → before.length + 1 + after.length = 2 ∧ (before ≠ [] → done ≠ []))
    (htodo : todo ≠ [])
    (hi0 : i ≠ 0) (hi : i = inSide cd h) (hsrc : a ≠ src) (hdst : a ≠ dst)
    (hmac : macOk mac (net a).key ⟨cd, pr, usedSeg cd seg h, ts⟩ h = true)
    (hexp : expired now ts h.exp = false) (hia : h.inAlert = false) (hea : h.egAlert = false)
    (hfi : (net a).iface i = some fi)
    (hf : (net a).iface (outSide cd h) = some f) (ho0 : outSide cd h ≠ 0) (hup : f.up = true)
    (hown : f.owner = 0) (hlt : ltSame fi.lt f.lt = true) :
    routerStep mac (cfgOf net a) now (.ext i) (a == src) (a == dst)
        ⟨before, ⟨cd, pr, seg, ts⟩, done, h, todo, after⟩ =
      .forward (outSide cd h)
        (mkCur before ⟨cd, pr, nextSeg cd seg h, ts⟩ (done ++ [h]) todo after) := by
  rw [beq_false_of_ne hsrc, beq_false_of_ne hdst]
  have hing := ingUpd_ext ⟨before, ⟨cd, pr, seg, ts⟩, done, h, todo, after⟩ i false hi0
  have hte : todo.isEmpty = false := isEmpty_false htodo
  refine routerStep_ext_forward mac (cfgOf net a) now i _ false fi f _
    (noSingleton_of _ _ _ _ _ _ hsing) (determinePeer_transit _ _ _ _ _ _ hpr htodo) hi0 hi
    ?_ ?_ hexp ?_ hia hea hfi hf ho0 hup hown hlt ?_
  · show (todo.isEmpty && after.isEmpty) = false; rw [hte]; rfl
  · show (todo.isEmpty && !after.isEmpty && !false) = false; rw [hte]; rfl
  · rw [hing, usedSeg_eq_lastSeg]; exact hmac
  · rw [hing, egUpd_nopeer, usedSeg_eq_lastSeg]
    show (⟨before, ⟨cd, pr, egSeg cd (usedSeg cd seg h) h, ts⟩, done, h, todo, after⟩ : Cursor).incPath = _
    rw [egSeg_usedSeg]
    exact incPath_mkCur before _ done h todo after htodo

/-- where a packet is: AS, border router, the link it came in on, the packet, the interfaces crossed so far -/
structure Pos where
  as : Nat
  router : Nat
  arr : Arrival
  c : Cursor
  tr : List (Nat × Nat)

section
variable (mac : MacFn) (net : Net) (now src dst : Nat)

/-- `n` router invocations take the packet from one position to the other.  Stated by cases on the positions so
    that an instance is an equation between two `run`s, without projections. -/
def Reach (n : Nat) : Pos → Pos → Prop
  | ⟨a, r, arr, c, tr⟩, ⟨a', r', arr', c', tr'⟩ =>
    ∀ fuel, run mac net now src dst (fuel + n) a r arr c tr = run mac net now src dst fuel a' r' arr' c' tr'

/-- `n` router invocations after the position the journey is over, with result `res` -/
def Ends (n : Nat) : Pos → Result → Prop
  | ⟨a, r, arr, c, tr⟩, res => ∀ fuel, run mac net now src dst (fuel + n) a r arr c tr = res

variable {mac net now src dst}

theorem Reach.trans {n m : Nat} {p q r : Pos} (h1 : Reach mac net now src dst n p q)
    (h2 : Reach mac net now src dst m q r) : Reach mac net now src dst (n + m) p r := fun fuel => by
  rw [← Nat.add_assoc, Nat.add_right_comm]; exact (h1 _).trans (h2 fuel)

theorem Reach.ends {n m : Nat} {p q : Pos} {res : Result} (h1 : Reach mac net now src dst n p q)
    (h2 : Ends mac net now src dst m q res) : Ends mac net now src dst (n + m) p res := fun fuel => by
  rw [← Nat.add_assoc, Nat.add_right_comm]; exact (h1 _).trans (h2 fuel)

/-- any fuel from `n` on will do -/
theorem Ends.of_le {n a r : Nat} {arr : Arrival} {c : Cursor} {tr : List (Nat × Nat)} {res : Result} {F : Nat}
    (h : Ends mac net now src dst n ⟨a, r, arr, c, tr⟩ res) (hF : n ≤ F) :
    run mac net now src dst F a r arr c tr = res := by
  rw [← Nat.sub_add_cancel hF]; exact h _

/-- a stretch of the journey followed by a router that ends it -/
theorem Reach.stops {n a r : Nat} {arr : Arrival} {c : Cursor} {tr : List (Nat × Nat)} {q : Pos} {F fuel : Nat}
    {res : Result} (h : Reach mac net now src dst n ⟨a, r, arr, c, tr⟩ q) (hF : F = fuel + 1 + n)
    (hq : run mac net now src dst (fuel + 1) q.as q.router q.arr q.c q.tr = res) :
    run mac net now src dst F a r arr c tr = res :=
  hF ▸ (h _).trans hq

section
variable {a r : Nat} {arr : Arrival} {c c' : Cursor} {tr : List (Nat × Nat)}

/-- the router forwards the packet over an inter-AS link of its own -/
theorem reach_ext {e : Nat} {f g : Iface}
    (hstep : routerStep mac ⟨(net a).key, r, (net a).ifaces⟩ now arr (a == src) (a == dst) c = .forward e c')
    (hf : (net a).iface e = some f) (hown : f.owner = r) (hg : (net f.nbr).iface f.nbrIf = some g) :
    Reach mac net now src dst 1 ⟨a, r, arr, c, tr⟩
      ⟨f.nbr, g.owner, .ext f.nbrIf, c', tr ++ [(a, e), (f.nbr, f.nbrIf)]⟩ := fun fuel => by
  simp [run, hstep, hf, hown, hg]

/-- the router hands the packet to the sibling that owns the egress interface -/
theorem reach_sib {e : Nat} {f : Iface}
    (hstep : routerStep mac ⟨(net a).key, r, (net a).ifaces⟩ now arr (a == src) (a == dst) c = .forward e c')
    (hf : (net a).iface e = some f) (hown : f.owner ≠ r) :
    Reach mac net now src dst 1 ⟨a, r, arr, c, tr⟩ ⟨a, f.owner, .sibling r, c', tr⟩ := fun fuel => by
  simp [run, hstep, hf, hown]

theorem ends_deliver
    (hstep : routerStep mac ⟨(net a).key, r, (net a).ifaces⟩ now arr (a == src) (a == dst) c = .deliver c') :
    Ends mac net now src dst 1 ⟨a, r, arr, c, tr⟩ (.delivered a tr c') := fun fuel => by
  simp [run, hstep]

/-- a router that does not let the packet continue ends the journey -/
theorem ends_stopped {o : Out}
    (hstep : routerStep mac ⟨(net a).key, r, (net a).ifaces⟩ now arr (a == src) (a == dst) c = o)
    (ho : o.accepting = false) :
    Ends mac net now src dst 1 ⟨a, r, arr, c, tr⟩ (.stopped a r arr o tr) := fun fuel => by
  cases o with
  | deliver _ => cases ho
  | forward _ _ => cases ho
  | _ => simp [run, hstep]

end
end

theorem run_mono (mac : MacFn) (net : Net) (now src dst : Nat) :
    ∀ (n F a r : Nat) (arr : Arrival) (c : Cursor) (tr : List (Nat × Nat)) (res : Result),
    run mac net now src dst n a r arr c tr = res → res ≠ .outOfFuel → n ≤ F →
    run mac net now src dst F a r arr c tr = res := by
  intro n
  induction n with
  | zero => intro F a r arr c tr res h hne; exact absurd h.symm hne
  | succ n ih =>
    intro F a r arr c tr res h hne hF
    cases F with
    | zero => omega
    | succ F =>
      revert h
      simp only [run]
      split
      · exact id
      · split
        · exact id
        · split
          · split
            · exact fun h => ih _ _ _ _ _ _ _ h hne (by omega)
            · exact id
          · exact fun h => ih _ _ _ _ _ _ _ h hne (by omega)
      · exact id

/-- a run follows `Transits` -/
theorem reach_transits {mac : MacFn} {net : Net} {now src dst : Nat} {cd pr : Bool} {ts seg a i : Nat} {hops : List Hop} {seg' a' i' : Nat}
    {tr : List (Nat × Nat)} (hT : Transits mac net now src dst cd pr ts seg a i hops seg' a' i' tr)
    (before after : List Seg)
    (hsing : pr = true ∨ ((∀ s ∈ before, s.hops.length ≠ 1) ∧ (∀ s ∈ after, s.hops.length ≠ 1)))
    (hpr : pr = true → before.length + 1 + after.length = 2) :
    ∀ (done : List Hop) (t0 : Hop) (tl : List Hop) (tr0 : List (Nat × Nat)),
      (pr = true → before ≠ [] → done ≠ []) →
      (pr = false → done.length + (hops ++ t0 :: tl).length ≠ 1) →
      Reach mac net now src dst hops.length
        ⟨a, 0, .ext i, mkCur before ⟨cd, pr, seg, ts⟩ done (hops ++ t0 :: tl) after, tr0⟩
        ⟨a', 0, .ext i', mkCur before ⟨cd, pr, seg', ts⟩ (done ++ hops) (t0 :: tl) after, tr0 ++ tr⟩ := by
  induction hT with
  | nil seg a i => intro done t0 tl tr0 _ _ fuel; simp
  | cons seg a i h rest seg' a' i' tr fi f g hi0 hi hsrc hdst hmac hexp hia hea hfi hf ho0 hup hown
      hlt hg hgo _ ih =>
    intro done t0 tl tr0 hd hlen
    have hstep := transit_step mac net now src dst cd pr ts seg a i h before done (rest ++ t0 :: tl)
      after fi f
      (by cases pr with
          | true => exact Or.inl rfl
          | false =>
            rcases hsing with hp | ⟨hb, ha⟩
            · cases hp
            · have := hlen rfl
              exact Or.inr ⟨hb, ha, by simp at this ⊢; omega⟩)
      (fun hp => ⟨hpr hp, hd hp⟩) (by simp) hi0 hi hsrc hdst hmac hexp hia hea hfi hf ho0 hup hown hlt
    have h1 := reach_ext (tr := tr0) hstep hf hown hg
    rw [hgo] at h1
    have := h1.trans (ih (done ++ [h]) t0 tl _ (fun _ _ => by simp) (fun _ => by simp; omega))
    simpa [Nat.add_comm, List.append_assoc, mkCur] using this

/-- an AS finds the current hop field expired (no peering hop): SCMP "path expired" is requested and the
    packet handed to the slow path already carries the SegID as updated at ingress -/
theorem expired_step (mac : MacFn) (net : Net) (now src dst : Nat) (cd pr : Bool) (ts seg a i : Nat)
    (h : Hop) (before : List Seg) (done todo : List Hop) (after : List Seg)
    (hsing : pr = true ∨ ((∀ s ∈ before, s.hops.length ≠ 1) ∧ (∀ s ∈ after, s.hops.length ≠ 1) ∧
      done.length + 1 + todo.length ≠ 1))
    (hp : determinePeer ⟨before, ⟨cd, pr, seg, ts⟩, done, h, todo, after⟩ = some false) (hi0 : i ≠ 0)
    (hexp : expired now ts h.exp = true) :
    routerStep mac (cfgOf net a) now (.ext i) (a == src) (a == dst)
        ⟨before, ⟨cd, pr, seg, ts⟩, done, h, todo, after⟩ =
      .slow 4 52 0 ⟨before, ⟨cd, pr, usedSeg cd seg h, ts⟩, done, h, todo, after⟩ := by
  have hing := ingUpd_ext ⟨before, ⟨cd, pr, seg, ts⟩, done, h, todo, after⟩ i false hi0
  rw [usedSeg_eq_lastSeg] at hing
  apply routerStep_ingress_err
  rw [stIngress_eq_checks mac _ now _ _ _ ⟨before, ⟨cd, pr, seg, ts⟩, done, h, todo, after⟩ false
    (noSingleton_of _ _ _ _ _ _ hsing) hp, hing]
  exact stChecks_expired _ _ _ _ _ _ _ _ hexp

/-- an AS finds that the MAC of the current hop field (no peering hop) does not verify: SCMP 4/51 on the
    packet as updated at ingress -/
theorem badmac_step (mac : MacFn) (net : Net) (now src dst : Nat) (cd pr : Bool) (ts seg a i : Nat)
    (h : Hop) (before : List Seg) (done todo : List Hop) (after : List Seg)
    (hsing : pr = true ∨ ((∀ s ∈ before, s.hops.length ≠ 1) ∧ (∀ s ∈ after, s.hops.length ≠ 1) ∧
      done.length + 1 + todo.length ≠ 1))
    (hp : determinePeer ⟨before, ⟨cd, pr, seg, ts⟩, done, h, todo, after⟩ = some false) (hi0 : i ≠ 0)
    (hi : i = inSide cd h) (hsrc : a ≠ src) (hdl : (todo.isEmpty && after.isEmpty) = (a == dst))
    (hexp : expired now ts h.exp = false)
    (hmac : macOk mac (net a).key ⟨cd, pr, usedSeg cd seg h, ts⟩ h = false) :
    routerStep mac (cfgOf net a) now (.ext i) (a == src) (a == dst)
        ⟨before, ⟨cd, pr, seg, ts⟩, done, h, todo, after⟩ =
      .slow 4 51 0 ⟨before, ⟨cd, pr, usedSeg cd seg h, ts⟩, done, h, todo, after⟩ := by
  have hing := ingUpd_ext ⟨before, ⟨cd, pr, seg, ts⟩, done, h, todo, after⟩ i false hi0
  rw [usedSeg_eq_lastSeg] at hing
  have hsl : (a == src) = false := by simp [hsrc]
  have hi0' : ((Arrival.ext i).ifid != 0) = true := by simpa [Arrival.ifid] using hi0
  apply routerStep_ingress_err
  rw [stIngress_eq_checks mac _ now _ _ _ ⟨before, ⟨cd, pr, seg, ts⟩, done, h, todo, after⟩ false
    (noSingleton_of _ _ _ _ _ _ hsing) hp, hing]
  refine (stChecks_to_mac mac _ now _ _ _
    ⟨before, ⟨cd, pr, usedSeg cd seg h, ts⟩, done, h, todo, after⟩ false hexp ?_ ?_ ?_ ?_).trans ?_
  · cases cd <;> simp [inSide] at hi <;> simp [Arrival.ifid, hi]
  · rw [hi0']; simp
  · simp [Arrival.ifid, hi0, hsl]
  · simp [Arrival.ifid, hi0, Cursor.isLastHop, hdl]
  · show (if (!macOk mac (net a).key _ h) = true then _ else _) = _
    rw [hmac]; rfl

theorem fuelFor_mkCur_ge (before : List Seg) (info : Info) (done l : List Hop) (after : List Seg) :
    l.length ≤ fuelFor (mkCur before info done l after) := by
  cases l with
  | nil => exact Nat.zero_le _
  | cons x y => simp [mkCur, fuelFor, toFlat, Cursor.segs, Cursor.curSeg]; omega

/-- a stopped packet is answered over the link it came in on: the way back starts at the
    neighbour on that link -/
theorem followReply_ext {mac : MacFn} {net : Net} {now src a r i : Nat} {rc : Cursor} {f g : Iface}
    (hf : (net a).iface i = some f) (hg : (net f.nbr).iface f.nbrIf = some g) :
    followReply mac net now src a r (.ext i) rc =
      run mac net now a src (fuelFor rc) f.nbr g.owner (.ext f.nbrIf) rc [(a, i), (f.nbr, f.nbrIf)] := by
  simp [followReply, hf, hg]

/-- the edge lists path combination joins: no edge peers, or exactly two edges which both peer -/
theorem joinable_cases (mac : MacFn) (net : Net) (edges : List Edge) (src dst : Nat)
    (hJ : Joinable mac net edges src dst) :
    (∀ e ∈ edges, e.peer = none) ∨
    ∃ e1 e2 k1 k2, edges = [e1, e2] ∧ e1.peer = some k1 ∧ e2.peer = some k2 := by
  obtain ⟨_, _, _, hjoints, hpl, _, _, _⟩ := hJ
  by_cases hex : ∃ e ∈ edges, e.peer.isSome = true
  · obtain ⟨e, he, hpe⟩ := hex
    right
    match edges, hpl e he hpe with
    | [e1, e2], _ =>
      have hj := hjoints.1
      unfold Joint at hj
      split at hj
      · rename_i h1 h2
        simp only [List.mem_cons, List.not_mem_nil, or_false] at he
        rcases he with rfl | rfl
        · simp [h1] at hpe
        · simp [h2] at hpe
      · rename_i k1 k2 h1 h2
        exact ⟨e1, e2, k1, k2, rfl, h1, h2⟩
      · exact hj.elim
  · exact Or.inl fun e he => Option.not_isSome_iff_eq_none.1 fun hs => hex ⟨e, he, hs⟩

end Scion.Net
