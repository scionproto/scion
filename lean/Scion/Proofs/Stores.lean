import Scion.Model.Stores
/-! Helper lemmas for C27/C45: set-lists, lookups in the record lists, the well-formedness
invariant of every reachable store. -/
namespace Scion.Stores

theorem pairwise_key_map {α κ : Type} (key : α → κ) (f : α → α) (hf : ∀ a, key (f a) = key a)
    {l : List α} (h : l.Pairwise (fun a b => key a ≠ key b)) :
    (l.map f).Pairwise (fun a b => key a ≠ key b) :=
  List.Pairwise.map f (fun a b hab => by rwa [hf, hf]) h

theorem mem_addOne (l : List Nat) (x y : Nat) : y ∈ addOne l x ↔ y ∈ l ∨ y = x := by
  unfold addOne
  split
  · rename_i h; exact ⟨.inl, fun h' => h'.elim id (· ▸ h)⟩
  · simp

theorem mem_addAll (xs l : List Nat) (y : Nat) : y ∈ addAll l xs ↔ y ∈ l ∨ y ∈ xs := by
  unfold addAll
  induction xs generalizing l with
  | nil => simp
  | cons x rest ih => simp only [List.foldl_cons, ih, mem_addOne, List.mem_cons, or_assoc]

theorem addOne_ne_nil (l : List Nat) (x : Nat) : addOne l x ≠ [] :=
  List.ne_nil_of_mem ((mem_addOne l x x).2 (.inr rfl))

theorem addAll_ne_nil_of_left (xs l : List Nat) (h : l ≠ []) : addAll l xs ≠ [] := by
  obtain ⟨y, hy⟩ := List.exists_mem_of_ne_nil l h
  exact List.ne_nil_of_mem ((mem_addAll xs l y).2 (.inl hy))

theorem addAll_ne_nil_of_right (xs l : List Nat) (h : xs ≠ []) : addAll l xs ≠ [] := by
  obtain ⟨y, hy⟩ := List.exists_mem_of_ne_nil xs h
  exact List.ne_nil_of_mem ((mem_addAll xs l y).2 (.inr hy))

theorem findSeg_eq_find? (s : List SegRec) (id : ID) :
    findSeg s id = s.find? (fun r => r.id = id) := by
  induction s with
  | nil => rfl
  | cons a rest ih => by_cases ha : a.id = id <;> simp [findSeg, ha, ih]

theorem findSeg_mem (s : List SegRec) (id : ID) (r : SegRec) (h : findSeg s id = some r) :
    r ∈ s ∧ r.id = id := by
  rw [findSeg_eq_find?] at h
  exact ⟨List.mem_of_find?_eq_some h, by simpa using List.find?_some h⟩

theorem findSeg_none (s : List SegRec) (id : ID) : findSeg s id = none ↔ ∀ r ∈ s, r.id ≠ id := by
  simp [findSeg_eq_find?]

theorem findSeg_append (s t : List SegRec) (id : ID) :
    findSeg (s ++ t) id = (findSeg s id).or (findSeg t id) := by
  simp [findSeg_eq_find?]

theorem findSeg_map (s : List SegRec) (f : SegRec → SegRec) (hf : ∀ r, (f r).id = r.id) (id : ID) :
    findSeg (s.map f) id = (findSeg s id).map f := by
  simp [findSeg_eq_find?, List.find?_map, Function.comp_def, hf]

def DistinctIds (s : List SegRec) : Prop := s.Pairwise (fun a b => a.id ≠ b.id)

theorem findSeg_of_mem (s : List SegRec) (r : SegRec) (hs : DistinctIds s) (h : r ∈ s) :
    findSeg s r.id = some r := by
  induction s with
  | nil => cases h
  | cons a rest ih =>
    have hrest := (List.pairwise_cons.mp hs).2
    have hhead := (List.pairwise_cons.mp hs).1
    rcases List.mem_cons.mp h with rfl | h'
    · simp [findSeg]
    · have : a.id ≠ r.id := hhead r h'
      simp [findSeg, this, ih hrest h']

/-- invariant of every reachable path store -/
def PWF (s : List SegRec) : Prop :=
  DistinctIds s ∧ ∀ r ∈ s, r.types ≠ [] ∧ r.groups ≠ []

theorem pwf_insert (s : List SegRec) (x : SegIn) (t : Nat) (g : List Nat) (k : Nat) (h : PWF s) :
    PWF (insertSeg s x t g k).1 := by
  unfold insertSeg
  split
  · rename_i hf
    refine ⟨List.pairwise_append.mpr ⟨h.1, List.pairwise_singleton _ _, ?_⟩, ?_⟩
    · intro a ha b hb
      cases List.mem_singleton.mp hb
      exact (findSeg_none s x.id).mp hf a ha
    · intro r hr
      rcases List.mem_append.mp hr with hr | hr
      · exact h.2 r hr
      · cases List.mem_singleton.mp hr
        exact ⟨by simp [newRec], addAll_ne_nil_of_right _ _ (by cases g <;> simp)⟩
  · split
    · exact h
    · refine ⟨pairwise_key_map SegRec.id _ (fun r => by split <;> rfl) h.1, ?_⟩
      intro r hr
      obtain ⟨a, ha, rfl⟩ := List.mem_map.mp hr
      split
      · exact ⟨addOne_ne_nil _ _, addAll_ne_nil_of_left _ _ (h.2 a ha).2⟩
      · exact h.2 a ha

theorem pwf_filter (s : List SegRec) (q : SegRec → Bool) (h : PWF s) : PWF (s.filter q) :=
  ⟨List.Pairwise.filter q h.1, fun r hr => h.2 r (List.mem_filter.mp hr).1⟩

theorem findNQ_filter_ne (nq : List (NQKey × Nat)) (k k' : NQKey) (h : k' ≠ k) :
    findNQ (nq.filter (fun p => !decide (p.1 = k))) k' = findNQ nq k' := by
  induction nq with
  | nil => rfl
  | cons p rest ih =>
    obtain ⟨a, t⟩ := p
    by_cases hak : a = k
    · simp [List.filter, findNQ, hak, h.symm, ih]
    · by_cases hak' : a = k' <;> simp [List.filter, findNQ, hak, hak', h, ih]

theorem findB_eq_find? (s : BeaconStore) (id : ID) : findB s id = s.find? (fun r => r.id = id) := by
  induction s with
  | nil => rfl
  | cons a rest ih => by_cases ha : a.id = id <;> simp [findB, ha, ih]

theorem findB_mem (s : BeaconStore) (id : ID) (r : BRec) (h : findB s id = some r) :
    r ∈ s ∧ r.id = id := by
  rw [findB_eq_find?] at h
  exact ⟨List.mem_of_find?_eq_some h, by simpa using List.find?_some h⟩

theorem findB_none (s : BeaconStore) (id : ID) : findB s id = none ↔ ∀ r ∈ s, r.id ≠ id := by
  simp [findB_eq_find?]

theorem findB_append (s t : BeaconStore) (id : ID) :
    findB (s ++ t) id = (findB s id).or (findB t id) := by
  simp [findB_eq_find?]

theorem findB_map (s : BeaconStore) (f : BRec → BRec) (hf : ∀ r, (f r).id = r.id) (id : ID) :
    findB (s.map f) id = (findB s id).map f := by
  simp [findB_eq_find?, List.find?_map, Function.comp_def, hf]

def BDistinct (s : BeaconStore) : Prop := s.Pairwise (fun a b => a.id ≠ b.id)

theorem bdistinct_insert (s : BeaconStore) (b : BIn) (i u k : Nat) (h : BDistinct s) :
    BDistinct (insertBeacon s b i u k).1 := by
  unfold insertBeacon
  split
  · rename_i hf
    refine List.pairwise_append.mpr ⟨h, List.pairwise_singleton _ _, ?_⟩
    intro a ha c hc
    cases List.mem_singleton.mp hc
    exact (findB_none s b.id).mp hf a ha
  · split
    · exact pairwise_key_map BRec.id _ (fun r => by split <;> simp [mkB, *]) h
    · exact h

theorem hopsLe_trans (a b c : BRec) : hopsLe a b = true → hopsLe b c = true → hopsLe a c = true := by
  simp only [hopsLe, decide_eq_true_eq]; omega

theorem hopsLe_total (a b : BRec) : (hopsLe a b || hopsLe b a) = true := by
  simp only [hopsLe, Bool.or_eq_true, decide_eq_true_eq]; omega

end Scion.Stores
