import Scion.Proofs.ScmpBytes
import Scion.Gen.Scmp
/-!
# C09 — SCMP errors are well-formed, addressed to the source, and bounded in size

Statement (properties.jsonl): every SCMP error message a router generates is addressed to the
offending packet's source ISD-AS and host, originates from the local ISD-AS and router address, has
a valid checksum, a type, code and pointer matching the detected problem, and quotes a prefix of the
offending packet while the whole message stays within 1232 bytes.  No SCMP error is ever generated
in response to an SCMP error message, and authenticated errors carry a valid authenticator.

Theorems are about `Scion.Scmp.processPacket`, the model of `slowPathPacketProcessor.processPacket`
(`packSCMP`, `prepareSCMP`, `handleSCMPTraceRouteRequest`), for **every** offending packet, request,
configuration, link scope and headroom.  Constants and the `ScmpHeaderSize` table are those of
`Scion.Gen.Scmp`, regenerated from /repo on every run.

Checksum and authenticator compose the models of C20 (`Scion.Checksum`) and C21 (`Scion.Spao`) with
the byte level of the emitted SCMP message (`Scion/Model/ScmpBytes.lean`):
`scmp_reply_checksum_verifies`, `auth_tag_valid`.  The MAC itself (AES-CMAC) is a parameter.
-/
namespace Scion.C09
open Scion.Scmp Scion.PathMeta Scion.Util

/-! ## the model's constants and tables are the code's (T3) -/

theorem gen_consts :
    cmnHdrLen = Scion.Gen.Scmp.CmnHdrLen ∧ maxHdrLen = Scion.Gen.Scmp.MaxHdrLen ∧
    maxSCMPPacketLen = Scion.Gen.Scmp.MaxSCMPPacketLen ∧ e2eAuthHdrLen = Scion.Gen.Scmp.e2eAuthHdrLen ∧
    hopLen = Scion.Gen.Scmp.HopLen ∧ infoLen = Scion.Gen.Scmp.InfoLen ∧ metaLen = Scion.Gen.Scmp.MetaLen ∧
    lineLen = Scion.Gen.Scmp.LineLen ∧ iaBytes = Scion.Gen.Scmp.IABytes ∧ bufSize = Scion.Gen.Scmp.bufSize ∧
    l4SCMP = Scion.Gen.Scmp.L4SCMP ∧ l4E2E = Scion.Gen.Scmp.End2EndClass ∧
    Scion.PathMeta.maxHops = Scion.Gen.Scmp.MaxHops :=
  ⟨rfl, rfl, rfl, rfl, rfl, rfl, rfl, rfl, rfl, rfl, rfl, rfl, rfl⟩

/-- `scmpHeaderSize` is the switch of `slayers.ScmpHeaderSize` as it stands in the source -/
theorem header_size_table (t : Nat) :
    scmpHeaderSize t =
      ((Scion.Gen.Scmp.scmpHeaderSizeCases.lookup t).getD Scion.Gen.Scmp.scmpHeaderSizeDefault) := by
  -- both sides test `t == 5`, `t == 6`, `t == 130`, `t == 131` in this order
  simp only [scmpHeaderSize, Scion.Gen.Scmp.scmpHeaderSizeCases, Scion.Gen.Scmp.scmpHeaderSizeDefault,
    List.lookup_cons, List.lookup_nil, ← beq_iff_eq (a := t)]
  cases t == 5 <;> cases t == 6 <;> cases t == 130 <;> cases t == 131 <;> rfl

/-- no SCMP header is larger than `MaxSCMPHeaderSize`, the constant `minHeadroom` is asserted against -/
theorem header_size_le_max (t : Nat) : scmpHeaderSize t ≤ Scion.Gen.Scmp.MaxSCMPHeaderSize :=
  (scmpHeaderSize_le t).1

/-- the expressions of `prepareSCMP` that the model transcribes are still the ones in the source -/
theorem prepare_expressions :
    Scion.Gen.Scmp.prepare_hdrLen =
      "|:= slayers.CmnHdrLen + scionL.AddrHdrLen() + scionL.Path.Len() + slayers.ScmpHeaderSize(scmpH.TypeCode.Type())|+= e2eAuthHdrLen" ∧
    Scion.Gen.Scmp.prepare_maxQuoteLen = "|:= slayers.MaxSCMPPacketLen - hdrLen" ∧
    Scion.Gen.Scmp.prepare_quoteLen = "|:= len(p.pkt.RawPacket)|= maxQuoteLen" ∧
    Scion.Gen.Scmp.prepare_headroom = "|:= len(p.pkt.buffer) - cap(p.pkt.RawPacket)" ∧
    Scion.Gen.Scmp.prepare_conds = ["quoteLen > maxQuoteLen", "hdrLen+p.d.underlayHeadroom > headroom"] :=
  ⟨rfl, rfl, rfl, rfl, rfl⟩

/-! ## size -/

/-- For every legal path (≤ 3 segments, ≤ 64 hops), every pair of address types, every SCMP type,
with or without authenticator, the headers leave room: `0 < 1232 − hdrLen`, so the quote slice
`RawPacket[:quoteLen]` never has a negative length. -/
theorem hdrLen_lt_max (dstT srcT ni nh t : Nat) (a : Bool) (hi : ni ≤ 3) (hh : nh ≤ 64) :
    hdrLen dstT srcT ni nh t a < maxSCMPPacketLen ∧ 0 < maxSCMPPacketLen - hdrLen dstT srcT ni nh t a := by
  have := hdrLen_le dstT srcT ni nh t a hi hh
  unfold maxSCMPPacketLen; omega

/-- the bound 916 is attained (IPv6 both ways, 3 segments, 64 hops, InternalConnectivityDown,
authenticated) -/
example : hdrLen 3 3 3 64 6 true = 916 := by decide

/-- **Every message the slow path emits is at most 1232 bytes long** (errors with their quote, and
traceroute replies). -/
theorem scmp_size_le_1232 (cfg : Cfg) (scope : Scope) (headroom : Nat) (o : Offender) (rq : Request)
    (r : Reply) (h : processPacket cfg scope headroom o rq = .emit r) :
    r.total ≤ maxSCMPPacketLen := by
  obtain ⟨t, code, e, i, rp, sz, he, rfl⟩ := emit_inv cfg scope headroom o rq r h
  obtain ⟨hl, _, _, _, h4, _⟩ := he.sizes
  exact h4

/-- **The quote is a prefix of the offending packet, and it is as long as the bound allows**: the
message is `min(1232, headers + whole packet)` bytes long. -/
theorem quote_is_prefix (cfg : Cfg) (scope : Scope) (headroom : Nat) (o : Offender) (rq : Request)
    (r : Reply) (h : processPacket cfg scope headroom o rq = .emit r) (he : r.isError = true) :
    r.quote <+: o.raw ∧
    r.total = (r.total - r.quote.length) + r.quote.length ∧
    r.total = min maxSCMPPacketLen ((r.total - r.quote.length) + o.raw.length) := by
  obtain ⟨t, code, e, i, rp, sz, hem, rfl⟩ := emit_inv cfg scope headroom o rq r h
  obtain ⟨hl, _, h2, h3, _, h5, _⟩ := hem.sizes
  obtain rfl : e = true := he
  rw [if_pos rfl] at h5
  have hlen : sz.quote.length = quoteLen o.raw.length hl := by
    rw [h5, List.length_take]; exact Nat.min_eq_left (Nat.min_le_left _ _)
  refine ⟨?_, ?_, ?_⟩ <;> dsimp only [reply]
  · rw [h5]; exact List.take_prefix _ _
  · omega
  · unfold quoteLen at hlen; omega

/-! ## addressing -/

/-- **Destination = the offending packet's source ISD-AS and host, source = the local ISD-AS and the
router's own address** — for everything the slow path emits. -/
theorem scmp_addressing (cfg : Cfg) (scope : Scope) (headroom : Nat) (o : Offender) (rq : Request)
    (r : Reply) (h : processPacket cfg scope headroom o rq = .emit r) :
    r.dstIA = o.srcIA ∧ r.dstType = o.srcType ∧ r.rawDst = o.rawSrc ∧
    r.srcIA = cfg.localIA ∧ r.srcType = cfg.hostType ∧ r.rawSrc = cfg.rawHost := by
  obtain ⟨t, code, e, i, rp, sz, _, rfl⟩ := emit_inv cfg scope headroom o rq r h
  exact ⟨rfl, rfl, rfl, rfl, rfl, rfl⟩

/-! ## no error in response to an error -/

/-- **Whatever the fast path requests, a packet whose upper layer is an SCMP error message
(type < 128) never makes the slow path emit anything.** -/
theorem no_error_on_error (cfg : Cfg) (scope : Scope) (headroom : Nat) (o : Offender) (rq : Request)
    (t c p : Nat) (hl4 : o.l4 = .scmp t c p) (ht : t < 128) :
    ∀ r, processPacket cfg scope headroom o rq ≠ .emit r := by
  intro r h
  obtain ⟨_, _, _, _, _, _, hem, _⟩ := emit_inv cfg scope headroom o rq r h
  rcases hem.kind.1 with ho | ⟨t', _, _, hs, _⟩
  · rw [hl4] at ho; cases ho
  · rw [hl4] at hs; cases hs; omega

/-- an SCMP layer too short to tell its type is not answered either -/
theorem no_error_on_truncated_scmp (cfg : Cfg) (scope : Scope) (headroom : Nat) (o : Offender)
    (rq : Request) (hl4 : o.l4 = .scmpShort) : ∀ r, processPacket cfg scope headroom o rq ≠ .emit r := by
  intro r h
  obtain ⟨_, _, _, _, _, _, hem, _⟩ := emit_inv cfg scope headroom o rq r h
  rcases hem.kind.1 with ho | ⟨_, _, _, hs, _⟩
  · rw [hl4] at ho; cases ho
  · rw [hl4] at hs; cases hs

/-! ## type, code, pointer -/

/-- The table "detected problem ↦ (type, code)" is the one of `doc/protocols/scmp.rst`, spelled with
the code's own constants (regenerated): every problem is reported with an *error* type the slow path
accepts. -/
theorem type_code_spec (cd : Bool) :
    (causeTable .pathExpired cd).1 = Scion.Gen.Scmp.SCMPTypeParameterProblem ∧
    (causeTable .pathExpired cd).2.1 = Scion.Gen.Scmp.SCMPCodePathExpired ∧
    (causeTable .badMac cd).2.1 = Scion.Gen.Scmp.SCMPCodeInvalidHopFieldMAC ∧
    (causeTable .ingressMismatch true).2.1 = Scion.Gen.Scmp.SCMPCodeUnknownHopFieldIngress ∧
    (causeTable .ingressMismatch false).2.1 = Scion.Gen.Scmp.SCMPCodeUnknownHopFieldEgress ∧
    (causeTable .unknownEgress true).2.1 = Scion.Gen.Scmp.SCMPCodeUnknownHopFieldEgress ∧
    (causeTable .unknownEgress false).2.1 = Scion.Gen.Scmp.SCMPCodeUnknownHopFieldIngress ∧
    (causeTable .badPktLen cd).2.1 = Scion.Gen.Scmp.SCMPCodeInvalidPacketSize ∧
    (causeTable .invalidSrcIA cd).2.1 = Scion.Gen.Scmp.SCMPCodeInvalidSourceAddress ∧
    (causeTable .invalidSrcHost cd).2.1 = Scion.Gen.Scmp.SCMPCodeInvalidSourceAddress ∧
    (causeTable .invalidDstIA cd).2.1 = Scion.Gen.Scmp.SCMPCodeInvalidDestinationAddress ∧
    (causeTable .invalidDstHost cd).2.1 = Scion.Gen.Scmp.SCMPCodeInvalidDestinationAddress ∧
    (causeTable .invalidPath cd).2.1 = Scion.Gen.Scmp.SCMPCodeInvalidPath ∧
    (causeTable .invalidSegChange cd).2.1 = Scion.Gen.Scmp.SCMPCodeInvalidSegmentChange ∧
    (causeTable .noSvcBackend cd).1 = Scion.Gen.Scmp.SCMPTypeDestinationUnreachable ∧
    (causeTable .noSvcBackend cd).2.1 = Scion.Gen.Scmp.SCMPCodeNoRoute ∧
    (causeTable .extIfDown cd).1 = Scion.Gen.Scmp.SCMPTypeExternalInterfaceDown ∧
    (causeTable .intConnDown cd).1 = Scion.Gen.Scmp.SCMPTypeInternalConnectivityDown := by
  cases cd <;> decide

theorem cause_is_error (c : Cause) (cd : Bool) :
    (causeTable c cd).1 < 128 ∧
    ((causeTable c cd).1 = 1 ∨ (causeTable c cd).1 = 4 ∨ (causeTable c cd).1 = 5 ∨ (causeTable c cd).1 = 6) := by
  cases c <;> cases cd <;> decide

/-- Where the pointer is fixed it designates the field in question: the hop pointer is the byte
offset **in the offending packet** of the current hop field — behind the common header, the address
header, for EPIC packets the 16 bytes of EPIC metadata, the meta line and the info fields — and the
field lies inside the SCION header; likewise the info pointer; the two address pointers are the
offsets of the destination and source ISD-AS. -/
theorem pointer_spec (ah ni nh ci ch : Nat) (epic : Bool) (hh : ch < nh) (hi : ci < ni) :
    pointerOf .hop ah ni ci ch epic =
      cmnHdrLen + ah + (if epic then 16 else 0) + (metaLen + infoLen * ni + hopLen * ch) ∧
    pointerOf .hop ah ni ci ch epic + hopLen ≤ cmnHdrLen + ah + (if epic then 16 else 0) + pathLen ni nh ∧
    pointerOf .info ah ni ci ch epic = cmnHdrLen + ah + (if epic then 16 else 0) + (metaLen + infoLen * ci) ∧
    pointerOf .info ah ni ci ch epic + infoLen ≤ cmnHdrLen + ah + (if epic then 16 else 0) + metaLen + infoLen * ni ∧
    pointerOf .cmnHdr ah ni ci ch epic = Scion.Gen.Scmp.CmnHdrLen ∧
    pointerOf .srcIA ah ni ci ch epic = Scion.Gen.Scmp.CmnHdrLen + Scion.Gen.Scmp.IABytes ∧
    pointerOf .zero ah ni ci ch epic = 0 ∧ epicMetadataLen = Scion.Gen.Scmp.EpicMetadataLen := by
  cases epic <;>
    simp [pointerOf, hopPointer, infoPointer, pathOffset, epicMetadataLen, pathLen, cmnHdrLen, metaLen,
      infoLen, hopLen, iaBytes, Scion.Gen.Scmp.CmnHdrLen, Scion.Gen.Scmp.IABytes, Scion.Gen.Scmp.EpicMetadataLen] <;>
    omega

/-- the emitted type and code are the requested ones -/
theorem emitted_type_code (cfg : Cfg) (scope : Scope) (headroom : Nat) (o : Offender) (rq : Request)
    (r : Reply) (h : processPacket cfg scope headroom o rq = .emit r) (he : r.isError = true) :
    (r.scmpType : Int) = rq.spType ∧ r.scmpCode = rq.code ∧ r.scmpType < 128 := by
  obtain ⟨t, code, e, i, rp, sz, hem, rfl⟩ := emit_inv cfg scope headroom o rq r h
  rcases hem.kind.2 with ⟨_, ht, hsp, hcode⟩ | ⟨hf, _⟩
  · exact ⟨hsp.symm, hcode, by dsimp only [reply]; omega⟩
  · exact absurd (hf ▸ he) Bool.false_ne_true

/-! ## authenticator -/

/-- With SCMP authentication enabled every error carries the authenticator extension (NextHdr = E2E),
without it none does; the destination address was parsable (needed to derive the key). -/
theorem auth_iff (cfg : Cfg) (scope : Scope) (headroom : Nat) (o : Offender) (rq : Request)
    (r : Reply) (h : processPacket cfg scope headroom o rq = .emit r) (he : r.isError = true) :
    r.auth = cfg.auth ∧ r.nextHdr = (bif cfg.auth then l4E2E else l4SCMP) ∧
    (cfg.auth = true → addrParsable r.dstType = true) := by
  obtain ⟨t, code, e, i, rp, sz, hem, rfl⟩ := emit_inv cfg scope headroom o rq r h
  obtain rfl : e = true := he
  have hna : needsAuth cfg o t true = cfg.auth := by unfold needsAuth; simp
  have hp := hem.parsable
  dsimp only [reply]
  rw [hna] at hp ⊢
  exact ⟨rfl, rfl, hp⟩

/-! ## checksum (composition with C20) -/

/-- **The checksum of every emitted message verifies.**  The SCMP message the model serialises
(type, code, checksum field, info block, quote) gets the checksum `SCMP.SerializeTo` computes over
the pseudo header of the reply (destination = offender's source, source = router; upper-layer
length; protocol 202); the receiver's one's-complement sum over pseudo header and message then
folds to `0xFFFF` and recomputing the checksum yields 0 (C20 `checksum_verifies` at offset 2). -/
theorem scmp_reply_checksum_verifies (cfg : Cfg) (scope : Scope) (headroom : Nat) (o : Offender)
    (rq : Request) (b : Base) (hw : WellFormed o b) (hc : Consistent b)
    (hsrc : o.rawSrc.length = addrTypeLen o.srcType) (hhost : cfg.rawHost.length = addrTypeLen cfg.hostType)
    (r : Reply) (h : processPacket cfg scope headroom o rq = .emit r) :
    ∃ c, scmpChecksum r = .ok c ∧
      (scmpMsgWith r c).length = (scmpMsg0 r).length ∧
      Scion.Checksum.fold (Scion.Checksum.totalRaw (phdr r) (scmpMsgWith r c).length l4SCMP (scmpMsgWith r c)) = 0xffff ∧
      Scion.Checksum.computeChecksum (phdr r) (scmpMsgWith r c) l4SCMP = .ok 0 := by
  obtain ⟨t, code, e, i, rp, sz, hem, rfl⟩ := emit_inv cfg scope headroom o rq r h
  obtain ⟨hl, _, _, h3, h4, _⟩ := hem.sizes
  refine checksum_verifies _ ?_ (by dsimp only [reply]; omega)
  have h1 := addrTypeLen_le o.srcType
  have h2 := addrTypeLen_le cfg.hostType
  unfold Scion.C20.WFHdr Scion.C20.AddrLen phdr
  dsimp only [reply]
  rw [hsrc, hhost]
  unfold addrTypeLen lineLen
  constructor <;> omega

/-! ## authenticator (composition with C21) -/

/-- field widths of the offending packet's header and of the configuration, as the decoder and the
router's configuration guarantee them -/
def Widths (cfg : Cfg) (o : Offender) : Prop :=
  o.tc < 256 ∧ o.flowID < 2^20 ∧ o.srcType < 16 ∧ cfg.hostType < 16 ∧ o.srcIA < 2^64 ∧
  cfg.localIA < 2^64 ∧ o.rawSrc.length = addrTypeLen o.srcType ∧
  cfg.rawHost.length = addrTypeLen cfg.hostType

/-- **The authenticator tag is the MAC of the reply's authenticated data.**  For every MAC
function `mac`, key, option timestamp and SCMP message: the input `spao.ComputeAuthCMAC` builds from
the reply header of the model is defined (never an error: header ≤ 1020 bytes, aligned, path
well-formed) and is exactly C21's `fixedPart ‖ addrPart ‖ zeroed path ‖ message`, where the address
part is the destination-less, source-only selection of a DRKey AS-host sender-side SPI; the model's
tag is `mac key` of it. -/
theorem auth_tag_valid (mac : Bytes → Bytes → Bytes) (key : Bytes)
    (cfg : Cfg) (scope : Scope) (headroom : Nat) (o : Offender) (rq : Request)
    (b : Base) (hw : WellFormed o b) (hc : Consistent b) (hwd : Widths cfg o)
    (r : Reply) (h : processPacket cfg scope headroom o rq = .emit r)
    (ts : Nat) (hts : ts < 2^48) (msg : Bytes) (hmsg : msg.length < 65536) :
    ∃ z, Scion.Spao.zeroPath (replyHdr r).path = some z ∧
      Scion.Spao.macInput (replyAuthIn r ts msg) =
        .ok (Scion.Spao.fixedPart (replyAuthIn r ts msg) ++ r.rawSrc ++ z ++ msg) ∧
      authTag mac key r ts msg =
        some (mac key (Scion.Spao.fixedPart (replyAuthIn r ts msg) ++ r.rawSrc ++ z ++ msg)) ∧
      r.rawSrc = cfg.rawHost ∧ r.dstIA = o.srcIA := by
  obtain ⟨t, code, e, i, rp, sz, hem, rfl⟩ := emit_inv cfg scope headroom o rq r h
  obtain ⟨w1, w2, w3, w4, w5, w6, w7, w8⟩ := hwd
  have hwf : ReplyWF (reply cfg o rq rp t code e (needsAuth cfg o t e) i sz) :=
    ⟨w1, w2, w3, w4, w5, w6, w7, w8, rfl, hem.pathOk b hw hc, hem.hdr_le⟩
  obtain ⟨z, hz, hmi, htag⟩ := authTag_valid mac key _ ts msg (replyAuthIn_wf _ hwf ts hts msg hmsg)
  exact ⟨z, hz, hmi, htag, rfl, rfl⟩

/-! ## non-vacuity: a concrete bad-MAC report on an external link -/

def exOffender : Offender :=
  { raw := List.replicate 2000 7, pathType := 1, flowID := 5, tc := 0, srcIA := 2, srcType := 0,
    rawSrc := [10, 0, 0, 7], pmWord := 1 * 2^24 + 2 * 2^12 + 2 * 2^6,
    infos := [⟨true, false, 273, 1000⟩, ⟨false, false, 546, 1000⟩],
    hops := [List.replicate 12 1, List.replicate 12 2, List.replicate 12 3, List.replicate 12 4],
    l4 := .other, trID := 0, trSeq := 0, reqAuthValid := false }

def exCfg : Cfg := ⟨1, 0, [198, 51, 100, 1], true, 0⟩

/-- the example meets the hypotheses of `scmp_reply_checksum_verifies` / `auth_tag_valid` -/
example : WellFormed exOffender ⟨⟨0, 1, 2, 2, 0⟩, 2, 4⟩ ∧ Consistent ⟨⟨0, 1, 2, 2, 0⟩, 2, 4⟩ ∧
    Widths exCfg exOffender := by
  refine ⟨⟨by decide, rfl, rfl, by decide⟩,
    by simp [Consistent, Scion.C19.Shape, Scion.C19.nonEmptySegs, sumHops, infIdx], by unfold Widths; decide⟩

def summ : Outcome → List Nat
  | .emit r => [r.total, r.quote.length, r.hdrLenField, r.dstIA, r.srcIA, r.auth.toNat, r.pm.currHF,
      r.front.toNat]
  | .drop _ => [0]
  | .panic _ => [1]

/- 2000-byte offender, 4-hop path, authenticated: 144 bytes of headers + 1088 quoted = 1232 bytes,
sent to IA 2 from IA 1, reply path at hop 3, serialised in front of the quoted packet -/
set_option maxRecDepth 20000 in
example : summ (processPacket exCfg .ext 512 exOffender ⟨4, 51, 80, 1, 0⟩) =
    [1232, 1088, 26, 2, 1, 1, 3, 1] := by decide +kernel

/- the same packet carrying an SCMP error is not answered -/
set_option maxRecDepth 20000 in
example : summ (processPacket exCfg .ext 512 { exOffender with l4 := .scmp 4 51 100 } ⟨4, 51, 80, 1, 0⟩) =
    [0] := by decide +kernel

end Scion.C09
