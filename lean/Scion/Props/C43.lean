import Scion.Proofs.PktclsLex
/-!
# C43 — Traffic-class expressions evaluate as written and survive printing

Property theorems only; helper lemmas are in `Scion.Proofs.Pktcls` and
`Scion.Proofs.PktclsLex`.  The models
(`Scion.Model.Pktcls`: trees, predicates, `eval`; `Scion.Model.PktclsSyntax`: tokens, `print`,
`parse`, lexer) are tied to `gateway/pktcls` (`Cond.Eval`, `String()`, `BuildClassTree` with the
ANTLR lexer/parser) by `harness/cmd/pktcls`.
-/
namespace Scion.C43
open Scion.Pktcls

/-! ## Evaluation is the boolean value of the expression -/

/-- `all(c₁,…,cₙ)` is the conjunction -/
theorem eval_all (cs : List Cond) (p : Pkt) :
    eval (.all cs) p = cs.all (fun c => eval c p) := by
  rw [eval]; exact Proofs.Pktcls.evalAll_eq cs p

/-- `any(c₁,…,cₙ)`, n ≥ 1, is the disjunction -/
theorem eval_any (cs : List Cond) (p : Pkt) (h : cs ≠ []) :
    eval (.any cs) p = cs.any (fun c => eval c p) := by
  cases cs with
  | nil => exact absurd rfl h
  | cons c cs => rw [eval]; simp [Proofs.Pktcls.evalAny_eq]

/-- the code's convention for the empty disjunction (`len(c) == 0 ⇒ true`); the grammar cannot
produce it, see `parsed_wf` -/
theorem eval_any_empty (p : Pkt) : eval (.any []) p = true := by
  rw [eval]

theorem eval_not (c : Cond) (p : Pkt) : eval (.not c) p = !eval c p := by
  rw [eval]

theorem eval_bool (b : Bool) (p : Pkt) : eval (.bool b) p = b := by
  rw [eval]

/-! ### predicates -/

/-- address predicates: the address agrees with the network on its first `len` bits -/
theorem eval_src (n : Net) (q : V4) :
    eval (.src n) (.v4 q) = true ↔ q.src / 2 ^ (32 - n.len) = n.bits / 2 ^ (32 - n.len) := by
  rw [eval]; simp [evalV4, Net.contains]

theorem eval_dst (n : Net) (q : V4) :
    eval (.dst n) (.v4 q) = true ↔ q.dst / 2 ^ (32 - n.len) = n.bits / 2 ^ (32 - n.len) := by
  rw [eval]; simp [evalV4, Net.contains]

/-- DSCP is the upper six bits of TOS -/
theorem eval_dscp (v : Nat) (q : V4) : eval (.dscp v) (.v4 q) = true ↔ v = q.tos / 4 := by
  rw [eval]; simp [evalV4]

theorem eval_tos (v : Nat) (q : V4) : eval (.tos v) (.v4 q) = true ↔ v = q.tos := by
  rw [eval]; simp [evalV4]

theorem eval_proto (v : Nat) (q : V4) : eval (.proto v) (.v4 q) = true ↔ v = q.proto := by
  rw [eval]; simp [evalV4]

/-- port ranges are inclusive and only apply when ports are visible -/
theorem eval_sport (lo hi : Nat) (q : V4) :
    eval (.sport lo hi) (.v4 q) = true ↔ ∃ s d, ports q = some (s, d) ∧ lo ≤ s ∧ s ≤ hi := by
  rw [eval]
  simp only [evalPorts]
  cases h : ports q with
  | none => simp
  | some sd => obtain ⟨s, d⟩ := sd; simp

theorem eval_dport (lo hi : Nat) (q : V4) :
    eval (.dport lo hi) (.v4 q) = true ↔ ∃ s d, ports q = some (s, d) ∧ lo ≤ d ∧ d ≤ hi := by
  rw [eval]
  simp only [evalPorts]
  cases h : ports q with
  | none => simp
  | some sd =>
    obtain ⟨s, d⟩ := sd
    simp only [ge_iff_le, Bool.and_eq_true, decide_eq_true_eq, Option.some.injEq, Prod.mk.injEq]
    constructor
    · intro hh; exact ⟨s, d, ⟨rfl, rfl⟩, hh⟩
    · rintro ⟨s', d', ⟨rfl, rfl⟩, hh⟩; exact hh

/-- ports are visible only on unfragmented UDP or TCP packets -/
theorem ports_some (q : V4) (sd : Nat × Nat) (h : ports q = some sd) :
    q.frag = false ∧ (q.proto = 17 ∨ q.proto = 6) := by
  simp only [ports, Option.ite_none_left_eq_some] at h
  refine ⟨Bool.eq_false_iff.2 h.1, ?_⟩
  by_cases h17 : q.proto = 17
  · exact Or.inl h17
  · by_cases h6 : q.proto = 6
    · exact Or.inr h6
    · simp [h17, h6] at h

/-- on a well-formed UDP header the ports are the first two 16-bit words -/
theorem udpPorts_spec (s0 s1 d0 d1 l0 l1 c0 c1 : UInt8) (rest : Scion.Util.Bytes)
    (h : be16 l0 l1 ≥ 8 ∨ be16 l0 l1 = 0) :
    udpPorts (s0 :: s1 :: d0 :: d1 :: l0 :: l1 :: c0 :: c1 :: rest) = some (be16 s0 s1, be16 d0 d1) := by
  simp [udpPorts, h]

/-- IPv4 and port predicates are false on anything that is not an IPv4 layer; `cls=` is always
false -/
theorem eval_other (c : Cond) (h : ∃ n, c = .src n ∨ c = .dst n) : eval c .other = false := by
  obtain ⟨n, rfl | rfl⟩ := h <;> (rw [eval]; rfl)

theorem eval_cls (n : Nat) (p : Pkt) : eval (.cls n) p = false := by
  rw [eval]

/-! ## Printing and parsing -/

/-- everything the parser returns is well-formed: non-empty `all`/`any`, masked networks, 8-bit
DSCP/TOS, 16-bit ports, protocols whose name parses back -/
theorem parsed_wf (ts : List Tok) (e : Cond) (h : parse ts = some e) : e.wf = true := by
  unfold parse at h
  split at h
  · rename_i c hh
    cases h
    exact (Proofs.Pktcls.parse_sound_aux _).1 _ _ _ hh
  · cases h

theorem parse_print (e : Cond) (h : e.wf = true) : parse (print e) = some e :=
  Proofs.Pktcls.parse_print e h

/-- the lexer inverts the rendering of a printed well-formed tree: the text `String()` produces
lexes back to exactly the printed tokens (maximal munch never merges or splits them) -/
theorem lex_render_print (e : Cond) (h : e.wf = true) : lex (render (print e)) = print e :=
  Proofs.PktclsLex.lex_render_print e h

/-- **Round-trip clause of C43, full statement**: on the text level, with the lexer. -/
def TextRoundTrip : Prop :=
  ∀ (s : List Char) (e : Cond), parse (lex s) = some e →
    ∃ e', parse (lex (render (print e))) = some e' ∧ ∀ p, eval e' p = eval e p

/-- **Round-trip clause of C43**: an expression parsed from any text, printed and parsed again
(lexer included) is the same expression, hence has the same value on every packet.  `lex`/`parse`
are the Lean lexer and parser; the ANTLR-generated ones are tied to them by T1 on every generated
input (`harness/cmd/pktcls`: real `BuildClassTree` vs `parse ∘ lex`, real `String()` vs
`render ∘ print`). -/
theorem text_round_trip : TextRoundTrip := by
  intro s e h
  have hw := parsed_wf (lex s) e h
  exact ⟨e, by rw [lex_render_print e hw]; exact parse_print e hw, fun _ => rfl⟩

/-- the same on the token level -/
theorem reparse_same_value (ts : List Tok) (e : Cond) (h : parse ts = some e) :
    ∃ e', parse (print e) = some e' ∧ ∀ p, eval e' p = eval e p :=
  ⟨e, parse_print e (parsed_wf ts e h), fun _ => rfl⟩

/-- the protocol names that can be parsed are exactly the letter-only names of the table, and
each of them parses back to its own number -/
theorem proto_names_roundtrip :
    ∀ e ∈ protoTable, lettersOnly e.2 = true → protoNum (protoName e.1) = some e.1 := by
  intro e he hl
  have := Proofs.Pktcls.proto_table_wf e he hl
  simpa [wfProto] using this

/-- 8-bit values survive `%#x` and `ParseUint(·, 16, 8)` whichever token class the digits lex to -/
theorem hex_roundtrip (v : Nat) (h : v < 256) : hexTokValue (hexTok v) = some v :=
  Proofs.Pktcls.hexTok_value v h

/-! ## Non-vacuity -/

private def ex : Cond :=
  .any [.all [.dst ⟨0x0a000000, 8⟩, .dscp 0x2e, .not (.sport 80 443)], .proto 6, .bool false]

private def udp : Pkt :=
  .v4 { src := 0xc0a80001, dst := 0x0a010203, tos := 0xb8, proto := 17, frag := false,
        payload := [0, 53, 0, 53, 0, 8, 0, 0] }

example : ex.wf = true := by decide
example : eval ex udp = true := by decide
example : eval ex (.v4 { src := 1, dst := 2, tos := 0, proto := 17, frag := false, payload := [] })
    = false := by decide
example : parse (print ex) = some ex := parse_print ex (by decide)
example : parse (lex (render (print ex))) = some ex := by
  rw [lex_render_print ex (by decide)]; exact parse_print ex (by decide)
example : parse [.kAny, .lpar, .kDscp, .eq0x, .digits 10, .comma, .kSrcport, .eq, .digits 80, .rpar]
    = some (.any [.dscp 16, .sport 80 80]) := by rfl
example : parse [.kAny, .lpar, .rpar] = none := by rfl

end Scion.C43
