import Scion.Model.Net
import Scion.Proofs.NetScmp
/-!
# C10 — SCMP replies and traceroute answers travel back to the sender

`scmpPrepare` is the path part of `prepareSCMP` (tied by the `scmp` lines of engine `net`: every
slow-path answer of the real routers is rebuilt by the model).
-/
namespace Scion.C10
open Scion.Net

/-- **C10 at full strength**: on a path as in C02, with any one interface down or unknown, any
    one later hop expired or carrying a wrong MAC, or a router-alert flag on any hop: whenever a
    router stops the packet and answers, the answer is delivered in the source AS. -/
def C10_full : Prop :=
  ∀ (mac : MacFn) (net net' : Net) (now : Nat) (edges : List Edge) (src dst : Nat) (c c' : Cursor)
    (a r : Nat) (arr : Arrival) (o : Out) (tr : List (Nat × Nat)) (rc : Cursor),
    WFNet net → AllUp net → Joinable mac net edges src dst → pathOf edges = some c →
    Unexpired now c →
    -- the fault: the network differs from `net` at most in interfaces being down or unknown, the
    -- packet differs from `c` at most in alert flags, expiry values or MACs of hop fields
    send mac net' now src dst c' = .stopped a r arr o tr → replyOf o arr = some rc →
    ∃ trr cr, followReply mac net' now src a r arr rc = .delivered src trr cr

/-- the reply keeps the SegID unless it leaves over an external link in construction direction,
    and it is built on the mirrored path: its current hop is the stopping router's hop or, after
    undoing a cross-over / moving on, a neighbouring one -/
theorem scmp_internal_is_reverse (c : Cursor) (p : Bool)
    (hp : determinePeer (reverseCursor c) = some p)
    (hx : ((reverseCursor c).isXover && !p) = false) :
    scmpPrepare c false = some (reverseCursor c) := by
  simp [scmpPrepare, hp, hx]

/-- **C10, expired later hop on a segment traversed against construction direction** (up or core
    segment; one border router per AS; single-segment path — hence `_partial`).
    Forwarding order of the segment part used: `top` (source AS), `r1`, `ej`, `r2`, `x`.  The two
    chain hypotheses are the two readings of the invariant every registered segment satisfies
    (`Scion.C02.registered_is_chain`, `chain_to_up`): `hcU` from the far end, `hcD` from `ej` on,
    `hβ` says they talk about the same accumulators.  If the hop field of `ej` carried by the
    packet has expired, the packet is stopped exactly by the AS of `ej` with SCMP 4/52, and the
    reply the slow path builds (`replyOf` = `prepareSCMP`) is delivered in the source AS.
    This is the situation of the repaired defect "SCMP replies for expired-hop errors on a segment
    traversed against construction direction were dropped by the next AS": the proof needs the
    packet handed to the slow path to carry the SegID *after* the ingress update (`expired_step`). -/
theorem scmp_reply_delivered_partial (mac : MacFn) (net : Net) (now src dst : Nat) (core : Bool)
    (ts : Nat) (hWF : WFNet net) (hUp : AllUp net) (hSR : SingleRouter net)
    (bU βj : Nat) (top : ASE) (r1 : List ASE) (ej : ASE) (r2 : List ASE) (x : ASE) (exp' : Nat)
    (hcU : ChainUp mac net core ts bU (top :: (r1 ++ ej :: (r2 ++ [x]))))
    (hcD : Chain mac net core ts βj (ej :: (r1.reverse ++ [top])))
    (hβ : Scion.SegID.updateSegID (Scion.SegID.extractBeta
            (Scion.SegID.updateSegID bU (pfx top.hop.mac)) (sig r1)) (pfx ej.hop.mac) = βj)
    (hsrc : src = top.ia) (hdst : dst = x.ia)
    (hnd : ((top :: (r1 ++ ej :: (r2 ++ [x]))).map (·.ia)).Nodup)
    (hexpU : ∀ e ∈ top :: r1, expired now ts e.hop.exp = false)
    (hexp' : expired now ts exp' = true) (fuel : Nat) :
    ∃ tr c1 rc trr cr,
      run mac net now src dst (fuel + 2 + r1.length) src 0 .host
        ⟨[], ⟨false, false, Scion.SegID.updateSegID bU (pfx top.hop.mac), ts⟩, [], hopOf top.hop,
          (r1.map fun e => hopOf e.hop) ++ { hopOf ej.hop with exp := exp' } ::
            ((r2 ++ [x]).map fun e => hopOf e.hop), []⟩ [] =
        .stopped ej.ia 0 (.ext ej.hop.cEg) (.slow 4 52 0 c1) tr ∧
      replyOf (.slow 4 52 0 c1) (.ext ej.hop.cEg) = some rc ∧
      followReply mac net now src ej.ia 0 (.ext ej.hop.cEg) rc = .delivered src trr cr := by
  have hsplit : top :: (r1 ++ ej :: (r2 ++ [x])) = (top :: (r1 ++ [ej])) ++ (r2 ++ [x]) := by simp
  rw [hsplit] at hcU hnd
  rw [List.map_append] at hnd
  have hnd1 := (List.nodup_append.1 hnd).1
  have hdisj := (List.nodup_append.1 hnd).2.2
  have hnx : ∀ e ∈ top :: (r1 ++ [ej]), e.ia ≠ dst := fun e he => by
    rw [hdst]; exact hdisj e.ia (List.mem_map.2 ⟨e, he, rfl⟩) x.ia (by simp)
  -- the part of the segment up to `ej`, read in forwarding order
  have hFL := chainUp_FL mac net core ts hWF _ bU
    (chainUp_take mac net core ts (top :: (r1 ++ [ej])) (r2 ++ [x]) bU (by simp) hcU)
  exact expired_reply_run mac net now src dst core false ts hUp hSR false _ [] (Or.inr (by simp)) nofun
    bU top r1 ej exp' hFL hsrc (by rw [hsrc]; exact hnx top (by simp)) hnd1
    (fun e he => hnx e (by simp [he])) hexpU hexp' fuel

/-- **C10, SCMP errors of the ingress stage on single-segment paths, either direction, any
    position** (one border router per AS — hence `_partial`).  The segment part used is described
    by `FL` (forwarding order `e0`, `m1`, `ek`, …) as every registered edge is (`edge_spec`); `h'`
    is the hop field the packet carries for the AS of `ek`.  Whenever that AS answers with an
    SCMP error built on the packet as updated at ingress, the reply — reversed path, SegID
    re-adjusted when the reversed segment runs in construction direction, pointer moved to the previous
    AS — is accepted by every AS on the way back and delivered in the source AS. -/
theorem scmp_error_reply_delivered_partial (mac : MacFn) (net : Net) (now src dst : Nat)
    (core cd : Bool) (ts : Nat) (hUp : AllUp net) (hSR : SingleRouter net)
    (seg0 : Nat) (e0 : ASE) (m1 : List ASE) (ek : ASE) (h' : Hop) (t k : Nat) (tlh : List Hop)
    (hFL : FL mac net core cd ts seg0 (e0 :: (m1 ++ [ek])))
    (hsrc : src = e0.ia) (hsd : src ≠ dst)
    (hnd : ((e0 :: (m1 ++ [ek])).map (·.ia)).Nodup)
    (hmidd : ∀ e ∈ m1, e.ia ≠ dst)
    (hexpU : ∀ e ∈ e0 :: m1, expired now ts e.hop.exp = false)
    (hstop : routerStep mac (cfgOf net ek.ia) now (.ext (inF cd ek)) (ek.ia == src) (ek.ia == dst)
        ⟨[], ⟨cd, false, Scion.SegID.extractBeta (Scion.SegID.updateSegID seg0 (pfx e0.hop.mac)) (sig m1), ts⟩,
          hopOf e0.hop :: m1.map (fun e => hopOf e.hop), h', tlh, []⟩ =
      .slow t k 0 ⟨[], ⟨cd, false, usedSeg cd (Scion.SegID.extractBeta
            (Scion.SegID.updateSegID seg0 (pfx e0.hop.mac)) (sig m1)) h', ts⟩,
          hopOf e0.hop :: m1.map (fun e => hopOf e.hop), h', tlh, []⟩) (fuel : Nat) :
    ∃ tr c1 rc trr cr,
      run mac net now src dst (fuel + 2 + m1.length) src 0 .host
        ⟨[], ⟨cd, false, usedAt cd seg0 e0, ts⟩, [], hopOf e0.hop,
          (m1.map fun e => hopOf e.hop) ++ h' :: tlh, []⟩ [] =
        .stopped ek.ia 0 (.ext (inF cd ek)) (.slow t k 0 c1) tr ∧
      replyOf (.slow t k 0 c1) (.ext (inF cd ek)) = some rc ∧
      followReply mac net now src ek.ia 0 (.ext (inF cd ek)) rc = .delivered src trr cr :=
  (slow_reply_run mac net now src dst core cd ts hUp hSR false tlh [] (Or.inr (by simp)) nofun
    seg0 e0 m1 ek h' t k _ hFL hsrc hsd hnd hmidd hexpU hstop rfl fuel).imp fun _ h => ⟨_, h⟩

/-- instance: an expired hop field (the hypothesis `hstop` is discharged by `expired_step`) -/
theorem scmp_expired_reply_delivered_partial (mac : MacFn) (net : Net) (now src dst : Nat)
    (core cd : Bool) (ts : Nat) (hUp : AllUp net) (hSR : SingleRouter net)
    (seg0 : Nat) (e0 : ASE) (m1 : List ASE) (ek : ASE) (exp' : Nat) (tlh : List Hop)
    (hFL : FL mac net core cd ts seg0 (e0 :: (m1 ++ [ek])))
    (hsrc : src = e0.ia) (hsd : src ≠ dst)
    (hnd : ((e0 :: (m1 ++ [ek])).map (·.ia)).Nodup)
    (hmidd : ∀ e ∈ m1, e.ia ≠ dst)
    (hexpU : ∀ e ∈ e0 :: m1, expired now ts e.hop.exp = false)
    (hexp' : expired now ts exp' = true) (fuel : Nat) :
    ∃ tr c1 rc trr cr,
      run mac net now src dst (fuel + 2 + m1.length) src 0 .host
        ⟨[], ⟨cd, false, usedAt cd seg0 e0, ts⟩, [], hopOf e0.hop,
          (m1.map fun e => hopOf e.hop) ++ { hopOf ek.hop with exp := exp' } :: tlh, []⟩ [] =
        .stopped ek.ia 0 (.ext (inF cd ek)) (.slow 4 52 0 c1) tr ∧
      replyOf (.slow 4 52 0 c1) (.ext (inF cd ek)) = some rc ∧
      followReply mac net now src ek.ia 0 (.ext (inF cd ek)) rc = .delivered src trr cr :=
  expired_reply_run mac net now src dst core cd ts hUp hSR false tlh [] (Or.inr (by simp)) nofun
    seg0 e0 m1 ek exp' hFL hsrc hsd hnd hmidd hexpU hexp' fuel

/-- instance: a hop field whose MAC no longer verifies (`badmac_step`) -/
theorem scmp_badmac_reply_delivered_partial (mac : MacFn) (net : Net) (now src dst : Nat)
    (core cd : Bool) (ts : Nat) (hUp : AllUp net) (hSR : SingleRouter net)
    (seg0 : Nat) (e0 : ASE) (m1 : List ASE) (ek : ASE) (mac' : Nat) (tlh : List Hop)
    (hFL : FL mac net core cd ts seg0 (e0 :: (m1 ++ [ek])))
    (hsrc : src = e0.ia) (hsd : src ≠ dst)
    (hnd : ((e0 :: (m1 ++ [ek])).map (·.ia)).Nodup)
    (hmidd : ∀ e ∈ m1, e.ia ≠ dst)
    (hexpU : ∀ e ∈ e0 :: (m1 ++ [ek]), expired now ts e.hop.exp = false)
    (hdl : tlh.isEmpty = (ek.ia == dst))
    (hbad : macOk mac (net ek.ia).key
      ⟨cd, false, usedSeg cd (Scion.SegID.extractBeta (Scion.SegID.updateSegID seg0 (pfx e0.hop.mac)) (sig m1))
        { hopOf ek.hop with mac := mac' }, ts⟩ { hopOf ek.hop with mac := mac' } = false)
    (fuel : Nat) :
    ∃ tr c1 rc trr cr,
      run mac net now src dst (fuel + 2 + m1.length) src 0 .host
        ⟨[], ⟨cd, false, usedAt cd seg0 e0, ts⟩, [], hopOf e0.hop,
          (m1.map fun e => hopOf e.hop) ++ { hopOf ek.hop with mac := mac' } :: tlh, []⟩ [] =
        .stopped ek.ia 0 (.ext (inF cd ek)) (.slow 4 51 0 c1) tr ∧
      replyOf (.slow 4 51 0 c1) (.ext (inF cd ek)) = some rc ∧
      followReply mac net now src ek.ia 0 (.ext (inF cd ek)) rc = .delivered src trr cr  := by
  obtain ⟨_, hin0, _⟩ := fl_last mac net core cd ts m1 e0 ek seg0 hFL
  obtain ⟨h0k, _⟩ := nd_facts e0 m1 ek hnd
  refine (slow_reply_run mac net now src dst core cd ts hUp hSR false tlh [] (Or.inr (by simp)) nofun
    seg0 e0 m1 ek _ 4 51 _ hFL hsrc hsd hnd hmidd
    (fun e he => hexpU e (List.cons_subset_cons e0 (List.subset_append_left m1 [ek]) he))
    (badmac_step mac net now src dst cd false ts _ ek.ia _ _ [] _ tlh [] (Or.inr ⟨nofun, nofun, by simp; omega⟩)
      rfl hin0 (by cases cd <;> rfl) (hsrc ▸ Ne.symm h0k) (by simpa using hdl)
      (by simpa [hopOf] using hexpU ek (by simp)) hbad) rfl fuel).imp fun _ h => ⟨_, h⟩

/-- **SCMP 4/51 and 4/52 with several border routers per AS, router level** (no restriction on the
    path): "bad MAC" and "expired hop" are decided by the ingress stage or at the cross-over, never
    by the egress stage, so the router that receives the packet from outside (the owner of the
    ingress interface) answers exactly as the single router of the collapsed AS would — whichever
    router owns the egress interface.  `collapse net` is `net` with all interfaces on router 0. -/
theorem scmp_mac_exp_decided_at_ingress_router (mac : MacFn) (net : Net) (now a r : Nat) (arr : Arrival)
    (sl dl : Bool) (c : Cursor) (k e : Nat) (c1 : Cursor) (harr : ∀ k', arr ≠ .sibling k')
    (hk : k = 51 ∨ k = 52)
    (h : routerStep mac (cfgOf (collapse net) a) now arr sl dl c = .slow 4 k e c1) :
    routerStep mac (cfgR net a r) now arr sl dl c = .slow 4 k e c1 :=
  step_sim_stopped mac net now a r arr sl dl c k e c1 harr hk h

/-- **C10, expired hop, ANY number of border routers per AS** (`_partial` only because the path is
    a single segment — up, core or down, whole or shortcut, either direction, any position after
    the source).  `send` hands the packet to the router owning the first egress interface; every
    AS may cross it through two routers; the AS of `ek` stops it at the router `r` owning the
    ingress interface with SCMP 4/52; the reply built by `prepareSCMP` is delivered in the source
    AS, again through ASes with several routers.  Proof (`slow_reply_run_multi`): `slow_reply_run`
    in the collapsed network, transferred by `send_sim_slow` (way there) and `followReply_sim`
    (way back). -/
theorem scmp_expired_reply_delivered_any_routers_partial (mac : MacFn) (net : Net) (now src dst : Nat)
    (core cd : Bool) (ts : Nat) (hWF : WFNet net) (hUp : AllUp net)
    (seg0 : Nat) (e0 : ASE) (m1 : List ASE) (ek : ASE) (exp' : Nat) (tlh : List Hop)
    (hFL : FL mac net core cd ts seg0 (e0 :: (m1 ++ [ek])))
    (hsrc : src = e0.ia) (hsd : src ≠ dst)
    (hnd : ((e0 :: (m1 ++ [ek])).map (·.ia)).Nodup)
    (hmidd : ∀ e ∈ m1, e.ia ≠ dst)
    (hexpU : ∀ e ∈ e0 :: m1, expired now ts e.hop.exp = false)
    (hexp' : expired now ts exp' = true) :
    ∃ r tr c1 rc trr cr,
      send mac net now src dst
        ⟨[], ⟨cd, false, usedAt cd seg0 e0, ts⟩, [], hopOf e0.hop,
          (m1.map fun e => hopOf e.hop) ++ { hopOf ek.hop with exp := exp' } :: tlh, []⟩ =
        .stopped ek.ia r (.ext (inF cd ek)) (.slow 4 52 0 c1) tr ∧
      replyOf (.slow 4 52 0 c1) (.ext (inF cd ek)) = some rc ∧
      followReply mac net now src ek.ia r (.ext (inF cd ek)) rc = .delivered src trr cr  := by
  obtain ⟨_, hin0, _⟩ := fl_last mac net core cd ts m1 e0 ek seg0 hFL
  exact slow_reply_run_multi mac net now src dst core cd ts hWF hUp seg0 e0 m1 ek _ 52 tlh (Or.inr rfl) hFL
    hsrc hsd hnd hmidd hexpU
    (expired_step mac (collapse net) now src dst cd false ts _ ek.ia _ { hopOf ek.hop with exp := exp' } [] _
      tlh [] (Or.inr ⟨nofun, nofun, by simp; omega⟩) rfl hin0 hexp')

/-- **C10, hop field with a wrong MAC, ANY number of border routers per AS** (single-segment
    paths, any position; SCMP 4/51) -/
theorem scmp_badmac_reply_delivered_any_routers_partial (mac : MacFn) (net : Net) (now src dst : Nat)
    (core cd : Bool) (ts : Nat) (hWF : WFNet net) (hUp : AllUp net)
    (seg0 : Nat) (e0 : ASE) (m1 : List ASE) (ek : ASE) (mac' : Nat) (tlh : List Hop)
    (hFL : FL mac net core cd ts seg0 (e0 :: (m1 ++ [ek])))
    (hsrc : src = e0.ia) (hsd : src ≠ dst)
    (hnd : ((e0 :: (m1 ++ [ek])).map (·.ia)).Nodup)
    (hmidd : ∀ e ∈ m1, e.ia ≠ dst)
    (hexpU : ∀ e ∈ e0 :: (m1 ++ [ek]), expired now ts e.hop.exp = false)
    (hdl : tlh.isEmpty = (ek.ia == dst))
    (hbad : macOk mac (net ek.ia).key
      ⟨cd, false, usedSeg cd (Scion.SegID.extractBeta (Scion.SegID.updateSegID seg0 (pfx e0.hop.mac)) (sig m1))
        { hopOf ek.hop with mac := mac' }, ts⟩ { hopOf ek.hop with mac := mac' } = false) :
    ∃ r tr c1 rc trr cr,
      send mac net now src dst
        ⟨[], ⟨cd, false, usedAt cd seg0 e0, ts⟩, [], hopOf e0.hop,
          (m1.map fun e => hopOf e.hop) ++ { hopOf ek.hop with mac := mac' } :: tlh, []⟩ =
        .stopped ek.ia r (.ext (inF cd ek)) (.slow 4 51 0 c1) tr ∧
      replyOf (.slow 4 51 0 c1) (.ext (inF cd ek)) = some rc ∧
      followReply mac net now src ek.ia r (.ext (inF cd ek)) rc = .delivered src trr cr  := by
  obtain ⟨_, hin0, _⟩ := fl_last mac net core cd ts m1 e0 ek seg0 hFL
  obtain ⟨h0k, _⟩ := nd_facts e0 m1 ek hnd
  exact slow_reply_run_multi mac net now src dst core cd ts hWF hUp seg0 e0 m1 ek _ 51 tlh (Or.inl rfl) hFL
    hsrc hsd hnd hmidd
    (fun e he => hexpU e (List.cons_subset_cons e0 (List.subset_append_left m1 [ek]) he))
    (badmac_step mac (collapse net) now src dst cd false ts _ ek.ia _ _ [] _ tlh []
      (Or.inr ⟨nofun, nofun, by simp; omega⟩) rfl hin0 (by cases cd <;> rfl) (hsrc ▸ Ne.symm h0k)
      (by simpa using hdl) (by simpa [hopOf] using hexpU ek (by simp)) hbad)

/-- a stopped packet is only ever answered by the AS that stopped it, over the link it came in on:
    `followReply` starts at the neighbour on that link (definitional, recorded for the reader) -/
theorem reply_leaves_on_ingress_link (mac : MacFn) (net : Net) (now src a r i : Nat) (rc : Cursor)
    (f g : Iface) (hf : (net a).iface i = some f) (hg : (net f.nbr).iface f.nbrIf = some g) :
    followReply mac net now src a r (.ext i) rc =
      run mac net now a src (fuelFor rc) f.nbr g.owner (.ext f.nbrIf) rc [(a, i), (f.nbr, f.nbrIf)] :=
  followReply_ext hf hg

/-- **Peering paths, intermediate AS of the up segment.**  On a Peer-flagged segment only the hop
    next to the peering link is a *peering hop*; an AS further from the peering link (neither source nor peering AS)
    that answers a packet received over an external link must still XOR its hop MAC into the SegID
    of the reversed (now construction-direction) segment before sending the answer back: the guard
    is `determinePeer` of the current hop, not the segment-wide `Peer` flag.  (A seeded change that
    used `infoField.Peer` instead is caught by the tie on exactly this shape: the engine's fixed
    peering world produces up segments of 3 hops in every run.) -/
theorem scmp_peer_segment_intermediate (seg ts : Nat) (done : List Hop) (h t0 : Hop)
    (todo : List Hop) (sD : Seg) :
    scmpPrepare ⟨[], ⟨false, true, seg, ts⟩, done, h, t0 :: todo, [sD]⟩ true =
      (⟨[revSeg sD], ⟨true, true, Scion.SegID.updateSegID seg (pfx h.mac), ts⟩,
        (t0 :: todo).reverse, h, done.reverse, []⟩ : Cursor).incPath := by
  simp [scmpPrepare, reverseCursor, determinePeer, flipInfo, Cursor.isXover, egUpd]

/-- **C10 on peering paths, SCMP errors of the ingress stage at an AS of the first segment other
    than the peering AS** (one border router per AS — hence `_partial`).  The first segment carries
    the Peer flag; forwarding order `e0` (source), `m1`, `ek`; at least one more hop field (`t0`,
    at the latest the peering hop) follows; `sD` is the second segment.  The reply is built with
    the SegID re-adjusted under the guard `determinePeer` (see
    `scmp_peer_segment_intermediate`), is accepted by every AS on the way back — which now runs on
    the *second* segment of the reversed path, behind `revSeg sD` — and is delivered in the source
    AS.  Either direction `cd` (the way there of a peering path has `cd = false`; a reversed
    peering path, as replies use it, `cd = true`). -/
theorem scmp_peer_error_reply_delivered_partial (mac : MacFn) (net : Net) (now src dst : Nat)
    (core cd : Bool) (ts : Nat) (hUp : AllUp net) (hSR : SingleRouter net)
    (seg0 : Nat) (e0 : ASE) (m1 : List ASE) (ek : ASE) (h' : Hop) (t k : Nat) (t0 : Hop)
    (tlh : List Hop) (sD : Seg)
    (hFL : FL mac net core cd ts seg0 (e0 :: (m1 ++ [ek])))
    (hsrc : src = e0.ia) (hsd : src ≠ dst)
    (hnd : ((e0 :: (m1 ++ [ek])).map (·.ia)).Nodup)
    (hmidd : ∀ e ∈ m1, e.ia ≠ dst)
    (hexpU : ∀ e ∈ e0 :: m1, expired now ts e.hop.exp = false)
    (hstop : routerStep mac (cfgOf net ek.ia) now (.ext (inF cd ek)) (ek.ia == src) (ek.ia == dst)
        ⟨[], ⟨cd, true, Scion.SegID.extractBeta (Scion.SegID.updateSegID seg0 (pfx e0.hop.mac)) (sig m1), ts⟩,
          hopOf e0.hop :: m1.map (fun e => hopOf e.hop), h', t0 :: tlh, [sD]⟩ =
      .slow t k 0 ⟨[], ⟨cd, true, usedSeg cd (Scion.SegID.extractBeta
            (Scion.SegID.updateSegID seg0 (pfx e0.hop.mac)) (sig m1)) h', ts⟩,
          hopOf e0.hop :: m1.map (fun e => hopOf e.hop), h', t0 :: tlh, [sD]⟩) (fuel : Nat) :
    ∃ tr c1 rc trr cr,
      run mac net now src dst (fuel + 2 + m1.length) src 0 .host
        ⟨[], ⟨cd, true, usedAt cd seg0 e0, ts⟩, [], hopOf e0.hop,
          (m1.map fun e => hopOf e.hop) ++ h' :: t0 :: tlh, [sD]⟩ [] =
        .stopped ek.ia 0 (.ext (inF cd ek)) (.slow t k 0 c1) tr ∧
      replyOf (.slow t k 0 c1) (.ext (inF cd ek)) = some rc ∧
      followReply mac net now src ek.ia 0 (.ext (inF cd ek)) rc = .delivered src trr cr :=
  (slow_reply_run mac net now src dst core cd ts hUp hSR true (t0 :: tlh) [sD] (Or.inl rfl)
    (fun _ => ⟨rfl, by simp⟩) seg0 e0 m1 ek h' t k _ hFL hsrc hsd hnd hmidd hexpU hstop rfl fuel).imp
    fun _ h => ⟨_, h⟩

/-- instance: an expired hop field at such an AS (`expired_step` discharges `hstop`) — the
    shape of `seeded/mut1-C10` -/
theorem scmp_peer_expired_reply_delivered_partial (mac : MacFn) (net : Net) (now src dst : Nat)
    (core cd : Bool) (ts : Nat) (hUp : AllUp net) (hSR : SingleRouter net)
    (seg0 : Nat) (e0 : ASE) (m1 : List ASE) (ek : ASE) (exp' : Nat) (t0 : Hop)
    (tlh : List Hop) (sD : Seg)
    (hFL : FL mac net core cd ts seg0 (e0 :: (m1 ++ [ek])))
    (hsrc : src = e0.ia) (hsd : src ≠ dst)
    (hnd : ((e0 :: (m1 ++ [ek])).map (·.ia)).Nodup)
    (hmidd : ∀ e ∈ m1, e.ia ≠ dst)
    (hexpU : ∀ e ∈ e0 :: m1, expired now ts e.hop.exp = false)
    (hexp' : expired now ts exp' = true) (fuel : Nat) :
    ∃ tr c1 rc trr cr,
      run mac net now src dst (fuel + 2 + m1.length) src 0 .host
        ⟨[], ⟨cd, true, usedAt cd seg0 e0, ts⟩, [], hopOf e0.hop,
          (m1.map fun e => hopOf e.hop) ++ { hopOf ek.hop with exp := exp' } :: t0 :: tlh, [sD]⟩ [] =
        .stopped ek.ia 0 (.ext (inF cd ek)) (.slow 4 52 0 c1) tr ∧
      replyOf (.slow 4 52 0 c1) (.ext (inF cd ek)) = some rc ∧
      followReply mac net now src ek.ia 0 (.ext (inF cd ek)) rc = .delivered src trr cr :=
  expired_reply_run mac net now src dst core cd ts hUp hSR true (t0 :: tlh) [sD] (Or.inl rfl)
    (fun _ => ⟨rfl, by simp⟩) seg0 e0 m1 ek exp' hFL hsrc hsd hnd hmidd hexpU hexp' fuel

/-- **Traceroute ownership on the model** (router level, no restriction on paths or the number of
    routers per AS).  A router consumes a router-alert flag — and hence is the one that answers the
    traceroute request — only
    * on the ingress side, when the packet came in over one of *its own* external links
      (`arr = .ext i`, `i ≠ 0`); a packet handed over by a sibling router or a local host never
      triggers the ingress alert;
    * on the egress side, when the egress interface of the hop is owned by *this* router.
    So of two sibling routers of an AS exactly the owner of the interface in question answers. -/
theorem alert_answered_by_owner (mac : MacFn) (cfg : RCfg) (now : Nat) (arr : Arrival) (sl dl : Bool)
    (c : Cursor) (b : Bool) (e : Nat) (c' : Cursor)
    (h : routerStep mac cfg now arr sl dl c = .alert b e c') :
    (b = true ∧ e = 0 ∧ ∃ i, arr = .ext i ∧ i ≠ 0) ∨
    (b = false ∧ ∃ eg, egressIface cfg e = some eg ∧ eg.owner = cfg.self) :=
  Scion.Net.alert_answered_by_owner mac cfg now arr sl dl c b e c' h

/-- the ingress alert is raised only after the hop field's MAC verified, on the packet as updated
    at ingress, with exactly the flag of the ingress side cleared -/
theorem ingress_alert_after_mac (mac : MacFn) (cfg : RCfg) (now : Nat) (arr : Arrival) (sl dl : Bool)
    (c1 : Cursor) (p b : Bool) (e : Nat) (c' : Cursor)
    (h : stChecks mac cfg now arr sl dl c1 p = .error (.alert b e c')) :
    b = true ∧ e = 0 ∧ arr.ifid ≠ 0 ∧ c' = clearInAlert c1 ∧
      (if c1.info.consDir then c1.cur.inAlert else c1.cur.egAlert) = true ∧
      macOk mac cfg.key c1.info c1.cur = true :=
  stChecks_alert mac cfg now arr sl dl c1 p b e c' h

/-- the peering case of `C10_full`, stated.  Proved so far: errors at the ASes of the first segment
    other than the peering AS (`scmp_peer_error_reply_delivered_partial`).  Not proved: errors at
    the two peering ASes and in the second segment (the reply then crosses the peering link
    backwards); tied and checked by the engine on every run.  On a peering path
    (up segment, peering link, down segment — each with any number of hops) with an expired hop at
    any AS other than the source, the SCMP answer is delivered in the source AS. -/
def scmp_reply_delivered_peering : Prop :=
  ∀ (mac : MacFn) (net : Net) (now : Nat) (eu ed : Edge) (src dst : Nat) (c c' : Cursor)
    (a r : Nat) (arr : Arrival) (o : Out) (tr : List (Nat × Nat)) (rc : Cursor),
    WFNet net → AllUp net → eu.peer.isSome → ed.peer.isSome →
    Joinable mac net [eu, ed] src dst → pathOf [eu, ed] = some c → Unexpired now c →
    -- c' is c with the expiry of one hop field changed to an expired value
    (toFlat c').infos = (toFlat c).infos → (toFlat c').segLens = (toFlat c).segLens →
    (toFlat c').currHF = 0 → (toFlat c').currINF = 0 →
    (∃ k : Nat, ∀ j : Nat, j ≠ k → (toFlat c').hops[j]? = (toFlat c).hops[j]?) →
    (∀ j : Nat, ∀ h h', (toFlat c').hops[j]? = some h' → (toFlat c).hops[j]? = some h →
        h' = { h with exp := h'.exp }) →
    send mac net now src dst c' = .stopped a r arr o tr → a ≠ src → replyOf o arr = some rc →
    ∃ trr cr, followReply mac net now src a r arr rc = .delivered src trr cr

end Scion.C10
