import Scion.Proofs.Ring
/-! Lemmas for C48: the monitor (no lost wake-up, its runs are histories of the ring).
Core Lean only. -/
namespace Scion.Ring

def allWake : Cfg := ⟨true, true, true, true⟩

/-- a caller is parked on a condition variable only while its wait condition holds -/
def NoLost (m : Mon) : Prop :=
  (m.rWait ≠ [] → m.ring.readable = 0 ∧ m.ring.closed = false) ∧
  (m.wWait ≠ [] → m.ring.writable = 0 ∧ m.ring.closed = false)

theorem mstep_noLost (m : Mon) (st : MStep) (m' : Mon) (h : mstep allWake m st = some m')
    (hn : NoLost m) : NoLost m' := by
  obtain ⟨hr, hw⟩ := hn
  cases st with
  | parkR t len =>
    simp only [mstep] at h
    split at h
    · cases h
      rename_i hc
      exact ⟨fun _ => hc.2, hw⟩
    · cases h
  | parkW t es =>
    simp only [mstep] at h
    split at h
    · cases h
      rename_i hc
      exact ⟨hr, fun _ => hc.2⟩
    · cases h
  | doWrite es block =>
    simp only [mstep] at h
    split at h
    · cases h
    · rename_i hwr
      cases h
      -- a write that stores wakes the readers and leaves the writers' wait condition as it was
      rcases write_some hwr with ⟨hm, e⟩ | ⟨hm, es', -, e⟩ <;> rw [hm, e]
      · exact ⟨hr, hw⟩
      · refine ⟨fun hne => absurd rfl hne, fun hne => ?_⟩
        obtain ⟨hz, hcf⟩ := hw hne
        exact ⟨by dsimp only; omega, hcf⟩
  | doRead len block =>
    simp only [mstep] at h
    split at h
    · cases h
    · rename_i hrd
      cases h
      rcases read_some hrd with ⟨hm, e⟩ | ⟨hm, k, -, e⟩ <;> rw [hm, e]
      · exact ⟨hr, hw⟩
      · refine ⟨fun hne => ?_, fun hne => absurd rfl hne⟩
        obtain ⟨hz, hcf⟩ := hr hne
        exact ⟨by dsimp only; omega, hcf⟩
  | doClose =>
    cases h
    exact ⟨fun hne => absurd rfl hne, fun hne => absurd rfl hne⟩

theorem isRun_mrun (c : Cfg) : IsRun (mstep c) (mrun c) :=
  ⟨fun _ => rfl, fun m st rest => by simp only [mrun]; cases mstep c m st <;> rfl⟩

theorem mrun_noLost {steps : List MStep} {m m' : Mon} (h : mrun allWake m steps = some m') :
    NoLost m → NoLost m' :=
  (isRun_mrun allWake).preserves (fun m st m' => mstep_noLost m st m') h

def MStep.op? : MStep → Option Op
  | .parkR _ _ => none
  | .parkW _ _ => none
  | .doWrite es b => some (.write es b)
  | .doRead len b => some (.read len b)
  | .doClose => some .close

theorem mstep_ring {c : Cfg} {m : Mon} {st : MStep} {m' : Mon} (h : mstep c m st = some m') :
    match st.op? with
    | none => m'.ring = m.ring
    | some o => ∃ out, step m.ring o = some (m'.ring, out) := by
  cases st with
  | parkR t len => simp only [mstep] at h; split at h <;> cases h; rfl
  | parkW t es => simp only [mstep] at h; split at h <;> cases h; rfl
  | doWrite es b =>
    simp only [mstep] at h
    split at h
    · cases h
    · rename_i n hw; cases h; exact ⟨.wrote n, by simp only [step, hw, Option.map_some]⟩
  | doRead len b =>
    simp only [mstep] at h
    split at h
    · cases h
    · rename_i n out hr; cases h; exact ⟨.got n out, by simp only [step, hr, Option.map_some]⟩
  | doClose => cases h; exact ⟨.closed, rfl⟩

theorem mrun_is_history (c : Cfg) : ∀ (steps : List MStep) (m m' : Mon),
    mrun c m steps = some m' →
    ∃ outs, runOps m.ring (steps.filterMap MStep.op?) = some (m'.ring, outs) := by
  refine (isRun_mrun c).induction (fun m => ⟨[], rfl⟩) ?_
  intro m st m1 rest m' hs ⟨outs, ho⟩
  have hst := mstep_ring hs
  rw [List.filterMap_cons]
  cases hop : st.op? with
  | none => rw [hop] at hst; exact ⟨outs, hst ▸ ho⟩
  | some o =>
    rw [hop] at hst
    obtain ⟨out, hso⟩ := hst
    exact ⟨out :: outs, by simp only [runOps, hso, ho]⟩

end Scion.Ring
