import Scion.Model.SegID
import Scion.Proofs.SegID
/-!
# C22 — Segment-ID accumulator updates give every hop its construction-time value

Property theorems only.  The model (`Scion.Model.SegID`) is tied to `extractBeta` / `Extend`
(control/beaconing), `calculateBeta` (private/path/combinator) and `InfoField.UpdateSegID` by
`harness/cmd/segid`; the three router rules are tied by `harness/cmd/net` (real routers, per-AS
steps).  All statements are for **every** segment length (no bound 64), every entry/exit position
and arbitrary MAC prefixes σ.
-/
namespace Scion.C22
open Scion.SegID

/-- 16-bit values stay 16-bit: the `Nat` model of `uint16 ^ uint16` never leaves the range -/
theorem xor_closed (a b : Nat) (ha : a < 65536) (hb : b < 65536) : updateSegID a b < 65536 :=
  Nat.xor_lt_two_pow (n := 16) ha hb

theorem extractBeta_closed (s0 : Nat) (σ : List Nat) (h0 : s0 < 65536)
    (hσ : ∀ x ∈ σ, x < 65536) : extractBeta s0 σ < 65536 := by
  induction σ generalizing s0 with
  | nil => exact h0
  | cons x xs ih =>
    exact ih (updateSegID s0 x) (xor_closed _ _ h0 (hσ x (by simp))) fun y hy => hσ y (by simp [hy])

theorem beta_succ (s0 : Nat) (σ : List Nat) (i : Nat) (h : i < σ.length) :
    beta s0 σ (i + 1) = updateSegID (beta s0 σ i) σ[i] := by
  simp only [beta]
  rw [List.take_succ_eq_append_getElem h, extractBeta_append]
  simp [extractBeta]

/-- the extender gives the regular hop of the `i`-th AS the accumulator β_i and all of its peer
    entries β_{i+1} -/
theorem extender_betas (s0 : Nat) (σ : List Nat) (i : Nat) (h : i < σ.length) :
    hopBeta s0 (σ.take i) = beta s0 σ i ∧
    peerBeta s0 (σ.take i) σ[i] = beta s0 σ (i + 1) :=
  ⟨rfl, (beta_succ s0 σ i h).symm⟩

/-- what path combination puts into the info field: down (construction direction) segments start
    with β_shortcut (β_{shortcut+1} when entering over a peering link), up/core segments with
    β_{n-1} (β_n when the source AS itself is the peering AS) -/
theorem calculateBeta_spec (down : Bool) (s : Nat) (peer : Bool) (s0 : Nat) (σ : List Nat)
    (hs : s < σ.length) :
    calculateBeta down s peer s0 σ =
      some (beta s0 σ (if down then (if peer then s + 1 else s)
                       else (if σ.length - 1 = s ∧ peer = true then σ.length
                             else σ.length - 1))) := by
  have hn : ¬ σ.length = 0 := by omega
  unfold calculateBeta betaIndex beta
  cases down <;> cases peer <;> simp [hn] <;> (try split) <;> (try simp) <;> omega

/-- **construction direction** (down segments, core segments used in construction direction):
    entering at AS `s` (`peer`: over its peering link, with the peer hop field of MAC prefix `pm`),
    the routers validate the hop fields of ASes `s, s+1, …, n-1` with exactly the accumulators the
    beaconing ASes used -/
theorem down_sync (s0 : Nat) (σ : List Nat) (s : Nat) (peer : Bool) (pm : Nat)
    (hs : s < σ.length) :
    ∃ b, calculateBeta true s peer s0 σ = some b ∧
      runHops true b (downCtx σ s peer pm) = expected s0 σ s peer := by
  obtain ⟨pre, x, rest, rfl, rfl⟩ := exists_split hs
  refine ⟨_, calc_down s0 pre x rest peer, ?_⟩
  rw [expected_split]
  cases peer <;> cases rest <;>
    simp [downCtx, tailCtx, runHops, ingressUpdate, egressUpdate, run_tailCtx, betas]

/-- **against construction direction** (up segments, core segments): starting at the last AS
    `n-1` and leaving at AS `s` (`peer`: over its peering link), the routers validate the hop
    fields of ASes `n-1, …, s` with exactly the accumulators the beaconing ASes used -/
theorem up_sync (s0 : Nat) (σ : List Nat) (s : Nat) (peer : Bool) (pm : Nat)
    (hs : s < σ.length) :
    ∃ b, calculateBeta false s peer s0 σ = some b ∧
      runHops false b (upCtx σ s peer pm) = (expected s0 σ s peer).reverse := by
  obtain ⟨pre, x, rest, rfl, rfl⟩ := exists_split hs
  rw [expected_split]
  rcases List.eq_nil_or_concat rest with rfl | ⟨mid, y, rfl⟩
  · refine ⟨_, calc_up_single s0 pre x peer, ?_⟩
    cases peer <;> simp [upCtx, upBody, runHops, ingressUpdate, betas, updateSegID]
  · rw [List.concat_eq_append]
    refine ⟨_, calc_up_multi s0 pre x y mid peer, ?_⟩
    -- the first router sees β_{n-1} unchanged, the middle ones walk down to β_{s+1}
    -- (`run_upBody_all`), which is what is left for the hop of AS `s`
    generalize extractBeta s0 pre = β
    simp only [upCtx, List.drop_left' rfl, List.reverse_append, List.reverse_cons,
      List.reverse_nil, List.nil_append, upBody, List.cons_append, runHops, runHops_append,
      final_upBody_false, xorAll_reverse, betas_append, extractBeta_eq, betas]
    cases peer <;> simp [ingressUpdate, egressUpdate, run_upBody_all, xor_cancel, updateSegID]

def ctx (down : Bool) (σ : List Nat) (s : Nat) (peer : Bool) (pm : Nat) : List HopCtx :=
  if down then downCtx σ s peer pm else upCtx σ s peer pm

/-- **C22**, list form: for every segment (any length), direction, entry/exit AS `s`, with or
    without peering there, and arbitrary MAC prefixes: given the initial value `calculateBeta`
    puts into the info field, the SegID values the routers use for MAC validation are, hop for
    hop, the accumulators the beaconing ASes used when creating those hop fields. -/
theorem segid_sync (down : Bool) (s0 : Nat) (σ : List Nat) (s : Nat) (peer : Bool) (pm : Nat)
    (hs : s < σ.length) :
    ∃ b, calculateBeta down s peer s0 σ = some b ∧
      runHops down b (ctx down σ s peer pm) =
        (if down then expected s0 σ s peer else (expected s0 σ s peer).reverse) := by
  cases down with
  | true => simpa [ctx] using down_sync s0 σ s peer pm hs
  | false => simpa [ctx] using up_sync s0 σ s peer pm hs

theorem expected_length (s0 : Nat) (σ : List Nat) (s : Nat) (peer : Bool) (hs : s < σ.length) :
    (expected s0 σ s peer).length = σ.length - s := by
  cases peer <;> simp [expected, hs, betas_length] <;> omega

/-- the construction-time accumulator of the hop field of AS entry `j` as it appears on the path:
    β_j for a regular hop entry, β_{j+1} for a peer entry (only possible at `j = s`) -/
theorem expected_getElem? (s0 : Nat) (σ : List Nat) (s : Nat) (peer : Bool) (j : Nat)
    (hs : s ≤ j) (hj : j < σ.length) :
    (expected s0 σ s peer)[j - s]? =
      some (if peer = true ∧ j = s then beta s0 σ (j + 1) else beta s0 σ j) := by
  cases peer with
  | false =>
    simp only [expected, Bool.false_eq_true, if_false, false_and, List.getElem?_drop]
    rw [show s + (j - s) = j by omega]
    exact betas_getElem? s0 σ j hj
  | true =>
    have hs' : s < σ.length := by omega
    simp only [expected, if_true, hs', true_and]
    by_cases hjs : j = s
    · subst hjs; simp
    · obtain ⟨k, hk⟩ : ∃ k, j - s = k + 1 := ⟨j - s - 1, by omega⟩
      rw [hk, List.getElem?_cons_succ, List.getElem?_drop, show s + 1 + k = j by omega]
      simp only [hjs, if_false]
      exact betas_getElem? s0 σ j hj

/-- **C22**, pointwise form (construction direction): the `(j-s)`-th router on the traversed part
    validates AS entry `j` with the accumulator its creator used -/
theorem segid_sync_hop_down (s0 : Nat) (σ : List Nat) (s : Nat) (peer : Bool) (pm j : Nat)
    (hs : s ≤ j) (hj : j < σ.length) :
    ∃ b, calculateBeta true s peer s0 σ = some b ∧
      (runHops true b (downCtx σ s peer pm))[j - s]? =
        some (if peer = true ∧ j = s then beta s0 σ (j + 1) else beta s0 σ j) := by
  obtain ⟨b, hb, hr⟩ := down_sync s0 σ s peer pm (by omega)
  exact ⟨b, hb, by rw [hr]; exact expected_getElem? s0 σ s peer j hs hj⟩

/-- **C22**, pointwise form (against construction direction): the `(n-1-j)`-th router on the
    traversed part validates AS entry `j` with the accumulator its creator used -/
theorem segid_sync_hop_up (s0 : Nat) (σ : List Nat) (s : Nat) (peer : Bool) (pm j : Nat)
    (hs : s ≤ j) (hj : j < σ.length) :
    ∃ b, calculateBeta false s peer s0 σ = some b ∧
      (runHops false b (upCtx σ s peer pm))[σ.length - 1 - j]? =
        some (if peer = true ∧ j = s then beta s0 σ (j + 1) else beta s0 σ j) := by
  obtain ⟨b, hb, hr⟩ := up_sync s0 σ s peer pm (by omega)
  refine ⟨b, hb, ?_⟩
  have hl := expected_length s0 σ s peer (by omega)
  rw [hr, List.getElem?_reverse' (j := j - s) (by omega)]
  exact expected_getElem? s0 σ s peer j hs hj

/-! ### The rules that never apply -/

/-- in construction direction the ingress rule never fires, whatever link the packet came in on -/
theorem ingress_noop_consdir (h : HopCtx) (seg : Nat) : ingressUpdate true h seg = seg := by
  simp [ingressUpdate]

/-- against construction direction the egress rule never fires -/
theorem egress_noop_nonconsdir (h : HopCtx) (seg : Nat) : egressUpdate false h seg = seg := by
  simp [egressUpdate]

/-- no update of any kind on a peering hop -/
theorem peering_noop (c : Bool) (h : HopCtx) (seg : Nat) (hp : h.peering = true) :
    ingressUpdate c h seg = seg ∧ egressUpdate c h seg = seg := by
  simp [ingressUpdate, egressUpdate, hp]

/-! ### What is left in the info field (used by C03: replies over the reversed path) -/

/-- after a traversal in construction direction the info field holds exactly the value path
    combination would have chosen for the same part of the segment in the opposite direction -/
theorem down_final_is_up_start (s0 : Nat) (σ : List Nat) (s : Nat) (peer : Bool) (pm : Nat)
    (hs : s < σ.length) :
    ∃ b, calculateBeta true s peer s0 σ = some b ∧
      calculateBeta false s peer s0 σ = some (finalSeg true b (downCtx σ s peer pm)) := by
  obtain ⟨pre, x, rest, rfl, rfl⟩ := exists_split hs
  refine ⟨_, calc_down s0 pre x rest peer, ?_⟩
  rcases List.eq_nil_or_concat rest with rfl | ⟨mid, y, rfl⟩
  · rw [calc_up_single]
    cases peer <;> simp [downCtx, finalSeg, tailCtx, ingressUpdate, egressUpdate]
  · rw [List.concat_eq_append, calc_up_multi]
    cases peer <;>
      simp [downCtx, finalSeg, ingressUpdate, egressUpdate, final_tailCtx, extractBeta_eq,
        updateSegID]

/-- … and after a traversal against construction direction it holds the value path combination
    would have chosen for the construction direction -/
theorem up_final_is_down_start (s0 : Nat) (σ : List Nat) (s : Nat) (peer : Bool) (pm : Nat)
    (hs : s < σ.length) :
    ∃ b, calculateBeta false s peer s0 σ = some b ∧
      calculateBeta true s peer s0 σ = some (finalSeg false b (upCtx σ s peer pm)) := by
  obtain ⟨pre, x, rest, rfl, rfl⟩ := exists_split hs
  rw [calc_down]
  rcases List.eq_nil_or_concat rest with rfl | ⟨mid, y, rfl⟩
  · refine ⟨_, calc_up_single s0 pre x peer, ?_⟩
    cases peer <;> simp [upCtx, upBody, finalSeg, ingressUpdate, egressUpdate]
  · rw [List.concat_eq_append]
    refine ⟨_, calc_up_multi s0 pre x y mid peer, ?_⟩
    cases peer <;>
      simp [upCtx, upBody, finalSeg, finalSeg_append, final_upBody_false, ingressUpdate,
        egressUpdate, xorAll_reverse, xor_cancel, updateSegID]

/-! ### Non-vacuity and sensitivity

A 4-AS segment with concrete MAC prefixes; entering at AS 1 over its peering link.  The routers
use β₂ (for the peer entry), β₂, β₃; a router that updated the accumulator on the peering hop, or
a combinator that started from β₁, would present a different value to AS 1. -/
example :
    let σ := [0x1234, 0xabcd, 0x0f0f, 0x8001]
    calculateBeta true 1 true 0x5555 σ = some (0x5555 ^^^ 0x1234 ^^^ 0xabcd) ∧
    runHops true (0x5555 ^^^ 0x1234 ^^^ 0xabcd) (downCtx σ 1 true 0x7777) =
      [beta 0x5555 σ 2, beta 0x5555 σ 2, beta 0x5555 σ 3] ∧
    beta 0x5555 σ 1 ≠ beta 0x5555 σ 2 ∧
    runHops false (beta 0x5555 σ 3) (upCtx σ 1 true 0x7777) =
      [beta 0x5555 σ 3, beta 0x5555 σ 2, beta 0x5555 σ 2] := by
  decide

end Scion.C22
