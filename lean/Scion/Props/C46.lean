import Scion.Proofs.AddrParse
import Scion.Gen.AddrText
import Scion.Gen.AddrFmt
/-!
# C46 — ISD-AS and address text formats round-trip

Property theorems, with the few helpers that speak of this file's own predicates (`SepOK`, `SepStrOK`,
`NamedSVC`, `HostOK`); lemmas about the model alone are in `Scion.Proofs.AddrDigits` and
`Scion.Proofs.AddrParse`.  The model (`Scion.Model.Addr`) is tied to `pkg/addr` by
`harness/cmd/addrtext` (T1) and the constants by `Scion.Gen.AddrText` (T3).
-/
namespace Scion.C46
open Scion.Addr

/-! ## Separators -/

/-- what the round trip needs of a single-character separator: it is not '-' (which separates
    ISD and AS) and not one of the sixteen characters the formatter prints for digits -/
def SepOK (c : Char) : Prop := c ≠ '-' ∧ ∀ d, d < 16 → c ≠ digitChar d

/-- the class named in the statement's guard (DESIGN §7a): any character outside
    `[0-9a-fA-F-]`, i.e. not '-' and not a hexadecimal digit for `strconv.ParseUint` -/
def OutsideHexDash (c : Char) : Prop := c ≠ '-' ∧ ∀ d, digitVal c = some d → 16 ≤ d

theorem sepOK_of_outsideHexDash (c : Char) (h : OutsideHexDash c) : SepOK c := by
  refine ⟨h.1, ?_⟩
  intro d hd heq
  have := h.2 d (by rw [heq]; exact digitVal_digitChar d hd)
  omega

/-- a sanctioned way to build the options: prefix flag and an optional `WithSeparator` whose
    argument is empty or a single admissible character -/
def SepArgOK : Option Str → Prop
  | none => True
  | some [] => True
  | some [c] => SepOK c
  | some (_ :: _ :: _) => False

/-- separator strings for which the round trip holds: no '-' and at least one character the
    formatter never prints for a digit (a separator made of digit characters only, or containing
    '-', cannot work: `ff00` + `0` + `110` with separator "0" is ambiguous) -/
def SepStrOK (sep : Str) : Prop := '-' ∉ sep ∧ ∃ c ∈ sep, ∀ d, d < 16 → c ≠ digitChar d

private theorem nondigit {sep : Str} (h : ∃ c ∈ sep, ∀ d, d < 16 → c ≠ digitChar d) :
    ∃ c ∈ sep, ¬ IsDigitChar c :=
  h.imp fun _ hc => ⟨hc.1, fun ⟨d, hd, e⟩ => hc.2 d hd e⟩

private theorem sepStrOK_single {c : Char} (hc : SepOK c) : SepStrOK [c] :=
  ⟨fun h => hc.1 (List.mem_singleton.1 h).symm, c, List.mem_singleton_self c, hc.2⟩

private theorem sepOK_colon : SepOK ':' :=
  ⟨by decide, fun d hd e => not_isDigitChar ':' rfl ⟨d, hd, e⟩⟩

/-! ## ISD and AS -/

/-- every ISD prints to text that parses back to it -/
theorem parse_format_isd (isd : Nat) (h : isd < 2 ^ 16) : parseISD (fmtISD isd) = .ok isd :=
  parseUint_toDigits 10 16 isd (by omega) (by omega) h

/-- every AS number prints (decimal up to 2^32-1, three hex groups above) to text that parses
    back to it, for every separator string of any length that contains at least one non-digit
    character (the separator cannot start inside a digit group, so `strings.Split` cuts where
    the formatter joined) -/
theorem parse_format_as_sepstr (sep : Str) (hX : ∃ c ∈ sep, ∀ d, d < 16 → c ≠ digitChar d)
    (as : Nat) (h : as < 2 ^ 48) : parseAS sep (fmtAS sep as) = .ok as :=
  parseAS_fmtAS sep (nondigit hX) as h

/-- … in particular for every single-character separator that is not a lower-case hex digit -/
theorem parse_format_as_sep (c : Char) (hc : ∀ d, d < 16 → c ≠ digitChar d) (as : Nat)
    (h : as < 2 ^ 48) : parseAS [c] (fmtAS [c] as) = .ok as :=
  parse_format_as_sepstr [c] ⟨c, List.mem_singleton_self c, hc⟩ as h

/-- `ParseAS(AS.String())` -/
theorem parse_format_as (as : Nat) (h : as < 2 ^ 48) : parseAS [':'] (fmtAS [':'] as) = .ok as :=
  parse_format_as_sep ':' sepOK_colon.2 as h

/-- the AS text is decimal up to 2^32-1 and three 16-bit hex groups above -/
theorem fmtAS_form (sep : Str) (as : Nat) (h : as < 2 ^ 48) :
    (as ≤ 2 ^ 32 - 1 → fmtAS sep as = toDigits 10 as) ∧
    (2 ^ 32 ≤ as → fmtAS sep as = toDigits 16 (as / 2 ^ 32 % 2 ^ 16) ++ sep ++
      toDigits 16 (as / 2 ^ 16 % 2 ^ 16) ++ sep ++ toDigits 16 (as % 2 ^ 16)) := by
  rcases fmtAS_cases sep as h with ⟨hlt, e⟩ | ⟨hge, e⟩
  · exact ⟨fun _ => e, fun h2 => absurd hlt (Nat.not_lt.2 h2)⟩
  · exact ⟨fun h2 => absurd (Nat.lt_of_le_pred (Nat.two_pow_pos 32) h2) (Nat.not_lt.2 hge),
      fun _ => e⟩

/-! ## ISD-AS, with the optional 'ISD'/'AS' prefixes and a custom separator -/

theorem parse_format_formatted_isd (o : Opts) (isd : Nat) (h : isd < 2 ^ 16) :
    parseFormattedISD o (formatISD o isd) = .ok isd := by
  have e1 := parse_format_isd _ h
  unfold fmtISD at e1
  unfold parseFormattedISD formatISD
  cases o.pfx <;> simp [trimPrefix?, isdPrefix, List.isPrefixOf, e1]

private theorem parse_format_formatted_as_sepstr (o : Opts)
    (hX : ∃ c ∈ o.sep, ∀ d, d < 16 → c ≠ digitChar d) (as : Nat) (h : as < 2 ^ 48) :
    parseFormattedAS o (formatAS o as) = .ok as := by
  unfold parseFormattedAS formatAS
  cases o.pfx <;> simp [trimPrefix?, asPrefix, List.isPrefixOf, parse_format_as_sepstr o.sep hX as h]

theorem parse_format_formatted_as (p : Bool) (c : Char) (hc : ∀ d, d < 16 → c ≠ digitChar d)
    (as : Nat) (h : as < 2 ^ 48) :
    parseFormattedAS ⟨p, [c]⟩ (formatAS ⟨p, [c]⟩ as) = .ok as :=
  parse_format_formatted_as_sepstr ⟨p, [c]⟩ ⟨c, List.mem_singleton_self c, hc⟩ as h

/-- **any custom separator**: `ParseFormattedIA(FormatIA(ia, opts), opts) = ia` for every
    separator string of any length that contains no '-' and at least one non-digit character -/
theorem parse_format_formatted_ia_anysep (p : Bool) (sep : Str) (hs : SepStrOK sep) (ia : Nat)
    (h : ia < 2 ^ 64) : parseFormattedIA ⟨p, sep⟩ (formatIA ⟨p, sep⟩ ia) = .ok ia := by
  have hisd : iaISD ia < 2 ^ 16 := by simp only [iaISD]; omega
  have has : iaAS ia < 2 ^ 48 := Nat.mod_lt _ (by omega)
  -- `formatIA_eq`: ISD text, '-', AS text; neither text contains a '-'
  have dash := not_isDigitChar '-' rfl
  have hI : '-' ∉ formatISD ⟨p, sep⟩ (iaISD ia) := by
    have := notin_toDigits '-' dash 10 (by omega) (by omega) (iaISD ia)
    cases p <;> simp [formatISD, isdPrefix, this]
  have hA : '-' ∉ formatAS ⟨p, sep⟩ (iaAS ia) := by
    have : '-' ∉ fmtAS sep (iaAS ia) := fun hm => (mem_fmtAS _ _ has _ hm).elim dash hs.1
    cases p <;> simp [formatAS, asPrefix, this]
  unfold parseFormattedIA
  rw [formatIA_eq, split_single_append '-' _ _ hI, split_single_notin '-' _ hA]
  simp only [parse_format_formatted_isd _ _ hisd,
    parse_format_formatted_as_sepstr ⟨p, sep⟩ hs.2 _ has, iaFrom_parts]

/-- `ParseFormattedIA(FormatIA(ia, opts), opts) = ia` for options with a single-character
    separator that is admissible -/
theorem parse_format_formatted_ia_char (p : Bool) (c : Char) (hc : SepOK c) (ia : Nat)
    (h : ia < 2 ^ 64) : parseFormattedIA ⟨p, [c]⟩ (formatIA ⟨p, [c]⟩ ia) = .ok ia :=
  parse_format_formatted_ia_anysep p [c] (sepStrOK_single hc) ia h

/-- default options print `IA.String()` -/
theorem format_default (ia : Nat) : formatIA (mkOpts false none) ia = fmtIA ia := by
  simp [formatIA, mkOpts, defaultOpts, fmtIA, fmtISD]

/-- every ISD-AS prints to text that parses back to it -/
theorem parse_format_ia (ia : Nat) (h : ia < 2 ^ 64) : parseIA (fmtIA ia) = .ok ia := by
  rw [← format_default]
  exact parse_format_formatted_ia_char false ':' sepOK_colon ia h

/-- "an empty separator falls back to ':' as documented" -/
theorem empty_separator_is_colon (p : Bool) : mkOpts p (some []) = mkOpts p (some [':']) := rfl

theorem default_separator_is_colon (p : Bool) : mkOpts p none = mkOpts p (some [':']) := by
  cases p <;> rfl

/-- **Round trip with options**: for every ISD-AS, with or without the prefixes, with no
    separator option, the empty separator or any admissible single-character separator, the
    formatted text parses back to the same value under the same options. -/
theorem parse_format_formatted_ia (p : Bool) (s : Option Str) (hs : SepArgOK s) (ia : Nat)
    (h : ia < 2 ^ 64) : parseFormattedIA (mkOpts p s) (formatIA (mkOpts p s) ia) = .ok ia := by
  match s, hs with
  | none, _ =>
    rw [default_separator_is_colon, mkOpts_cons]
    exact parse_format_formatted_ia_char p ':' sepOK_colon ia h
  | some [], _ =>
    rw [empty_separator_is_colon, mkOpts_cons]
    exact parse_format_formatted_ia_char p ':' sepOK_colon ia h
  | some [c], hc =>
    rw [mkOpts_cons]
    exact parse_format_formatted_ia_char p c hc ia h

/-- … and through the public options with `WithSeparator(sep)` for any admissible string -/
theorem parse_format_formatted_ia_withSeparator (p : Bool) (sep : Str) (hs : SepStrOK sep)
    (ia : Nat) (h : ia < 2 ^ 64) :
    parseFormattedIA (mkOpts p (some sep)) (formatIA (mkOpts p (some sep)) ia) = .ok ia := by
  cases sep with
  | nil => obtain ⟨_, c, hc, _⟩ := hs; simp at hc
  | cons x xs =>
    rw [mkOpts_cons]
    exact parse_format_formatted_ia_anysep p (x :: xs) hs ia h

/-- the empty separator prints exactly what ':' prints -/
theorem format_empty_separator (p : Bool) (ia : Nat) :
    formatIA (mkOpts p (some [])) ia = formatIA (mkOpts p (some [':'])) ia := by
  rw [empty_separator_is_colon]

/-! ## Service addresses -/

/-- `ParseSVC` accepts exactly `NAME`, `NAME_A` (anycast) and `NAME_M` (multicast) for the three
    names, and returns the named value -/
theorem parseSVC_ok_iff (s : Str) (v : Nat) :
    parseSVC s = .ok v ↔
      ∃ n base, (n = nameDS ∧ base = svcDS ∨ n = nameCS ∧ base = svcCS ∨
                 n = nameWildcard ∧ base = svcWildcard) ∧
        (s = n ∧ v = base ∨ s = n ++ sufA ∧ v = base ∨ s = n ++ sufM ∧ v = base + svcMcast) := by
  constructor
  · intro h
    unfold parseSVC at h
    split at h
    · rename_i t ht
      obtain ⟨base, hn, hv⟩ := parseSVCBase_ok 0 t v h
      exact ⟨t, base, hn, .inr (.inl ⟨trimSuffix?_some _ _ _ ht, hv⟩)⟩
    · split at h
      · rename_i t ht
        obtain ⟨base, hn, hv⟩ := parseSVCBase_ok svcMcast t v h
        exact ⟨t, base, hn, .inr (.inr ⟨trimSuffix?_some _ _ _ ht, hv⟩)⟩
      · obtain ⟨base, hn, hv⟩ := parseSVCBase_ok 0 s v h
        exact ⟨s, base, hn, .inl ⟨rfl, hv⟩⟩
  · rintro ⟨n, base, (⟨rfl, rfl⟩ | ⟨rfl, rfl⟩ | ⟨rfl, rfl⟩),
      (⟨rfl, rfl⟩ | ⟨rfl, rfl⟩ | ⟨rfl, rfl⟩)⟩ <;> decide

/-- it accepts only text that begins with the first letter of a name -/
private theorem parseSVC_head (c : Char) (t : Str) (v : Nat) (h : parseSVC (c :: t) = .ok v) :
    c = 'D' ∨ c = 'C' ∨ c = 'W' := by
  obtain ⟨n, base, hn, hs⟩ := (parseSVC_ok_iff _ v).1 h
  obtain ⟨suf, hs⟩ : ∃ suf, c :: t = n ++ suf := by
    rcases hs with ⟨e, _⟩ | ⟨e, _⟩ | ⟨e, _⟩
    · exact ⟨[], by rw [e, List.append_nil]⟩
    · exact ⟨_, e⟩
    · exact ⟨_, e⟩
  rcases hn with ⟨rfl, _⟩ | ⟨rfl, _⟩ | ⟨rfl, _⟩
  · exact .inl (List.cons.inj hs).1
  · exact .inr (.inl (List.cons.inj hs).1)
  · exact .inr (.inr (List.cons.inj hs).1)

/-- the named services, anycast and multicast -/
def NamedSVC (h : Nat) : Prop :=
  h = svcDS ∨ h = svcCS ∨ h = svcWildcard ∨
  h = svcDS + svcMcast ∨ h = svcCS + svcMcast ∨ h = svcWildcard + svcMcast

theorem parse_format_svc (h : Nat) (hn : NamedSVC h) : parseSVC (fmtSVC h) = .ok h := by
  rcases hn with rfl | rfl | rfl | rfl | rfl | rfl <;> decide +kernel

/-- the `_A` spelling of an anycast service address is accepted on input -/
theorem parse_svc_anycast_suffix (h : Nat) (hn : h = svcDS ∨ h = svcCS ∨ h = svcWildcard) :
    parseSVC (fmtSVC h ++ sufA) = .ok h := by
  rcases hn with rfl | rfl | rfl <;> decide +kernel

/-- every other 16-bit value prints as `<SVC:0x….>` (`_M` appended when the multicast bit is
    set) … -/
theorem fmt_unnamed_svc (h : Nat) (hn : ¬ NamedSVC h) :
    fmtSVC h = "<SVC:0x".toList ++ hex4 h ++ ['>'] ++ (if svcIsMulticast h then sufM else []) := by
  simp only [NamedSVC, not_or] at hn
  obtain ⟨ds, cs, wc, dsM, csM, wcM⟩ := hn
  unfold fmtSVC svcBaseString
  rw [if_neg fun e => (svcBase_eq h _ (by decide) e).elim ds dsM,
    if_neg fun e => (svcBase_eq h _ (by decide) e).elim cs csM,
    if_neg fun e => (svcBase_eq h _ (by decide) e).elim wc wcM]
  split
  · rfl
  · exact (List.append_nil _).symm

/-- … which `ParseSVC` rejects, since a name begins with a letter (by design there is no round
    trip for unnamed services) -/
theorem parse_unnamed_svc_rejected (h : Nat) (hn : ¬ NamedSVC h) :
    parseSVC (fmtSVC h) = .error .form := by
  cases hr : parseSVC (fmtSVC h) with
  | error e => rw [parseSVC_error _ e hr]
  | ok v =>
    rw [fmt_unnamed_svc h hn] at hr
    rcases parseSVC_head '<' _ v hr with e | e | e <;> cases e

/-! ## Parsing rejects out-of-range numbers and malformed text instead of returning a different value

Exact characterisations of what is accepted, against an independent denotation of digit strings
(`ofDigits`): a parser returns `v` only for text that denotes `v`; everything else is an error. -/

/-- `s` is a non-empty string of base-`b` digits (either letter case) whose value `v` fits `bits` bits -/
def Denotes (b bits : Nat) (s : Str) (v : Nat) : Prop :=
  s ≠ [] ∧ (∀ c ∈ s, IsDigit b c) ∧ ofDigits b s = v ∧ v < 2 ^ bits

theorem parseISD_ok_iff (s : Str) (v : Nat) : parseISD s = .ok v ↔ Denotes 10 16 s v :=
  parseUint_ok_iff 10 16 (by omega) s v

theorem parseAS_ok_iff (c : Char) (s : Str) (v : Nat) :
    parseAS [c] s = .ok v ↔
      (c ∉ s ∧ Denotes 10 32 s v) ∨
      ∃ a b d x y z, s = a ++ c :: (b ++ c :: d) ∧ c ∉ a ∧ c ∉ b ∧ c ∉ d ∧
        Denotes 16 16 a x ∧ Denotes 16 16 b y ∧ Denotes 16 16 d z ∧
        v = x * 2 ^ 32 + y * 2 ^ 16 + z := by
  have d10 : ∀ v, Denotes 10 32 s v ↔ parseUint 10 32 s = .ok v :=
    fun v => (parseUint_ok_iff 10 32 (by omega) s v).symm
  have d16 : ∀ t v, Denotes 16 16 t v ↔ parseUint 16 16 t = .ok v :=
    fun t v => (parseUint_ok_iff 16 16 (by omega) t v).symm
  simp only [d10, d16]
  obtain ⟨hj, hno⟩ := split_single_spec c s
  rw [parseAS_ok]
  constructor
  · rintro (⟨p, hp, hv⟩ | ⟨a, b, d, x, y, z, hp, hx, hy, hz, rfl⟩) <;>
      rw [hp] at hj hno <;> simp at hj
    · subst hj
      exact .inl ⟨hno p (by simp), hv⟩
    · exact .inr ⟨a, b, d, x, y, z, hj.symm, hno a (by simp), hno b (by simp), hno d (by simp),
        hx, hy, hz, by omega⟩
  · rintro (⟨hc, hd⟩ | ⟨a, b, d, x, y, z, rfl, ha, hb, hd, hx, hy, hz, rfl⟩)
    · exact .inl ⟨s, split_single_notin c s hc, hd⟩
    · refine .inr ⟨a, b, d, x, y, z, ?_, hx, hy, hz, by omega⟩
      rw [split_single_append c a _ ha, split_single_append c b _ hb, split_single_notin c d hd]

theorem parseIA_ok_iff (s : Str) (v : Nat) :
    parseIA s = .ok v ↔
      ∃ a b i as, s = a ++ '-' :: b ∧ '-' ∉ a ∧ '-' ∉ b ∧ parseISD a = .ok i ∧
        parseAS [':'] b = .ok as ∧ v = i * 2 ^ 48 + as := by
  obtain ⟨hj, hno⟩ := split_single_spec '-' s
  constructor
  · intro h
    unfold parseIA at h
    split at h
    · rename_i a b hp
      rw [hp] at hj hno
      simp at hj
      split at h
      · cases h
      · rename_i i hi
        split at h
        · cases h
        · rename_i as has
          cases h
          refine ⟨a, b, i, as, hj.symm, hno a (by simp), hno b (by simp), hi, has, ?_⟩
          have := parseAS_lt _ _ _ has
          simp only [iaFrom]
          omega
    · cases h
  · rintro ⟨a, b, i, as, rfl, ha, hb, hi, has, rfl⟩
    unfold parseIA
    rw [split_single_append '-' a _ ha, split_single_notin '-' b hb]
    have e : as % 2 ^ 48 = as := Nat.mod_eq_of_lt (parseAS_lt _ _ _ has)
    simp only [hi, has, iaFrom, e]

/-- normalising an AS text (`ParseAS` then `String`, as the path-policy listener does) keeps the
    value: the normal form parses to the same AS -/
theorem format_parse_canonical (s : Str) (v : Nat) (h : parseAS [':'] s = .ok v) :
    parseAS [':'] (fmtAS [':'] v) = .ok v :=
  parse_format_as v (parseAS_lt _ _ _ h)

/-- two texts denote the same AS iff their normal forms are equal -/
theorem normal_form_eq_iff (s₁ s₂ : Str) (v₁ v₂ : Nat) (h₁ : parseAS [':'] s₁ = .ok v₁)
    (h₂ : parseAS [':'] s₂ = .ok v₂) : fmtAS [':'] v₁ = fmtAS [':'] v₂ ↔ v₁ = v₂ :=
  ⟨fmtAS_inj [':'] colon_sep v₁ v₂ (parseAS_lt _ _ _ h₁) (parseAS_lt _ _ _ h₂), fun e => by rw [e]⟩

/-! ## Host addresses and full SCION addresses -/

/-- what is assumed of Go's `net/netip` text form (tied by T1 through the engine's oracle) -/
structure IPCodecOK {IP : Type} (k : IPCodec IP) : Prop where
  /-- `netip.ParseAddr(ip.String()) = ip` -/
  roundtrip : ∀ a, k.parse (k.fmt a) = some a
  /-- an IP literal is not a service name -/
  notSVC : ∀ a v, parseSVC (k.fmt a) ≠ .ok v
  /-- needed for `[…]:port` only: no brackets inside the literal (zones are the caller's business) -/
  noBracket : ∀ a, '[' ∉ k.fmt a ∧ ']' ∉ k.fmt a

/-- hosts with a text form that parses: IP addresses and the named services -/
def HostOK {IP : Type} : Host IP → Prop
  | .none => False
  | .ip _ => True
  | .svc s => NamedSVC s

theorem parse_format_host {IP : Type} (k : IPCodec IP) (hk : IPCodecOK k) (h : Host IP)
    (hh : HostOK h) : parseHost k (fmtHost k h) = .ok h := by
  cases h with
  | none => exact absurd hh (by simp [HostOK])
  | ip a =>
    unfold parseHost fmtHost
    cases hp : parseSVC (k.fmt a) with
    | ok v => exact absurd hp (hk.notSVC a v)
    | error e => simp [hk.roundtrip a]
  | svc s =>
    unfold parseHost fmtHost
    simp [parse_format_svc s hh]

theorem parse_format_addr {IP : Type} (k : IPCodec IP) (hk : IPCodecOK k) (ia : Nat)
    (hia : ia < 2 ^ 64) (h : Host IP) (hh : HostOK h) :
    parseAddr k (fmtAddr k ia h) = .ok (ia, h) := by
  have hc := notin_fmtIA ia ',' rfl (by decide) (by decide)
  unfold parseAddr fmtAddr
  have e : fmtIA ia ++ [','] ++ fmtHost k h = fmtIA ia ++ ',' :: fmtHost k h := by simp
  rw [e, splitFirst_append ',' _ _ hc]
  simp [parse_format_ia ia hia, parse_format_host k hk h hh]

private theorem fmtHost_noBracket {IP : Type} (k : IPCodec IP) (hk : IPCodecOK k) (h : Host IP)
    (hh : HostOK h) : '[' ∉ fmtHost k h ∧ ']' ∉ fmtHost k h := by
  cases h with
  | none => exact absurd hh (by simp [HostOK])
  | ip a => exact hk.noBracket a
  | svc s =>
    show '[' ∉ fmtSVC s ∧ ']' ∉ fmtSVC s
    rcases hh with rfl | rfl | rfl | rfl | rfl | rfl <;> decide +kernel

/-- `ParseAddrPort(FormatAddrPort(a, port)) = (a, port)` -/
theorem parse_format_addrPort {IP : Type} (k : IPCodec IP) (hk : IPCodecOK k) (ia : Nat)
    (hia : ia < 2 ^ 64) (h : Host IP) (hh : HostOK h) (port : Nat) (hp : port < 2 ^ 16) :
    parseAddrPort k (fmtAddrPort k ia h port) = .ok ((ia, h), port) := by
  have hb := fmtHost_noBracket k hk h hh
  have hA : ∀ c, c.isAlphanum = false → c ≠ '-' → c ≠ ':' → c ≠ ',' → c ∉ fmtHost k h →
      c ∉ fmtAddr k ia h := by
    intro c hc h1 h2 h3 h4
    simp only [fmtAddr, List.mem_append, List.mem_singleton, not_or]
    exact ⟨⟨notin_fmtIA ia c hc h1 h2, h3⟩, h4⟩
  have hP := fun c hc => notin_toDigits c (not_isDigitChar c hc) 10 (by omega) (by omega) port
  have e : fmtAddrPort k ia h port = '[' :: (fmtAddr k ia h ++ ']' :: ':' :: toDigits 10 port) := by
    simp [fmtAddrPort]
  unfold parseAddrPort
  rw [e, splitHostPort_bracket _ _
    ⟨hA '[' rfl (by decide) (by decide) (by decide) hb.1,
      hA ']' rfl (by decide) (by decide) (by decide) hb.2⟩ ⟨hP ':' rfl, hP '[' rfl, hP ']' rfl⟩]
  simp [parse_format_addr k hk ia hia h hh, parseUint_toDigits 10 16 port (by omega) (by omega) hp]

/-! ## Non-vacuity -/

-- a (toy) IP codec meeting the assumptions: one address, written 1.2.3.4
def toyCodec : IPCodec Unit := ⟨fun s => if s = "1.2.3.4".toList then some () else none, fun _ => "1.2.3.4".toList⟩
example : IPCodecOK toyCodec where
  roundtrip := by intro a; cases a; decide +kernel
  notSVC := by
    intro a v h
    have e : parseSVC "1.2.3.4".toList = .error .form := by decide +kernel
    simp only [toyCodec] at h
    rw [e] at h
    cases h
  noBracket := by intro a; cases a; decide +kernel
example : fmtAddrPort toyCodec 0x0001ff0000000110 (.svc (svcCS + svcMcast)) 80 =
    "[1-ff00:0:110,CS_M]:80".toList := by decide +kernel
example : SepStrOK "_x_".toList := ⟨by decide, '_', by decide, by decide⟩
example : SepOK '_' := ⟨by decide, by decide⟩
example : OutsideHexDash '_' := ⟨by decide, by decide⟩
example : SepArgOK (some ['_']) := ⟨by decide, by decide⟩
-- 1-ff00:0:110 = 0x0001_ff00_0000_0110
example : formatIA (mkOpts true (some ['_'])) 0x0001ff0000000110 = "ISD1-ASff00_0_110".toList := by
  decide +kernel
example : parseFormattedIA (mkOpts true (some ['_'])) "ISD1-ASff00_0_110".toList =
    .ok 0x0001ff0000000110 := by decide +kernel
example : fmtIA 0x0001ff0000000110 = "1-ff00:0:110".toList := by decide +kernel
example : fmtAS [':'] (2 ^ 32 - 1) = "4294967295".toList ∧ fmtAS [':'] (2 ^ 32) = "1:0:0".toList := by
  decide +kernel
example : parseAS [':'] "4294967296".toList = .error .range ∧
    parseAS [':'] "1:0:10000".toList = .error .range ∧ parseISD "65536".toList = .error .range ∧
    parseIA "1-ff00:0".toList = .error .form := by decide +kernel
example : fmtSVC (svcCS + svcMcast) = "CS_M".toList ∧ fmtSVC 3 = "<SVC:0x0003>".toList := by decide +kernel

end Scion.C46

/-! Constants regenerated from the source (T3) agree with the ones the model was written for. -/
namespace Scion.C46
open Scion.Gen.AddrText in
theorem gen_consts :
    ISDBits = Scion.Addr.isdBits ∧ ASBits = Scion.Addr.asBits ∧ BGPASBits = Scion.Addr.bgpASBits ∧
    MaxISD = Scion.Addr.maxISD ∧ MaxAS = Scion.Addr.maxAS ∧ MaxBGPAS = Scion.Addr.maxBGPAS ∧
    asPartBits = Scion.Addr.asPartBits ∧ asPartBase = Scion.Addr.asPartBase ∧ asParts = 3 ∧
    SvcDS = Scion.Addr.svcDS ∧ SvcCS = Scion.Addr.svcCS ∧ SvcWildcard = Scion.Addr.svcWildcard ∧
    SvcNone = Scion.Addr.svcNone ∧ SVCMcast = Scion.Addr.svcMcast := by decide

/-- the layouts the formatters print, regenerated from the source (T3): `ISD%d-AS%s` / `%d-%s`,
    `<SVC:0x%04x>`, `%s,%s`, `[%s]:%d` — the shapes `formatIA`, `fmtIA`, `svcBaseString`, `fmtAddr`,
    `fmtAddrPort` were written for -/
theorem gen_formats :
    Scion.Gen.AddrFmt.FormatIA = ["ISD%d-AS%s|ia.ISD(),as", "%d-%s|ia.ISD(),as"] ∧
    Scion.Gen.AddrFmt.FormatISD = ["ISD%d|isd"] ∧
    Scion.Gen.AddrFmt.IA_String = ["%d-%s|ia.ISD(),ia.AS()"] ∧
    Scion.Gen.AddrFmt.SVC_BaseString = ["<SVC:0x%04x>|uint16(h)"] ∧
    Scion.Gen.AddrFmt.Addr_String = ["%s,%s|a.IA,a.Host"] ∧
    Scion.Gen.AddrFmt.FormatAddrPort = ["[%s]:%d|a,port"] :=
  ⟨rfl, rfl, rfl, rfl, rfl, rfl⟩
end Scion.C46
