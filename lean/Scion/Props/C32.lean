import Scion.Proofs.TrcUpdate
import Scion.Props.C33
import Scion.Gen.Pki1Trc
/-!
# C32 — TRC updates are accepted only with the required votes and signatures

Property theorems only.  "Accepted" is `SignedTRC.Verify(predecessor) = nil`, modelled by
`Scion.Trc.verify`, tied to the real code by `harness/cmd/trc` (real certificates, keys and CMS
signatures; the signer table `okUnder` is filled by really verifying).  Certificates are
identified by their position in the payload (`ICert = index × facts`), which is what a Go
`*x509.Certificate` taken from `TRC.Certificates` is.
-/
namespace Scion.C32
open Scion.Trc

/-- the signer infos contain a verifying signature of entry `c` of the list `certs` the code
looked it up in -/
def SignedBy (sis : List Signer) (certs : List ICert) (c : ICert) : Prop :=
  ∃ si ∈ sis, findCert si certs = .some c ∧ c.2.id ∈ si.okUnder

def Accepts (sis : List Signer) (t p : TRC) (u : Update) : Prop :=
  t.isBase = false ∧ verify sis t (some p) = .ok (some u)

theorem accepts_inv {sis : List Signer} {t p : TRC} {u : Update} (h : Accepts sis t p u) :
    validateUpdate t (some p) = .ok u ∧ verifyAll sis u.newVoters = true ∧
    verifyAll sis u.acks = true ∧ verifyAll sis u.votes = true := by
  obtain ⟨hb, h⟩ := h
  unfold verify at h
  rw [if_pos hb] at h
  split at h; · cases h
  rename_i u' hu
  simp only [ite_error_eq_ok, Bool.not_eq_false] at h
  obtain ⟨h1, h2, h3, h⟩ := h
  cases h
  exact ⟨hu, h1, h2, h3⟩

/-- **Valid payload.** An accepted successor has a valid payload (every rule of C33). -/
theorem update_accept_imp_valid {sis t p u} (h : Accepts sis t p u) : C33.Rules t :=
  (C33.validate_iff_rules t).mp (validateUpdate_ok (accepts_inv h).1).1

/-- **Same ISD and base number, next serial number, same trust-reset flag.**  (`serial` and
`base` are `uint64` in the code; the successor's serial is the exact successor.) -/
theorem update_accept_imp_link {sis t p u} (h : Accepts sis t p u) (hp : p.serial < 2^64) :
    t.isd = p.isd ∧ t.base = p.base ∧ t.serial = p.serial + 1 ∧
    t.noTrustReset = p.noTrustReset := by
  obtain ⟨hval, p', hp', hl, _⟩ := validateUpdate_ok (accepts_inv h).1
  cases hp'
  have l := checkLink_ok hl
  have r := (C33.validate_iff_rules t).mp hval
  have h1 := r.base_pos
  have h2 := r.base_le_serial
  refine ⟨l.1.symm, l.2.1.symm, ?_, l.2.2.2.1.symm⟩
  have := l.2.2.1
  omega

theorem other_base_rejected (sis : List Signer) (t p : TRC) (hb : t.base ≠ p.base) :
    ∀ u, ¬ Accepts sis t p u := by
  intro u h
  obtain ⟨_, p', hp', hl, _⟩ := validateUpdate_ok (accepts_inv h).1
  cases hp'
  exact hb (checkLink_ok hl).2.1.symm

def votingClass : UpdType → Cls
  | .sensitive => .sens
  | .regular => .reg

theorem votes_of_shape {t p : TRC} {u : Update} (s : UpdShape t p u) :
    castVotes (ofCls (votingClass u.type) p.certs) t.votes = some u.votes := by
  cases s with
  | sensitive v0 rest hv hfirst hvotes hty => rw [hty]; exact hvotes
  | regular v0 rest hv x hfirst hreg hty => rw [hty]; exact (validateRegular_ok hreg).votes

/-- **Votes.** In an accepted update the vote list consists of indices into the predecessor's
certificates, each naming a sensitive (sensitive update) resp. regular (regular update) voting
certificate of the predecessor; there are at least `quorum(predecessor)` of them; they are
pairwise DISTINCT; and each of these certificates has a verifying signature on the TRC. -/
theorem update_accept_imp_votes {sis t p u} (h : Accepts sis t p u) :
    u.votes.map (fun v => (v.1 : Int)) = t.votes ∧
    p.quorum ≤ (u.votes.length : Int) ∧
    (u.votes.map (·.1)).Nodup ∧
    (∀ v ∈ u.votes, p.certs[v.1]? = some v.2 ∧ v.2.cls = votingClass u.type) ∧
    (∀ v ∈ u.votes, SignedBy sis u.votes v) := by
  obtain ⟨hu, _, _, hsig⟩ := accepts_inv h
  obtain ⟨_, p', hp', hl, _, _, shape⟩ := validateUpdate_ok hu
  cases hp'
  have hv := castVotes_some (votes_of_shape shape)
  have hva := verifyAll_true hsig
  refine ⟨hv.1, ?_, hva.1, fun v hvm => ofCls_mem (hv.2 v hvm), hva.2⟩
  have := (checkLink_ok hl).2.2.2.2
  rw [← hv.1, List.length_map] at this
  exact this

/-- **Quorum of distinct voters (both update types).**  There is a set of pairwise distinct
voting certificates of the predecessor, all of the class required by the update type, at least
as many as the predecessor's quorum, each of which signed the TRC.  For `u.type = .sensitive`
this is `sensitive_quorum_distinct` of DESIGN §5.7: duplicate votes cannot make up a quorum. -/
theorem sensitive_quorum_distinct {sis t p u} (h : Accepts sis t p u) :
    ∃ voters : List ICert,
      (voters.map (·.1)).Nodup ∧ p.quorum ≤ (voters.length : Int) ∧
      (∀ v ∈ voters, p.certs[v.1]? = some v.2 ∧ v.2.cls = votingClass u.type ∧
        SignedBy sis voters v) :=
  let ⟨_, h2, h3, h4, h5⟩ := update_accept_imp_votes h
  ⟨u.votes, h3, h2, fun v hv => ⟨(h4 v hv).1, (h4 v hv).2, h5 v hv⟩⟩

/-- **Classification.** The update is regular exactly when the first vote names a regular
voting certificate of the predecessor (otherwise it must pass as a sensitive update). -/
theorem update_type_iff {sis t p u} (h : Accepts sis t p u) :
    u.type = .regular ↔
      ∃ v0 rest, t.votes = v0 :: rest ∧ (lookup (ofCls .reg p.certs) v0).isSome := by
  obtain ⟨_, p', hp', _, _, _, shape⟩ := validateUpdate_ok (accepts_inv h).1
  cases hp'
  cases shape with
  | sensitive v0 rest hv hfirst hvotes hty =>
    rw [hty]
    constructor
    · intro hh; cases hh
    · rintro ⟨v0', rest', hv', hs⟩
      rw [hv] at hv'; cases hv'
      rw [hfirst] at hs; cases hs
  | regular v0 rest hv x hfirst hreg hty =>
    rw [hty]
    exact ⟨fun _ => ⟨v0, rest, hv, by simp [hfirst]⟩, fun _ => rfl⟩

/-- **Regular update restrictions.**  In an accepted regular update: quorum, core and
authoritative ASes are unchanged; every sensitive voting certificate is byte-identical to one of
the predecessor (and their number is unchanged); the numbers of root and of regular voting
certificates are unchanged and each of them has a predecessor certificate with the same subject
(none added, none removed); every replaced regular voting certificate cast a vote; every
replaced root certificate acknowledged the update with a verifying signature. -/
theorem regular_accept_imp_restrictions {sis t p u} (h : Accepts sis t p u)
    (hty : u.type = .regular) :
    p.quorum = t.quorum ∧ p.core = t.core ∧ p.auth = t.auth ∧
    (ofCls .sens p.certs).length = (ofCls .sens t.certs).length ∧
    (∀ c ∈ ofCls .sens t.certs, ∃ q ∈ ofCls .sens p.certs, q.2.subj = c.2.subj ∧ q.2.id = c.2.id) ∧
    (ofCls .root p.certs).length = (ofCls .root t.certs).length ∧
    (ofCls .reg p.certs).length = (ofCls .reg t.certs).length ∧
    (∀ c ∈ ofCls .reg t.certs, ∃ q ∈ ofCls .reg p.certs, q.2.subj = c.2.subj ∧
      (q.2.id ≠ c.2.id → (q.1 : Int) ∈ t.votes)) ∧
    (∀ c ∈ ofCls .root t.certs, ∃ q ∈ ofCls .root p.certs, q.2.subj = c.2.subj ∧
      (q.2.id ≠ c.2.id → SignedBy sis u.acks q)) := by
  obtain ⟨hu, _, hack, _⟩ := accepts_inv h
  obtain ⟨_, p', hp', _, _, _, shape⟩ := validateUpdate_ok hu
  cases hp'
  cases shape with
  | sensitive v0 rest hv hfirst hvotes hty' => rw [hty'] at hty; cases hty
  | regular v0 rest hv x hfirst hreg hty' =>
    have f := validateRegular_ok hreg
    have hva := verifyAll_true hack
    refine ⟨f.quorum, f.core, f.auth, f.sensCount, ?_, f.rootCount, f.regCount, ?_, ?_⟩
    · intro c hc
      exact unchangedIn_true (f.sensSame c hc)
    · intro c hc
      obtain ⟨q, hq, hin⟩ := f.regKept c hc
      exact ⟨q, (findSubj_some hq).1, (findSubj_some hq).2, hin⟩
    · intro c hc
      obtain ⟨q, hq, hin⟩ := f.rootKept c hc
      refine ⟨q, (findSubj_some hq).1, (findSubj_some hq).2, ?_⟩
      exact fun hne => hva.2 q (hin hne)

/-- **None removed.**  In an accepted regular update every root and every regular voting
certificate of the predecessor still has a certificate with the same subject in the successor
(together with `regular_accept_imp_restrictions`: the two subject sets coincide — nothing
added, nothing removed).  Pigeonhole: the successor's subjects are pairwise distinct (C33),
each occurs in the predecessor, and the numbers are equal. -/
theorem regular_accept_none_removed {sis t p u} (h : Accepts sis t p u) (hty : u.type = .regular)
    (k : Cls) (hk : k = .reg ∨ k = .root) :
    ∀ q ∈ ofCls k p.certs, ∃ c ∈ ofCls k t.certs, c.2.subj = q.2.subj := by
  obtain ⟨_, _, _, _, _, hrc, hgc, hreg, hroot⟩ := regular_accept_imp_restrictions h hty
  have rules := update_accept_imp_valid h
  have hnd : ((ofCls k t.certs).map (fun p => p.2.subj)).Nodup := by
    rw [ofCls_subjects]
    exact rules.subject_unique k (by rcases hk with rfl | rfl <;> simp)
  have hsub : (ofCls k t.certs).map (fun p => p.2.subj) ⊆ (ofCls k p.certs).map (fun p => p.2.subj) := by
    intro s hs
    obtain ⟨c, hc, rfl⟩ := List.mem_map.mp hs
    rcases hk with rfl | rfl
    · obtain ⟨q, hq, hsq, _⟩ := hreg c hc
      exact List.mem_map.mpr ⟨q, hq, hsq⟩
    · obtain ⟨q, hq, hsq, _⟩ := hroot c hc
      exact List.mem_map.mpr ⟨q, hq, hsq⟩
  have hlen : ((ofCls k p.certs).map (fun p => p.2.subj)).length ≤
      ((ofCls k t.certs).map (fun p => p.2.subj)).length := by
    rcases hk with rfl | rfl <;> simp <;> omega
  have hc := nodup_of_cover _ _ hnd hsub hlen
  intro q hq
  have : q.2.subj ∈ (ofCls k t.certs).map (fun p => p.2.subj) :=
    hc.2 (List.mem_map.mpr ⟨q, hq, rfl⟩)
  obtain ⟨c, hc', hs⟩ := List.mem_map.mp this
  exact ⟨c, hc', hs⟩

/-- **Proof of possession.**  Every voting certificate of the successor that is not
byte-identical to the predecessor's certificate of the same class and subject — newly
introduced or re-issued, sensitive or regular, in either update type — signed the TRC. -/
theorem new_voters_signed {sis t p u} (h : Accepts sis t p u) (k : Cls)
    (hk : k = .sens ∨ k = .reg) (c : ICert) (hc : c ∈ ofCls k t.certs)
    (hnew : unchangedIn (ofCls k p.certs) c.2 = false) :
    SignedBy sis u.newVoters c := by
  obtain ⟨hu, hnv, _, _⟩ := accepts_inv h
  obtain ⟨_, p', hp', _, _, hn, _⟩ := validateUpdate_ok hu
  cases hp'
  rw [hn] at hnv ⊢
  exact (verifyAll_true hnv).2 c (mem_newVoters hk hc hnew)

/-- **Base TRC.**  A base TRC is accepted exactly when no predecessor is supplied, its payload
is valid and `verifyAll` succeeds for all its voting certificates … -/
theorem base_accept_iff (sis : List Signer) (t : TRC) (p : Option TRC) (hb : t.isBase = true) :
    verify sis t p = .ok none ↔
      p = none ∧ validate t = .ok () ∧ verifyAll sis (newVoters [] t.certs) = true := by
  unfold verify
  simp only [hb, Bool.true_eq_false, if_false]
  cases p with
  | some p' => simp
  | none =>
    cases hv : validate t with
    | error e => simp
    | ok u => cases hvv : verifyAll sis (newVoters [] t.certs) <;> simp

/-- … which implies that every sensitive and every regular voting certificate of the base TRC
signed it. -/
theorem base_accept_imp_all_voters_signed (sis : List Signer) (t : TRC) (p : Option TRC)
    (hb : t.isBase = true) (h : verify sis t p = .ok none) (k : Cls) (hk : k = .sens ∨ k = .reg)
    (c : ICert) (hc : c ∈ ofCls k t.certs) :
    C33.Rules t ∧ SignedBy sis (newVoters [] t.certs) c := by
  obtain ⟨_, hval, hall⟩ := (base_accept_iff sis t p hb).mp h
  refine ⟨(C33.validate_iff_rules t).mp hval, ?_⟩
  exact (verifyAll_true hall).2 c (mem_newVoters hk hc rfl)

theorem update_needs_predecessor (sis : List Signer) (t : TRC) (hb : t.isBase = false) :
    ∀ r, verify sis t none ≠ .ok r := by
  intro r h
  unfold verify at h
  simp only [hb, if_true] at h
  split at h
  · cases h
  · rename_i u hu
    obtain ⟨_, p', hp', _⟩ := validateUpdate_ok hu
    cases hp'

/-- **T3.** `verifyUpdate` validates the update and then hands exactly the new voters, the root
acknowledgments and the votes to `verifyAll`; `verifyAll` compares the number of distinct
verified certificates with the number of certificates it was given (the pigeonhole step of
`sensitive_quorum_distinct`); `ValidateUpdate` makes the ID / flag / vote-count comparisons of
`checkLink` in this order (regenerated from `/repo` on every run). -/
theorem gen_update_facts :
    Gen.Pki1Trc.verifyUpdateCalls =
      ["ValidateUpdate(predecessor)", "verifyAll(update.NewVoters)",
       "verifyAll(update.RootAcknowledgments)", "verifyAll(update.Votes)"] ∧
    Gen.Pki1Trc.verifyAllCountCond = ["len(seen) != len(certs)"] ∧
    Gen.Pki1Trc.updateConds =
      ["predecessor == nil", "predecessor.ID.ISD != trc.ID.ISD", "predecessor.ID.Base != trc.ID.Base",
       "predecessor.ID.Serial+1 != trc.ID.Serial", "predecessor.NoTrustReset != trc.NoTrustReset",
       "len(trc.Votes) < predecessor.Quorum"] :=
  ⟨rfl, rfl, rfl⟩

/-! ### Non-vacuity -/

def exP : TRC := C33.exTRC
/-- regular update: voters 2 and 3 (the two regular certificates) vote -/
def exT : TRC := { C33.exTRC with serial := 2, votes := [3, 2], grace := 5 }
def sigOf (c : Cert) : Signer := { kind := 1, iss := c.issR, serial := c.serial, ski := 0, okUnder := [c.id] }
def exSis : List Signer := [sigOf (C33.exCert 3 .reg), sigOf (C33.exCert 4 .reg)]

example : ∃ u, Accepts exSis exT exP u ∧ u.type = .regular := by
  refine ⟨{ type := .regular, newVoters := [], votes := [(3, C33.exCert 4 .reg), (2, C33.exCert 3 .reg)],
            acks := [] }, ⟨rfl, ?_⟩, rfl⟩
  rfl
-- a duplicate vote does not make up the quorum
example : verify exSis { exT with votes := [3, 3] } (some exP) = .error .sigVote := by rfl
-- nor does a vote without signature
example : verify [sigOf (C33.exCert 3 .reg)] exT (some exP) = .error .sigVote := by rfl
-- a sensitive voter's index in a regular update is refused
example : verify exSis { exT with votes := [3, 0] } (some exP) = .error (.upd .regVote) := by rfl

end Scion.C32
