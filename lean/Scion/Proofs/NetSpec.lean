import Scion.Proofs.NetRun
import Scion.Proofs.NetChain
/-! Direction-generic description of a segment as the packet sees it (`FL`, forwarding order), its derivation from the
control-plane chains, the transit lemma, the four legs of a journey (source AS, along a segment, segment change,
destination AS) and, composed from them, the run over any number of segments described by `SegSpec`s. -/
namespace Scion.Net
open Scion.SegID (updateSegID extractBeta xorAll calculateBeta)

def firstOf (l : List ASE) (last : ASE) : ASE :=
  match l with
  | [] => last
  | e :: _ => e

/-- interface through which the packet leaves / enters the AS of entry `e` when the segment is
    traversed in construction direction (`cd`) or against it -/
def outF (cd : Bool) (e : ASE) : Nat := if cd then e.hop.cEg else e.hop.cIn
def inF (cd : Bool) (e : ASE) : Nat := if cd then e.hop.cIn else e.hop.cEg

/-- SegID under which the hop field of `e` verifies, given the SegID `seg` the packet carries when
    it reaches the AS over an external link -/
def usedAt (cd : Bool) (seg : Nat) (e : ASE) : Nat :=
  if cd then seg else updateSegID seg (pfx e.hop.mac)

def EgLT (core cd : Bool) (lt : LinkType) : Prop :=
  if cd then lt = beaconLink core else opposite (beaconLink core) lt = true
def InLT (core cd : Bool) (lt : LinkType) : Prop :=
  if cd then opposite (beaconLink core) lt = true else lt = beaconLink core

/-- The link type on either side of a traversal is a function of the kind of segment and the direction. -/
def inLTof (core cd : Bool) : LinkType := if core then .core else if cd then .parent else .child
def egLTof (core cd : Bool) : LinkType := if core then .core else if cd then .child else .parent

theorem InLT_iff (core cd : Bool) (a : LinkType) : InLT core cd a ↔ a = inLTof core cd := by
  cases core <;> cases cd <;> cases a <;> simp [InLT, inLTof, opposite, beaconLink]
theorem EgLT_iff (core cd : Bool) (a : LinkType) : EgLT core cd a ↔ a = egLTof core cd := by
  cases core <;> cases cd <;> cases a <;> simp [EgLT, egLTof, opposite, beaconLink]

theorem ltSame_table : ∀ core cd : Bool, ltSame (inLTof core cd) (egLTof core cd) = true := by decide

/-- up before core before down: the segment changes the router admits -/
theorem ltXover_table : ∀ core cd core2 cd2 : Bool,
    (if core then 1 else if cd then 2 else 0) < (if core2 then 1 else if cd2 then 2 else 0) →
    ltXover (inLTof core cd) (egLTof core2 cd2) = true := by decide

theorem InLT_not (core cd : Bool) (a : LinkType) : InLT core (!cd) a ↔ EgLT core cd a := by
  cases cd <;> exact Iff.rfl
theorem EgLT_not (core cd : Bool) (a : LinkType) : EgLT core (!cd) a ↔ InLT core cd a := by
  cases cd <;> exact Iff.rfl

/-- the link between two consecutive ASes of a traversal, seen from both ends -/
def LinkF (net : Net) (core cd : Bool) (e e' : ASE) : Prop :=
  ∃ f g, (net e.ia).iface (outF cd e) = some f ∧ outF cd e ≠ 0 ∧ f.nbr = e'.ia ∧
    f.nbrIf = inF cd e' ∧ (net e'.ia).iface (inF cd e') = some g ∧ inF cd e' ≠ 0 ∧
    g.nbr = e.ia ∧ g.nbrIf = outF cd e ∧ EgLT core cd f.lt ∧ InLT core cd g.lt

/-- a segment (part) in forwarding order: every hop entry verifies under the SegID the routers
    will present, consecutive ASes are joined by links of the right kind -/
def FL (mac : MacFn) (net : Net) (core cd : Bool) (ts : Nat) : Nat → List ASE → Prop
  | _, [] => True
  | seg, [e] => MacAt mac net ts (usedAt cd seg e) e
  | seg, e :: e' :: rest =>
    MacAt mac net ts (usedAt cd seg e) e ∧ LinkF net core cd e e' ∧
      FL mac net core cd ts (updateSegID seg (pfx e.hop.mac)) (e' :: rest)

theorem fl_head (mac : MacFn) (net : Net) (core cd : Bool) (ts seg : Nat) (e0 : ASE) (mid : List ASE)
    (last : ASE) (h : FL mac net core cd ts seg (e0 :: (mid ++ [last]))) :
    MacAt mac net ts (usedAt cd seg e0) e0 ∧ LinkF net core cd e0 (firstOf mid last) := by
  cases mid with
  | nil => exact ⟨h.1, h.2.1⟩
  | cons e r => exact ⟨h.1, h.2.1⟩

theorem fl_take (mac : MacFn) (net : Net) (core cd : Bool) (ts : Nat) (l1 : List ASE) :
    ∀ (l2 : List ASE) (seg : Nat), l1 ≠ [] → FL mac net core cd ts seg (l1 ++ l2) →
      FL mac net core cd ts seg l1 := by
  induction l1 with
  | nil => intro _ _ h; exact absurd rfl h
  | cons x xs ih =>
    intro l2 seg _ hc
    cases xs with
    | nil =>
      cases l2 with
      | nil => simpa using hc
      | cons y ys => simp only [List.cons_append, List.nil_append, FL] at hc ⊢; exact hc.1
    | cons y ys =>
      simp only [List.cons_append, FL] at hc ⊢
      exact ⟨hc.1, hc.2.1, ih l2 _ (by simp) hc.2.2⟩

theorem opposite_symm (a b : LinkType) (h : opposite a b = true) : opposite b a = true := by
  cases a <;> cases b <;> simp_all [opposite]

theorem linkF_symm (net : Net) (core cd : Bool) (e e' : ASE) (h : LinkF net core cd e e') :
    LinkF net core (!cd) e' e := by
  obtain ⟨f, g, h1, h2, h3, h4, h5, h6, h7, h8, h9, h10⟩ := h
  have ho : outF (!cd) = inF cd := by cases cd <;> rfl
  have hi : inF (!cd) = outF cd := by cases cd <;> rfl
  rw [LinkF, ho, hi]
  exact ⟨g, f, h5, h6, h7, h8, h1, h2, h3, h4, (EgLT_not core cd _).2 h10, (InLT_not core cd _).2 h9⟩

/-- a beaconing link seen from both ends; the far end exists and has the opposite type in a well-formed network -/
theorem linked_linkF (net : Net) (core : Bool) (hWF : WFNet net) (e e' : ASE) (h : Linked net core e e') :
    LinkF net core true e e' := by
  obtain ⟨f, hf, hflt, hfn, hfi, hne⟩ := h
  obtain ⟨_, _, g, hg, hgn, hgi, hopp⟩ := hWF _ _ _ hf
  rw [hfn, hfi] at hg
  rw [hflt] at hopp
  exact ⟨f, g, hf, hne, hfn, hfi, hg, (hWF _ _ _ hg).1, hgn, hgi, hflt, hopp⟩

theorem chain_FL (mac : MacFn) (net : Net) (core : Bool) (ts : Nat) (hWF : WFNet net)
    (l : List ASE) : ∀ β, Chain mac net core ts β l → FL mac net core true ts β l := by
  induction l with
  | nil => intro _ _; trivial
  | cons e rest ih =>
    intro β hc
    cases rest with
    | nil => exact hc
    | cons e' r => exact ⟨hc.1, linked_linkF net core hWF e e' hc.2.1, ih _ hc.2.2⟩

theorem chainUp_FL (mac : MacFn) (net : Net) (core : Bool) (ts : Nat) (hWF : WFNet net)
    (l : List ASE) : ∀ b, ChainUp mac net core ts b l → FL mac net core false ts b l := by
  induction l with
  | nil => intro _ _; trivial
  | cons e rest ih =>
    intro b hc
    cases rest with
    | nil => exact hc
    | cons e' r => exact ⟨hc.1, linkF_symm net core true e' e (linked_linkF net core hWF e' e hc.2.1), ih _ hc.2.2⟩

/-- interfaces crossed while traversing `l` and arriving at `last` -/
def fTrace (cd : Bool) : List ASE → ASE → List (Nat × Nat)
  | [], _ => []
  | e :: rest, last =>
    (e.ia, outF cd e) :: ((firstOf rest last).ia, inF cd (firstOf rest last)) :: fTrace cd rest last

/-- links crossed along a list of consecutive ASes -/
def linkTrace (cd : Bool) : List ASE → List (Nat × Nat)
  | e :: e' :: r => (e.ia, outF cd e) :: (e'.ia, inF cd e') :: linkTrace cd (e' :: r)
  | _ => []

theorem fTrace_link (cd : Bool) (l : List ASE) (last : ASE) :
    linkTrace cd (l ++ [last]) = fTrace cd l last := by
  induction l with
  | nil => simp [linkTrace, fTrace]
  | cons e r ih =>
    cases r with
    | nil => simp [linkTrace, fTrace, firstOf]
    | cons y ys =>
      have := ih
      simp only [List.cons_append] at this ⊢
      simp [linkTrace, fTrace, firstOf, this]

theorem linkTrace_snoc (cd : Bool) (l : List ASE) (y x : ASE) :
    linkTrace cd (l ++ [y, x]) = linkTrace cd (l ++ [y]) ++ [(y.ia, outF cd y), (x.ia, inF cd x)] := by
  induction l with
  | nil => simp [linkTrace]
  | cons e r ih =>
    cases r with
    | nil => simp [linkTrace]
    | cons z zs =>
      have := ih
      simp only [List.cons_append] at this ⊢
      simp [linkTrace, this]

theorem linkTrace_reverse (cd : Bool) (l : List ASE) :
    linkTrace (!cd) l.reverse = (linkTrace cd l).reverse := by
  induction l with
  | nil => rfl
  | cons x xs ih =>
    cases xs with
    | nil => simp [linkTrace]
    | cons y ys =>
      have h1 : (x :: y :: ys).reverse = ys.reverse ++ [y, x] := by simp
      rw [h1, linkTrace_snoc]
      have h2 : ys.reverse ++ [y] = (y :: ys).reverse := by simp
      rw [h2, ih]
      cases cd <;> simp [linkTrace, outF, inF]

theorem fTrace_reverse (cd : Bool) (mid : List ASE) (x last : ASE) :
    (fTrace cd (x :: mid) last).reverse = fTrace (!cd) (last :: mid.reverse) x := by
  rw [← fTrace_link, ← fTrace_link, ← linkTrace_reverse]
  simp

theorem ltSame_of (core cd : Bool) (a b : LinkType) (h1 : InLT core cd a) (h2 : EgLT core cd b) :
    ltSame a b = true := by
  rw [(InLT_iff core cd a).1 h1, (EgLT_iff core cd b).1 h2]
  exact ltSame_table core cd

theorem outSide_hopOf (cd : Bool) (e : ASE) : outSide cd (hopOf e.hop) = outF cd e := by
  cases cd <;> rfl
theorem usedSeg_hopOf (cd : Bool) (seg : Nat) (e : ASE) :
    usedSeg cd seg (hopOf e.hop) = usedAt cd seg e := by
  cases cd <;> rfl
theorem nextSeg_hopOf (cd : Bool) (seg : Nat) (e : ASE) :
    nextSeg cd seg (hopOf e.hop) = updateSegID seg (pfx e.hop.mac) := by
  cases cd <;> rfl

theorem macOk_of_macAt (mac : MacFn) (net : Net) (ts β : Nat) (e : ASE) (cd pr : Bool)
    (h : MacAt mac net ts β e) : macOk mac (net e.ia).key ⟨cd, pr, β, ts⟩ (hopOf e.hop) = true := by
  simpa [macOk, hopOf] using h.1.symm

section
variable (mac : MacFn) (net : Net) (now src dst : Nat) (pr core cd : Bool) (ts : Nat)
variable (hUp : AllUp net) (hSR : SingleRouter net)
include hUp hSR

theorem fl_transits (l : List ASE) : ∀ (prevE last : ASE) (seg : Nat),
    FL mac net core cd ts seg (prevE :: (l ++ [last])) →
    (∀ e ∈ l, e.ia ≠ src ∧ e.ia ≠ dst ∧ expired now ts e.hop.exp = false) →
    Transits mac net now src dst cd pr ts (updateSegID seg (pfx prevE.hop.mac))
      (firstOf l last).ia (inF cd (firstOf l last)) (l.map fun e => hopOf e.hop)
      (extractBeta (updateSegID seg (pfx prevE.hop.mac)) (sig l)) last.ia (inF cd last)
      (fTrace cd l last) := by
  induction l with
  | nil =>
    intro prevE last seg _ _
    simpa [firstOf, sig, extractBeta, fTrace] using Transits.nil _ _ _
  | cons e rest ih =>
    intro prevE last seg hc hprop
    simp only [List.cons_append, FL] at hc
    obtain ⟨_, hl0, hc1⟩ := hc
    obtain ⟨f0, g0, _, _, _, _, hg0, hin0, _, _, _, hInLT⟩ := hl0
    obtain ⟨hm, f1, g1, hf1, hout, hf1n, hf1i, hg1, _, _, _, hEgLT, _⟩ := fl_head _ _ _ _ _ _ _ _ _ hc1
    obtain ⟨hs, hd, hexp⟩ := hprop e (by simp)
    have hrec := ih e last (updateSegID seg (pfx prevE.hop.mac)) hc1
      (fun x hx => hprop x (by simp [hx]))
    have hcons := Transits.cons (mac := mac) (net := net) (now := now) (src := src) (dst := dst)
      (cd := cd) (pr := pr) (ts := ts) (updateSegID seg (pfx prevE.hop.mac)) e.ia (inF cd e)
      (hopOf e.hop) (rest.map fun e => hopOf e.hop)
      (extractBeta (updateSegID (updateSegID seg (pfx prevE.hop.mac)) (pfx e.hop.mac)) (sig rest))
      last.ia (inF cd last) (fTrace cd rest last) g0 f1 g1
      hin0 rfl hs hd
      (macOk_of_macAt mac net ts _ e cd pr hm)
      hexp rfl rfl hg0
      hf1 hout
      (hUp _ _ _ hf1) (hSR _ _ _ hf1)
      (ltSame_of core cd _ _ hInLT hEgLT)
      (by rw [hf1n, hf1i]; exact hg1) (hSR _ _ _ hg1)
      (by rw [hf1n, hf1i, nextSeg_hopOf]; exact hrec)
    rw [outSide_hopOf, hf1n, hf1i] at hcons
    simpa [firstOf, sig, extractBeta, fTrace] using hcons

end

theorem fl_last (mac : MacFn) (net : Net) (core cd : Bool) (ts : Nat) (l : List ASE) :
    ∀ (prevE last : ASE) (seg : Nat), FL mac net core cd ts seg (prevE :: (l ++ [last])) →
      MacAt mac net ts (usedAt cd (extractBeta (updateSegID seg (pfx prevE.hop.mac)) (sig l)) last) last ∧
      inF cd last ≠ 0 ∧ ∃ g, (net last.ia).iface (inF cd last) = some g ∧ InLT core cd g.lt := by
  induction l with
  | nil =>
    intro prevE last seg hc
    simp only [List.nil_append, FL] at hc
    obtain ⟨_, ⟨f, g, _, _, _, _, hg, h0, _, _, _, hlt⟩, hm⟩ := hc
    exact ⟨by simpa [sig, extractBeta] using hm, h0, g, hg, hlt⟩
  | cons e rest ih =>
    intro prevE last seg hc
    simp only [List.cons_append, FL] at hc
    have := ih e last _ hc.2.2
    simpa [sig, extractBeta] using this

/-- a path segment as the run lemmas see it: direction, kind, timestamp, the SegID state `seg0`
    (the packet carries `usedAt cd seg0 e0` when it enters the segment) and its ASes in forwarding
    order `e0 :: mid ++ [last]` -/
structure SegSpec where
  cd : Bool
  core : Bool
  ts : Nat
  seg0 : Nat
  e0 : ASE
  mid : List ASE
  last : ASE

namespace SegSpec
def l (s : SegSpec) : List ASE := s.e0 :: (s.mid ++ [s.last])
def hops (s : SegSpec) : List Hop := s.l.map fun e => hopOf e.hop
/-- the segment as path combination puts it into the packet -/
def toSeg (s : SegSpec) : Seg := ⟨⟨s.cd, false, usedAt s.cd s.seg0 s.e0, s.ts⟩, s.hops⟩
/-- SegID in the packet when it reaches the last AS of the segment -/
def arrSeg (s : SegSpec) : Nat := extractBeta (updateSegID s.seg0 (pfx s.e0.hop.mac)) (sig s.mid)
/-- the segment as it is left behind in the packet -/
def doneSeg (s : SegSpec) : Seg := ⟨⟨s.cd, false, usedAt s.cd s.arrSeg s.last, s.ts⟩, s.hops⟩
def trace (s : SegSpec) : List (Nat × Nat) :=
  (s.e0.ia, outF s.cd s.e0) :: ((firstOf s.mid s.last).ia, inF s.cd (firstOf s.mid s.last)) ::
    fTrace s.cd s.mid s.last
end SegSpec

/-- link-type pairs at the joint of two segments are admitted by the router -/
def XLT (s s2 : SegSpec) : Prop :=
  ∀ a b, InLT s.core s.cd a → EgLT s2.core s2.cd b → ltXover a b = true

/-- everything the rest of the journey needs, once the first AS of segment `s` has sent the
    packet on: `s` and the segments after it -/
def TailOK (mac : MacFn) (net : Net) (now src dst : Nat) : SegSpec → List SegSpec → Prop
  | s, [] =>
    FL mac net s.core s.cd s.ts s.seg0 s.l ∧
    (∀ e ∈ s.mid, e.ia ≠ src ∧ e.ia ≠ dst ∧ expired now s.ts e.hop.exp = false) ∧
    expired now s.ts s.last.hop.exp = false ∧ dst = s.last.ia
  | s, s2 :: r =>
    FL mac net s.core s.cd s.ts s.seg0 s.l ∧
    (∀ e ∈ s.mid, e.ia ≠ src ∧ e.ia ≠ dst ∧ expired now s.ts e.hop.exp = false) ∧
    expired now s.ts s.last.hop.exp = false ∧ s.last.ia ≠ src ∧ s.last.ia ≠ dst ∧
    s.last.ia = s2.e0.ia ∧ expired now s2.ts s2.e0.hop.exp = false ∧ XLT s s2 ∧
    TailOK mac net now src dst s2 r

def tailFuel : SegSpec → List SegSpec → Nat
  | s, [] => s.mid.length + 1
  | s, s2 :: r => s.mid.length + 1 + tailFuel s2 r

def tailTrace : SegSpec → List SegSpec → List (Nat × Nat)
  | s, [] => fTrace s.cd s.mid s.last
  | s, s2 :: r =>
    fTrace s.cd s.mid s.last ++
      ((s.last.ia, outF s2.cd s2.e0) ::
        ((firstOf s2.mid s2.last).ia, inF s2.cd (firstOf s2.mid s2.last)) :: tailTrace s2 r)

/-- the packet as delivered -/
def finalCur : List SegSpec → List Seg → SegSpec → Cursor
  | [], before, s =>
    ⟨before, ⟨s.cd, false, usedAt s.cd s.arrSeg s.last, s.ts⟩,
      hopOf s.e0.hop :: s.mid.map (fun e => hopOf e.hop), hopOf s.last.hop, [], []⟩
  | s2 :: r, before, s => finalCur r (before ++ [s.doneSeg]) s2

theorem tailOK_fl (mac : MacFn) (net : Net) (now src dst : Nat) (s : SegSpec) (rest : List SegSpec)
    (h : TailOK mac net now src dst s rest) : FL mac net s.core s.cd s.ts s.seg0 s.l := by
  cases rest <;> exact h.1

theorem toSeg_len (s : SegSpec) : s.toSeg.hops.length ≠ 1 := by
  simp [SegSpec.toSeg, SegSpec.hops, SegSpec.l]
theorem toSeg_lens (l : List SegSpec) : ∀ sg ∈ l.map SegSpec.toSeg, sg.hops.length ≠ 1 := by
  intro sg hsg
  obtain ⟨x, _, rfl⟩ := List.mem_map.1 hsg
  exact toSeg_len x
theorem doneSeg_len (s : SegSpec) : s.doneSeg.hops.length ≠ 1 := by
  simp [SegSpec.doneSeg, SegSpec.hops, SegSpec.l]

theorem toSeg_eq (s : SegSpec) : s.toSeg = ⟨⟨s.cd, false, usedAt s.cd s.seg0 s.e0, s.ts⟩,
    hopOf s.e0.hop :: ((s.mid.map fun e => hopOf e.hop) ++ [hopOf s.last.hop])⟩ := by
  simp [SegSpec.toSeg, SegSpec.hops, SegSpec.l]

theorem doneSeg_eq (s : SegSpec) : s.doneSeg = ⟨⟨s.cd, false, usedAt s.cd s.arrSeg s.last, s.ts⟩,
    (hopOf s.e0.hop :: s.mid.map fun e => hopOf e.hop) ++ [hopOf s.last.hop]⟩ := by
  simp [SegSpec.doneSeg, SegSpec.hops, SegSpec.l]

theorem egSeg_usedAt (cd : Bool) (seg : Nat) (e : ASE) :
    egSeg cd (usedAt cd seg e) (hopOf e.hop) = updateSegID seg (pfx e.hop.mac) := by
  cases cd <;> rfl

theorem lastSeg_hopOf (cd : Bool) (seg : Nat) (e : ASE) :
    lastSeg cd false seg (hopOf e.hop) = usedAt cd seg e := by
  cases cd <;> rfl

/-- the destination AS -/
theorem last_ends {mac : MacFn} {net : Net} {now src dst : Nat} {pr cd : Bool} {ts seg : Nat} {last : ASE} {before : List Seg} {done : List Hop}
    (tr0 : List (Nat × Nat))
    (hsing : pr = true ∨ ∀ s ∈ before, s.hops.length ≠ 1) (hpr : pr = true → before.length = 1)
    (hdone : done ≠ [])
    (hml : MacAt mac net ts (usedAt cd seg last) last) (hin0 : inF cd last ≠ 0)
    (hexpl : expired now ts last.hop.exp = false) (hdst : dst = last.ia) (hsd : src ≠ dst) :
    Ends mac net now src dst 1
      ⟨last.ia, 0, .ext (inF cd last), ⟨before, ⟨cd, pr, seg, ts⟩, done, hopOf last.hop, [], []⟩, tr0⟩
      (.delivered dst tr0 ⟨before, ⟨cd, pr, usedAt cd seg last, ts⟩, done, hopOf last.hop, [], []⟩) := by
  subst hdst
  have hing := ingUpd_ext ⟨before, ⟨cd, pr, seg, ts⟩, done, hopOf last.hop, [], []⟩ (inF cd last) false hin0
  rw [usedSeg_eq_lastSeg, usedSeg_hopOf] at hing
  have hstep := routerStep_ext_deliver mac (cfgOf net last.ia) now (inF cd last)
    ⟨before, ⟨cd, pr, seg, ts⟩, done, hopOf last.hop, [], []⟩ false
    (noSingleton_of _ _ _ _ _ _ (hsing.imp id fun hb => ⟨hb, nofun, by
      have := List.length_pos_iff.mpr hdone; simp only [List.length_nil]; omega⟩)) ?_ hin0 rfl rfl hexpl
    (by rw [hing]; exact macOk_of_macAt mac net ts _ last cd pr hml) (ite_self _)
  · rw [hing] at hstep
    exact ends_deliver (by rw [beq_false_of_ne (Ne.symm hsd), beq_self_eq_true]; exact hstep)
  unfold determinePeer
  cases pr with
  | false => rfl
  | true =>
    obtain ⟨b, rfl⟩ := List.length_eq_one_iff.1 (hpr rfl)
    cases done with
    | nil => exact absurd rfl hdone
    | cons _ _ => rfl

section
variable {mac : MacFn} {net : Net} {now src dst : Nat}
variable (hUp : AllUp net) (hSR : SingleRouter net)
include hUp hSR

/-- the link `e → e'` crossed: the packet `c'` the router of `e` sends out arrives at `e'` -/
theorem reach_link {core cd : Bool} {e e' : ASE} {arr : Arrival} {c c' : Cursor} {tr : List (Nat × Nat)}
    (hl : LinkF net core cd e e')
    (hstep : ∀ f, (net e.ia).iface (outF cd e) = some f → outF cd e ≠ 0 → f.up = true → f.owner = 0 →
      EgLT core cd f.lt → routerStep mac (cfgOf net e.ia) now arr (e.ia == src) (e.ia == dst) c = .forward (outF cd e) c') :
    Reach mac net now src dst 1 ⟨e.ia, 0, arr, c, tr⟩
      ⟨e'.ia, 0, .ext (inF cd e'), c', tr ++ [(e.ia, outF cd e), (e'.ia, inF cd e')]⟩ := by
  obtain ⟨f, g, hf, hout, hfn, hfi, hg, _, _, _, hlt, _⟩ := hl
  rw [← hfn, ← hfi] at hg ⊢
  have := reach_ext (tr := tr) (hstep f hf hout (hUp _ _ _ hf) (hSR _ _ _ hf) hlt) hf (hSR _ _ _ hf) hg
  rwa [hSR _ _ _ hg] at this

/-- the source AS: from the host to the arrival at the second AS of the path -/
theorem host_hop {pr core cd : Bool} {ts seg0 : Nat} {e0 e1 : ASE} {l : List Hop} (t0 : Hop) (tl : List Hop)
    {after : List Seg}
    (hsing : pr = true ∨ ∀ s ∈ after, s.hops.length ≠ 1) (hpr : pr = true → after.length = 1)
    (hm : MacAt mac net ts (usedAt cd seg0 e0) e0) (hl : LinkF net core cd e0 e1)
    (hsrc : src = e0.ia) (hsd : src ≠ dst) (hexp0 : expired now ts e0.hop.exp = false) :
    Reach mac net now src dst 1
      ⟨src, 0, .host, ⟨[], ⟨cd, pr, usedAt cd seg0 e0, ts⟩, [], hopOf e0.hop, l ++ t0 :: tl, after⟩, []⟩
      ⟨e1.ia, 0, .ext (inF cd e1),
        mkCur [] ⟨cd, pr, updateSegID seg0 (pfx e0.hop.mac), ts⟩ [hopOf e0.hop] (l ++ t0 :: tl) after,
        [(e0.ia, outF cd e0), (e1.ia, inF cd e1)]⟩ := by
  subst hsrc
  refine reach_link hUp hSR hl fun f hf hout hup hown _ => ?_
  rw [beq_self_eq_true, beq_false_of_ne hsd]
  refine routerStep_host_forward mac (cfgOf net e0.ia) now _ false f _
    (noSingleton_of _ _ _ _ _ _ (hsing.imp id fun ha => ⟨nofun, ha, by simp⟩))
    (determinePeer_transit _ _ _ _ _ _ (fun hp => ⟨by rw [hpr hp]; rfl, fun hne => absurd rfl hne⟩) (by simp))
    rfl ?_ hexp0 (macOk_of_macAt mac net ts _ e0 cd pr hm) (ite_self _) hf hout hup hown ?_
  · show ((l ++ t0 :: tl).isEmpty && !after.isEmpty && !false) = false
    rw [isEmpty_false (by simp)]; rfl
  · rw [egUpd_nopeer]; exact (incPath_mkCur [] _ [] _ _ after (by simp)).trans (by rw [← egSeg_usedAt cd seg0 e0]; rfl)

/-- along a segment: from the arrival at the AS after `prevE` to the arrival at `last` -/
theorem transits_reach {pr core cd : Bool} {ts seg : Nat} {prevE : ASE} {l : List ASE} {last : ASE}
    (hFL : FL mac net core cd ts seg (prevE :: (l ++ [last])))
    (hmid : ∀ e ∈ l, e.ia ≠ src ∧ e.ia ≠ dst ∧ expired now ts e.hop.exp = false)
    {before after : List Seg} {done : List Hop} (t0 : Hop) (tl : List Hop) (tr0 : List (Nat × Nat))
    (hsing : pr = true ∨ ((∀ s ∈ before, s.hops.length ≠ 1) ∧ (∀ s ∈ after, s.hops.length ≠ 1)))
    (hpr : pr = true → before.length + 1 + after.length = 2 ∧ (before ≠ [] → done ≠ []))
    (hdone : done ≠ []) :
    Reach mac net now src dst l.length
      ⟨(firstOf l last).ia, 0, .ext (inF cd (firstOf l last)),
        mkCur before ⟨cd, pr, updateSegID seg (pfx prevE.hop.mac), ts⟩ done
          ((l.map fun e => hopOf e.hop) ++ t0 :: tl) after, tr0⟩
      ⟨last.ia, 0, .ext (inF cd last),
        mkCur before ⟨cd, pr, extractBeta (updateSegID seg (pfx prevE.hop.mac)) (sig l), ts⟩
          (done ++ l.map fun e => hopOf e.hop) (t0 :: tl) after, tr0 ++ fTrace cd l last⟩ := by
  have := reach_transits (fl_transits mac net now src dst pr core cd ts hUp hSR l prevE last seg hFL hmid)
    before after hsing (fun h => (hpr h).1) done t0 tl tr0 (fun h => (hpr h).2)
    (fun _ => by have := List.length_pos_iff.mpr hdone; simp; omega)
  rwa [List.length_map] at this

/-- the AS where two segments meet: from the arrival on the last hop of one segment to the arrival at the
    second AS of the next -/
theorem xover_hop {core1 cd1 : Bool} {ts1 seg1 : Nat} {last1 : ASE} {core2 cd2 : Bool} {ts2 seg20 : Nat}
    {e20 e21 : ASE} {l : List Hop} (t0 : Hop) (tl : List Hop) {before aft : List Seg} {done1 : List Hop}
    (tr0 : List (Nat × Nat))
    (hb : ∀ s ∈ before, s.hops.length ≠ 1) (ha : ∀ s ∈ aft, s.hops.length ≠ 1) (hdone : done1 ≠ [])
    (hml : MacAt mac net ts1 (usedAt cd1 seg1 last1) last1) (hin0 : inF cd1 last1 ≠ 0)
    {g : Iface} (hg : (net last1.ia).iface (inF cd1 last1) = some g) (hglt : InLT core1 cd1 g.lt)
    (hm2 : MacAt mac net ts2 (usedAt cd2 seg20 e20) e20) (hl2 : LinkF net core2 cd2 e20 e21)
    (hjoint : last1.ia = e20.ia) (hls : last1.ia ≠ src) (hld : last1.ia ≠ dst)
    (hexpl : expired now ts1 last1.hop.exp = false) (hexp2 : expired now ts2 e20.hop.exp = false)
    (hxlt : ∀ a b, InLT core1 cd1 a → EgLT core2 cd2 b → ltXover a b = true) :
    Reach mac net now src dst 1
      ⟨last1.ia, 0, .ext (inF cd1 last1),
        ⟨before, ⟨cd1, false, seg1, ts1⟩, done1, hopOf last1.hop, [],
          ⟨⟨cd2, false, usedAt cd2 seg20 e20, ts2⟩, hopOf e20.hop :: (l ++ t0 :: tl)⟩ :: aft⟩, tr0⟩
      ⟨e21.ia, 0, .ext (inF cd2 e21),
        mkCur (before ++ [⟨⟨cd1, false, usedAt cd1 seg1 last1, ts1⟩, done1 ++ [hopOf last1.hop]⟩])
          ⟨cd2, false, updateSegID seg20 (pfx e20.hop.mac), ts2⟩ [hopOf e20.hop] (l ++ t0 :: tl) aft,
        tr0 ++ [(last1.ia, outF cd2 e20), (e21.ia, inF cd2 e21)]⟩ := by
  rw [hjoint] at hg hls hld ⊢
  refine reach_link hUp hSR hl2 fun f hf hout hup hown hflt => ?_
  rw [beq_false_of_ne hls, beq_false_of_ne hld]
  have hing := ingUpd_ext ⟨before, ⟨cd1, false, seg1, ts1⟩, done1, hopOf last1.hop, [],
    ⟨⟨cd2, false, usedAt cd2 seg20 e20, ts2⟩, hopOf e20.hop :: (l ++ t0 :: tl)⟩ :: aft⟩ (inF cd1 last1) false hin0
  refine routerStep_ext_xover mac (cfgOf net e20.ia) now _ _
    ⟨before ++ [⟨⟨cd1, false, usedAt cd1 seg1 last1, ts1⟩, done1 ++ [hopOf last1.hop]⟩],
      ⟨cd2, false, usedAt cd2 seg20 e20, ts2⟩, [], hopOf e20.hop, l ++ t0 :: tl, aft⟩ g f _
    (noSingleton_of _ _ _ _ _ _ (Or.inr ⟨hb, List.forall_mem_cons.2 ⟨by simp, ha⟩, by
      have := List.length_pos_iff.mpr hdone; simp only [List.length_nil]; omega⟩)) rfl hin0 rfl rfl rfl hexpl
    (by rw [hing, usedSeg_eq_lastSeg, usedSeg_hopOf, ← hjoint]; exact macOk_of_macAt mac net ts1 _ last1 cd1 false hml)
    rfl rfl (by rw [hing, usedSeg_eq_lastSeg, usedSeg_hopOf]; rfl) hexp2
    (macOk_of_macAt mac net ts2 _ e20 cd2 false hm2) (ite_self _) hg hf hout hup hown (hxlt _ _ hglt hflt) ?_
  rw [egUpd_nopeer]
  exact (incPath_mkCur _ _ [] _ _ aft (by simp)).trans (by rw [← egSeg_usedAt cd2 seg20 e20]; rfl)

/-- **the first segment of a path up to any of its ASes** (either direction, Peer flag or not): from the host
    to the arrival at the AS of `ek`; the hop field `h'` the packet carries for that AS and everything
    behind it (`tlh`, `after`) are arbitrary -/
theorem prefix_reach {pr core cd : Bool} {ts seg0 : Nat} {e0 : ASE} {m1 : List ASE} {ek : ASE} (h' : Hop)
    (tlh : List Hop) {after : List Seg}
    (hsing : pr = true ∨ ∀ s ∈ after, s.hops.length ≠ 1) (hpr : pr = true → after.length = 1)
    (hFL : FL mac net core cd ts seg0 (e0 :: (m1 ++ [ek])))
    (hsrc : src = e0.ia) (hsd : src ≠ dst)
    (hmid : ∀ e ∈ m1, e.ia ≠ src ∧ e.ia ≠ dst ∧ expired now ts e.hop.exp = false)
    (hexp0 : expired now ts e0.hop.exp = false) :
    Reach mac net now src dst (1 + m1.length)
      ⟨src, 0, .host, ⟨[], ⟨cd, pr, usedAt cd seg0 e0, ts⟩, [], hopOf e0.hop,
        (m1.map fun e => hopOf e.hop) ++ h' :: tlh, after⟩, []⟩
      ⟨ek.ia, 0, .ext (inF cd ek),
        ⟨[], ⟨cd, pr, extractBeta (updateSegID seg0 (pfx e0.hop.mac)) (sig m1), ts⟩,
          hopOf e0.hop :: m1.map (fun e => hopOf e.hop), h', tlh, after⟩,
        (e0.ia, outF cd e0) :: ((firstOf m1 ek).ia, inF cd (firstOf m1 ek)) :: fTrace cd m1 ek⟩ := by
  obtain ⟨hm, hl⟩ := fl_head _ _ _ _ _ _ _ _ _ hFL
  exact (host_hop hUp hSR h' tlh hsing hpr hm hl hsrc hsd hexp0).trans
    (transits_reach hUp hSR hFL hmid h' tlh _ (hsing.imp id fun ha => ⟨nofun, ha⟩)
      (fun h => ⟨by rw [hpr h]; rfl, nofun⟩) (by simp))

/-- across a segment change and along the first part of the next segment: from the arrival at the
    joint AS (last AS `last1` of the segment described by `hFL1` = first AS `e20` of the next one)
    to the arrival at the AS of `ek2` -/
theorem cross_reach {core1 cd1 : Bool} {ts1 seg10 : Nat} {e10 : ASE} {mid1 : List ASE} {last1 : ASE}
    {core2 cd2 : Bool} {ts2 seg20 : Nat} {e20 : ASE} {m2 : List ASE} {ek2 : ASE} (h' : Hop)
    (tlh : List Hop) {before aft : List Seg} {done1 : List Hop} {tr0 : List (Nat × Nat)}
    (hb : ∀ s ∈ before, s.hops.length ≠ 1) (ha : ∀ s ∈ aft, s.hops.length ≠ 1) (hdone : done1 ≠ [])
    (hFL1 : FL mac net core1 cd1 ts1 seg10 (e10 :: (mid1 ++ [last1])))
    (hFL2 : FL mac net core2 cd2 ts2 seg20 (e20 :: (m2 ++ [ek2])))
    (hjoint : last1.ia = e20.ia) (hls : last1.ia ≠ src) (hld : last1.ia ≠ dst)
    (hexpl : expired now ts1 last1.hop.exp = false) (hexp2 : expired now ts2 e20.hop.exp = false)
    (hxlt : ∀ a b, InLT core1 cd1 a → EgLT core2 cd2 b → ltXover a b = true)
    (hmid2 : ∀ e ∈ m2, e.ia ≠ src ∧ e.ia ≠ dst ∧ expired now ts2 e.hop.exp = false) :
    Reach mac net now src dst (1 + m2.length)
      ⟨last1.ia, 0, .ext (inF cd1 last1),
        ⟨before, ⟨cd1, false, extractBeta (updateSegID seg10 (pfx e10.hop.mac)) (sig mid1), ts1⟩, done1,
          hopOf last1.hop, [],
          ⟨⟨cd2, false, usedAt cd2 seg20 e20, ts2⟩,
            hopOf e20.hop :: ((m2.map fun e => hopOf e.hop) ++ h' :: tlh)⟩ :: aft⟩, tr0⟩
      ⟨ek2.ia, 0, .ext (inF cd2 ek2),
        ⟨before ++ [⟨⟨cd1, false, usedAt cd1 (extractBeta (updateSegID seg10 (pfx e10.hop.mac)) (sig mid1))
              last1, ts1⟩, done1 ++ [hopOf last1.hop]⟩],
          ⟨cd2, false, extractBeta (updateSegID seg20 (pfx e20.hop.mac)) (sig m2), ts2⟩,
          hopOf e20.hop :: m2.map (fun e => hopOf e.hop), h', tlh, aft⟩,
        tr0 ++ [(last1.ia, outF cd2 e20), ((firstOf m2 ek2).ia, inF cd2 (firstOf m2 ek2))] ++
          fTrace cd2 m2 ek2⟩ := by
  obtain ⟨hml, hin0, g, hg, hglt⟩ := fl_last mac net core1 cd1 ts1 mid1 e10 last1 seg10 hFL1
  obtain ⟨hm2, hl2⟩ := fl_head mac net core2 cd2 ts2 seg20 e20 m2 ek2 hFL2
  exact (xover_hop hUp hSR h' tlh tr0 hb ha hdone hml hin0 hg hglt hm2 hl2 hjoint hls hld hexpl hexp2 hxlt).trans
    (transits_reach hUp hSR hFL2 hmid2 h' tlh _
      (Or.inr ⟨List.forall_mem_append.2 ⟨hb, by simpa using hdone⟩, ha⟩) nofun (by simp))

/-- **the last segment of a path** (either direction, Peer flag or not): from the arrival at the AS after
    `prevE` to the delivery in the AS of `last` -/
theorem fl_tail_ends (pr : Bool) {core cd : Bool} {ts seg : Nat} {prevE : ASE} {mid : List ASE} {last : ASE}
    (hFL : FL mac net core cd ts seg (prevE :: (mid ++ [last])))
    (hmid : ∀ e ∈ mid, e.ia ≠ src ∧ e.ia ≠ dst ∧ expired now ts e.hop.exp = false)
    (hexpl : expired now ts last.hop.exp = false) (hdst : dst = last.ia) (hsd : src ≠ dst)
    (before : List Seg) (done : List Hop)
    (hsing : pr = true ∨ ∀ s ∈ before, s.hops.length ≠ 1) (hpr : pr = true → before.length = 1)
    (hdone : done ≠ []) (tr0 : List (Nat × Nat)) :
    Ends mac net now src dst (mid.length + 1)
      ⟨(firstOf mid last).ia, 0, .ext (inF cd (firstOf mid last)),
        mkCur before ⟨cd, pr, updateSegID seg (pfx prevE.hop.mac), ts⟩ done
          ((mid.map fun e => hopOf e.hop) ++ [hopOf last.hop]) [], tr0⟩
      (.delivered dst (tr0 ++ fTrace cd mid last)
        ⟨before, ⟨cd, pr, usedAt cd (extractBeta (updateSegID seg (pfx prevE.hop.mac)) (sig mid)) last, ts⟩,
          done ++ mid.map (fun e => hopOf e.hop), hopOf last.hop, [], []⟩) := by
  obtain ⟨hml, hin0, _⟩ := fl_last mac net core cd ts mid prevE last seg hFL
  exact (transits_reach (after := []) hUp hSR hFL hmid _ [] tr0 (hsing.imp id fun hb => ⟨hb, nofun⟩)
      (fun h => ⟨by rw [hpr h]; rfl, fun _ => hdone⟩) hdone).ends
    (last_ends _ hsing hpr (by simp [hdone]) hml hin0 hexpl hdst hsd)

/-- **the rest of the journey** (any number of segments, any directions, no peering): from the
    arrival at the second AS of segment `s` to the delivery in the last AS of the last segment -/
theorem tail_ends (hsd : src ≠ dst) : ∀ (rest : List SegSpec) (s : SegSpec) (before : List Seg)
    (tr0 : List (Nat × Nat)),
    TailOK mac net now src dst s rest → (∀ sg ∈ before, sg.hops.length ≠ 1) →
    Ends mac net now src dst (tailFuel s rest)
      ⟨(firstOf s.mid s.last).ia, 0, .ext (inF s.cd (firstOf s.mid s.last)),
        mkCur before ⟨s.cd, false, updateSegID s.seg0 (pfx s.e0.hop.mac), s.ts⟩ [hopOf s.e0.hop]
          ((s.mid.map fun e => hopOf e.hop) ++ [hopOf s.last.hop]) (rest.map SegSpec.toSeg), tr0⟩
      (.delivered dst (tr0 ++ tailTrace s rest) (finalCur rest before s)) := by
  intro rest
  induction rest with
  | nil =>
    intro s before tr0 hok hb
    obtain ⟨hfl, hmid, hexpl, hdst⟩ := hok
    exact fl_tail_ends hUp hSR false hfl hmid hexpl hdst hsd before _
      (Or.inr hb) nofun (List.cons_ne_nil _ _) tr0
  | cons s2 r ih =>
    intro s before tr0 hok hb
    obtain ⟨hfl, hmid, hexpl, hls, hld, hjoint, hexp2, hxlt, hok2⟩ := hok
    obtain ⟨hml, hin0, g, hg, hglt⟩ := fl_last mac net s.core s.cd s.ts s.mid s.e0 s.last s.seg0 hfl
    obtain ⟨hm2, hl2⟩ := fl_head mac net s2.core s2.cd s2.ts s2.seg0 s2.e0 s2.mid s2.last (tailOK_fl _ _ _ _ _ _ _ hok2)
    have hlens := toSeg_lens (s2 :: r)
    rw [List.map_cons, toSeg_eq] at hlens
    have := ((transits_reach (pr := false) (done := [hopOf s.e0.hop]) hUp hSR hfl hmid (hopOf s.last.hop) [] tr0 (Or.inr ⟨hb, hlens⟩) nofun
        (List.cons_ne_nil _ _)).trans
      (xover_hop hUp hSR (hopOf s2.last.hop) [] _ hb (toSeg_lens r) (List.cons_ne_nil _ _) hml hin0 hg hglt hm2 hl2
        hjoint hls hld hexpl hexp2 hxlt)).ends
      (ih s2 _ _ hok2 (List.forall_mem_append.2 ⟨hb, by simp⟩))
    simp only [List.map_cons, toSeg_eq, tailFuel, tailTrace, finalCur, doneSeg_eq]
    simpa [Nat.add_assoc, SegSpec.arrSeg] using this

end

section
variable (mac : MacFn) (net : Net) (now src dst : Nat)
variable (hUp : AllUp net) (hSR : SingleRouter net)
include hUp hSR

/-- across a segment change and along the first part of the next segment: from the arrival at the
    joint AS (last AS `last1` of the segment described by `hFL1` = first AS `e20` of the next one)
    to the arrival at the AS of `ek2`; the hop field `h'` carried for that AS, the hop fields
    behind it and the segments behind are arbitrary -/
theorem cross_prefix_run (core1 cd1 : Bool) (ts1 seg10 : Nat) (e10 : ASE) (mid1 : List ASE) (last1 : ASE)
    (core2 cd2 : Bool) (ts2 seg20 : Nat) (e20 : ASE) (m2 : List ASE) (ek2 : ASE) (h' : Hop)
    (tlh : List Hop) (before aft : List Seg) (done1 : List Hop)
    (hb : ∀ s ∈ before, s.hops.length ≠ 1) (ha : ∀ s ∈ aft, s.hops.length ≠ 1) (hdone : done1 ≠ [])
    (hFL1 : FL mac net core1 cd1 ts1 seg10 (e10 :: (mid1 ++ [last1])))
    (hFL2 : FL mac net core2 cd2 ts2 seg20 (e20 :: (m2 ++ [ek2])))
    (hjoint : last1.ia = e20.ia) (hls : last1.ia ≠ src) (hld : last1.ia ≠ dst)
    (hexpl : expired now ts1 last1.hop.exp = false) (hexp2 : expired now ts2 e20.hop.exp = false)
    (hxlt : ∀ a b, InLT core1 cd1 a → EgLT core2 cd2 b → ltXover a b = true)
    (hmid2 : ∀ e ∈ m2, e.ia ≠ src ∧ e.ia ≠ dst ∧ expired now ts2 e.hop.exp = false)
    (fuel : Nat) (tr0 : List (Nat × Nat)) :
    run mac net now src dst (fuel + 1 + m2.length) last1.ia 0 (.ext (inF cd1 last1))
        ⟨before, ⟨cd1, false, extractBeta (updateSegID seg10 (pfx e10.hop.mac)) (sig mid1), ts1⟩, done1,
          hopOf last1.hop, [],
          ⟨⟨cd2, false, usedAt cd2 seg20 e20, ts2⟩,
            hopOf e20.hop :: ((m2.map fun e => hopOf e.hop) ++ h' :: tlh)⟩ :: aft⟩ tr0 =
      run mac net now src dst fuel ek2.ia 0 (.ext (inF cd2 ek2))
        ⟨before ++ [⟨⟨cd1, false, usedSeg cd1 (extractBeta (updateSegID seg10 (pfx e10.hop.mac)) (sig mid1))
              (hopOf last1.hop), ts1⟩, done1 ++ [hopOf last1.hop]⟩],
          ⟨cd2, false, extractBeta (updateSegID seg20 (pfx e20.hop.mac)) (sig m2), ts2⟩,
          hopOf e20.hop :: m2.map (fun e => hopOf e.hop), h', tlh, aft⟩
        (tr0 ++ [(last1.ia, outF cd2 e20), ((firstOf m2 ek2).ia, inF cd2 (firstOf m2 ek2))] ++
          fTrace cd2 m2 ek2) := by
  rw [Nat.add_assoc, usedSeg_hopOf]
  exact cross_reach hUp hSR h' tlh hb ha hdone hFL1 hFL2 hjoint hls hld hexpl hexp2 hxlt hmid2 fuel

/-- **the rest of the journey** (any number of segments, any directions, no peering): from the
    arrival at the second AS of segment `s` to the delivery in the last AS of the last segment -/
theorem tail_run (hsd : src ≠ dst) : ∀ (rest : List SegSpec) (s : SegSpec) (before : List Seg)
    (fuel : Nat) (tr0 : List (Nat × Nat)),
    TailOK mac net now src dst s rest → (∀ sg ∈ before, sg.hops.length ≠ 1) →
    run mac net now src dst (fuel + tailFuel s rest) (firstOf s.mid s.last).ia 0
        (.ext (inF s.cd (firstOf s.mid s.last)))
        (mkCur before ⟨s.cd, false, updateSegID s.seg0 (pfx s.e0.hop.mac), s.ts⟩ [hopOf s.e0.hop]
          ((s.mid.map fun e => hopOf e.hop) ++ [hopOf s.last.hop]) (rest.map SegSpec.toSeg)) tr0 =
      .delivered dst (tr0 ++ tailTrace s rest) (finalCur rest before s) :=
  fun rest s before fuel tr0 hok hb => tail_ends hUp hSR hsd rest s before tr0 hok hb fuel

end

/-! ### Whole paths -/

/-- the packet a host sends: cursor on the first hop of the first segment -/
def pathCur (s : SegSpec) (rest : List SegSpec) : Cursor :=
  ⟨[], ⟨s.cd, false, usedAt s.cd s.seg0 s.e0, s.ts⟩, [], hopOf s.e0.hop,
    (s.mid.map fun e => hopOf e.hop) ++ [hopOf s.last.hop], rest.map SegSpec.toSeg⟩

theorem pathCur_eq (s : SegSpec) (rest : List SegSpec) :
    startCursor ((s :: rest).map SegSpec.toSeg) = some (pathCur s rest) := by
  simp [startCursor, SegSpec.toSeg, SegSpec.hops, SegSpec.l, pathCur]

def pathTrace (s : SegSpec) (rest : List SegSpec) : List (Nat × Nat) :=
  (s.e0.ia, outF s.cd s.e0) :: ((firstOf s.mid s.last).ia, inF s.cd (firstOf s.mid s.last)) ::
    tailTrace s rest

def PathOK (mac : MacFn) (net : Net) (now src dst : Nat) (s : SegSpec) (rest : List SegSpec) : Prop :=
  src ≠ dst ∧ src = s.e0.ia ∧ expired now s.ts s.e0.hop.exp = false ∧ TailOK mac net now src dst s rest

section
variable {mac : MacFn} {net : Net} {now src dst : Nat}
variable (hUp : AllUp net) (hSR : SingleRouter net)
include hUp hSR

/-- **C02 at the level of segment descriptions**: a packet sent by a host of `src` over a path of
    any number of segments (no peering) is delivered in `dst`, crossing `pathTrace` -/
theorem specs_ends (s : SegSpec) (rest : List SegSpec) (hok : PathOK mac net now src dst s rest) :
    Ends mac net now src dst (1 + tailFuel s rest) ⟨src, 0, .host, pathCur s rest, []⟩
      (.delivered dst (pathTrace s rest) (finalCur rest [] s)) := by
  obtain ⟨hsd, hsrc, hexp0, htail⟩ := hok
  obtain ⟨hm, hl⟩ := fl_head mac net s.core s.cd s.ts s.seg0 s.e0 s.mid s.last (tailOK_fl mac net now src dst s rest htail)
  exact (host_hop (pr := false) hUp hSR (hopOf s.last.hop) [] (Or.inr (toSeg_lens rest)) nofun hm hl hsrc hsd hexp0).ends
    (tail_ends hUp hSR hsd rest s [] _ htail nofun)

end

theorem nd_facts (x : ASE) (mid : List ASE) (last : ASE)
    (hnd : ((x :: (mid ++ [last])).map (·.ia)).Nodup) :
    x.ia ≠ last.ia ∧ ∀ e ∈ mid, e.ia ≠ x.ia ∧ e.ia ≠ last.ia := by
  simp only [List.map_cons, List.map_append, List.map_nil, List.nodup_cons, List.mem_append,
    List.mem_map, List.mem_cons, List.not_mem_nil, or_false, List.nodup_append] at hnd
  obtain ⟨h1, h2, h3, h4⟩ := hnd
  refine ⟨fun h => h1 (Or.inr h), fun e he => ⟨fun h => h1 (Or.inl ⟨e, he, h⟩), ?_⟩⟩
  intro h
  exact h4 e.ia ⟨e, he, rfl⟩ last.ia (by simp) h

end Scion.Net
